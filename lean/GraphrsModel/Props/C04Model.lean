/-
  C04 (model level) — the model of `dijkstra` / `dijkstra_basic` (Model/Dijkstra.lean: lazy-deletion priority
  loop with the FringeNode order, `seen`, early exit, cutoff, path bookkeeping) computes exactly the shortest
  distances over the traversal lists it is given, for every graph with non-negative costs.
  The file begins with what the theorems are stated over: `Store.idxArcs` (the arcs of the traversal lists),
  `Store.vecWf` (the part of `wf` they need; `C08A.vecWf_of_wf`, Lemmas/C08Sim.lean, derives it from `wf`), their
  link to the invariant of Lemmas/DijkstraInv.lean, membership in `spInfos`, and the two runs `dijkstra_run`,
  `dijkstraBasic_run` from which the `C04_*` theorems are read off.
-/
import GraphrsModel.ObsSP
import GraphrsModel.Props.C04
import GraphrsModel.Lemmas.DijkstraPaths
import GraphrsModel.Lemmas.DijkstraRun
namespace Graphrs

/-- the arcs the algorithm can traverse: one per entry of the successor lists (NaN entries carry none in weighted mode) -/
def Store.idxArcs (s : Store) (weighted : Bool) : Arcs :=
  s.succVec.zipIdx.flatMap fun r =>
    r.1.filterMap fun a => (if weighted then a.2 else some 1).map fun c => (r.2, a.1, c)

/-- the traversal lists are well-formed: one row per node, every listed index is a node -/
def Store.vecWf (s : Store) : Prop :=
  s.succVec.length = s.nodesVec.length ∧ ∀ row ∈ s.succVec, ∀ a ∈ row, a.1 < s.nodesVec.length


theorem Store.vecWf.adj_lt {s : Store} (hwf : s.vecWf) (v : Nat) :
    ∀ a ∈ s.succVec[v]?.getD [], a.1 < s.nodesVec.length := by
  intro a ha
  cases hr : s.succVec[v]? with
  | none => rw [hr] at ha; cases ha
  | some row =>
    rw [hr] at ha
    exact hwf.2 row (List.mem_of_getElem? hr) a ha

theorem idxArcs_eq (s : Store) (weighted : Bool) :
    s.idxArcs weighted = s.succVec.zipIdx.flatMap fun r => rowArcs weighted r.2 r.1 := rfl

theorem idxArcs_rowsOk (s : Store) (weighted : Bool) : RowsOk (s.idxArcs weighted) weighted s.succVec where
  sub := by
    intro v x w h
    rw [idxArcs_eq, List.mem_flatMap] at h
    obtain ⟨⟨row, i⟩, hr, hm⟩ := h
    have e : i = v := (rowArcs_src _ hm).symm
    subst e
    rw [List.mem_zipIdx_iff_getElem?] at hr
    simp only at hr hm
    rw [hr]; exact hm
  sup := by
    intro v a ha
    cases hr : s.succVec[v]? with
    | none => rw [hr] at ha; simp [rowArcs] at ha
    | some row =>
      rw [hr] at ha
      rw [idxArcs_eq, List.mem_flatMap]
      exact ⟨(row, v), List.mem_zipIdx_iff_getElem?.2 hr, ha⟩

theorem idxArcs_wf (s : Store) (weighted : Bool) (hwf : s.vecWf) (hnn : ∀ a ∈ s.idxArcs weighted, 0 ≤ a.2.2) :
    ArcsWf (s.idxArcs weighted) s.nodesVec.length := by
  intro a ha
  refine ⟨?_, hnn a ha⟩
  rw [idxArcs_eq, List.mem_flatMap] at ha
  obtain ⟨⟨row, i⟩, hr, hm⟩ := ha
  have hrow : row ∈ s.succVec := by
    rw [List.mem_zipIdx_iff_getElem?] at hr
    exact List.mem_of_getElem? hr
  simp only [rowArcs, List.mem_filterMap, Option.map_eq_some_iff] at hm
  obtain ⟨adj, hadj, c, _, e⟩ := hm
  rw [← e]
  exact hwf.2 row hrow adj hadj

theorem mem_spInfos (dist : List (Option Int)) (paths : List (List (List Nat))) (wp : Bool) (t : Nat) (i : SPInfo) :
    (t, i) ∈ spInfos dist paths wp ↔
      ∃ d, lk dist t = some d ∧ i = ⟨d, if wp then paths[t]?.getD [] else []⟩ := by
  unfold spInfos
  rw [List.mem_filterMap]
  constructor
  · rintro ⟨⟨o, idx⟩, hm, he⟩
    rw [List.mem_zipIdx_iff_getElem?] at hm
    simp only at hm he
    cases o with
    | none => simp at he
    | some d =>
      simp only [Option.some.injEq, Prod.mk.injEq] at he
      obtain ⟨e1, e2⟩ := he
      subst e1
      exact ⟨d, by simp [lk, hm], e2.symm⟩
  · rintro ⟨d, hd, hi⟩
    refine ⟨(some d, t), ?_, ?_⟩
    · rw [List.mem_zipIdx_iff_getElem?]
      simp only
      unfold lk at hd
      cases h : dist[t]? with
      | none => rw [h] at hd; simp at hd
      | some o => rw [h] at hd; simp at hd; rw [hd]
    · simp only [hi]

theorem spInfos_dist_iff (dist : List (Option Int)) (paths : List (List (List Nat))) (wp : Bool) (t : Nat) (d : Int) :
    (∃ i, (t, i) ∈ spInfos dist paths wp ∧ i.dist = d) ↔ lk dist t = some d := by
  constructor
  · rintro ⟨i, hm, hi⟩
    obtain ⟨d', hd', e⟩ := (mem_spInfos ..).1 hm
    subst e
    simp only at hi
    rw [← hi]; exact hd'
  · intro h
    exact ⟨_, (mem_spInfos ..).2 ⟨d, h, rfl⟩, rfl⟩


/-- the fuel both searches are given covers the initial state: one fringe entry, every row pending -/
theorem init_fuel (s : Store) (n : Nat) (x : FNode) :
    [x].length + pendFrom s.succVec 0 (List.replicate n none) < s.totalAdj + 2 := by
  rw [pendFrom_replicate, Nat.add_comm]
  exact Nat.lt_succ_self _

theorem dijkstra_run (s : Store) (weighted : Bool) (source : Nat) (target : Option Nat) (cutoff2 : Option Int)
    (firstOnly withPaths : Bool) (hwf : s.vecWf) (hsrc : source < s.nodesVec.length)
    (hnn : ∀ a ∈ s.idxArcs weighted, 0 ≤ a.2.2) :
    ∃ (st : DState) (pend : Arcs),
      dijkstraLoop (fun v => s.succVec[v]?.getD []) weighted target cutoff2 firstOnly withPaths (s.totalAdj + 2)
        (DState.start s.numberOfNodes source withPaths) = .ok st ∧
      s.dijkstra weighted source target cutoff2 firstOnly withPaths = .ok (spInfos st.dist st.paths withPaths) ∧
      Inv (s.idxArcs weighted) source s.nodesVec.length cutoff2 pend st.dist st.seen st.fringe ∧
      (target = none → pend = [] ∧ st.fringe = []) ∧
      (withPaths = true → PInvB (s.idxArcs weighted) source st.seen st.paths) := by
  obtain ⟨st, pend, e, I, hfin, hP⟩ := dijkstraLoop_inv (firstOnly := firstOnly) (withPaths := withPaths)
    (target := target) s.succVec (idxArcs_wf s weighted hwf hnn) (idxArcs_rowsOk s weighted) (s.totalAdj + 2)
    (DState.start s.numberOfNodes source withPaths) (Inv.init _ _ _ _ hsrc)
    (fun hp => hp ▸ PInvB.init _ _ _) (init_fuel s _ _)
  refine ⟨st, pend, e, ?_, I, hfin, hP⟩
  rw [dijkstra_eq s weighted target cutoff2 firstOnly withPaths hsrc, e]

/-- with non-negative costs the `ContradictoryPaths` error cannot occur -/
theorem C04_dijkstra_model_no_error (s : Store) (weighted : Bool) (source : Nat) (target : Option Nat) (cutoff2 : Option Int)
    (firstOnly withPaths : Bool) (hwf : s.vecWf) (hsrc : source < s.nodesVec.length)
    (hnn : ∀ a ∈ s.idxArcs weighted, 0 ≤ a.2.2) :
    ∃ out, s.dijkstra weighted source target cutoff2 firstOnly withPaths = .ok out := by
  obtain ⟨st, pend, _, e, _⟩ := dijkstra_run s weighted source target cutoff2 firstOnly withPaths hwf hsrc hnn
  exact ⟨_, e⟩

/-- without a target: exactly the nodes whose shortest distance is within the cutoff are reported, each with that
    distance (provided the source itself is within the cutoff) -/
theorem dijkstra_run_exact (s : Store) (weighted : Bool) (source : Nat) (cutoff2 : Option Int) (firstOnly withPaths : Bool)
    (hwf : s.vecWf) (hsrc : source < s.nodesVec.length) (hnn : ∀ a ∈ s.idxArcs weighted, 0 ≤ a.2.2)
    (h0 : overCutoff cutoff2 0 = false)
    (out : List (Nat × SPInfo)) (h : s.dijkstra weighted source none cutoff2 firstOnly withPaths = .ok out) (t : Nat) (d : Int) :
    (∃ i, (t, i) ∈ out ∧ i.dist = d) ↔ IsDist (s.idxArcs weighted) source t d ∧ overCutoff cutoff2 d = false := by
  obtain ⟨st, pend, _, e, I, hfin, _⟩ := dijkstra_run s weighted source none cutoff2 firstOnly withPaths hwf hsrc hnn
  obtain ⟨rfl, e2⟩ := hfin rfl
  cases e.symm.trans h
  rw [e2] at I
  rw [spInfos_dist_iff]
  exact I.final_exact (idxArcs_wf s weighted hwf hnn) h0 t d

/-- **the full algorithm without target and cutoff reports exactly the reachable nodes, each with its exact shortest distance** -/
theorem C04_dijkstra_model_exact (s : Store) (weighted : Bool) (source : Nat) (firstOnly withPaths : Bool)
    (hwf : s.vecWf) (hsrc : source < s.nodesVec.length) (hnn : ∀ a ∈ s.idxArcs weighted, 0 ≤ a.2.2)
    (out : List (Nat × SPInfo)) (h : s.dijkstra weighted source none none firstOnly withPaths = .ok out) :
    ∀ t d, (∃ i, (t, i) ∈ out ∧ i.dist = d) ↔ IsDist (s.idxArcs weighted) source t d := fun t d =>
  (dijkstra_run_exact s weighted source none firstOnly withPaths hwf hsrc hnn rfl out h t d).trans (and_iff_left rfl)

theorem dijkstraBasic_run (s : Store) (weighted : Bool) (source : Nat)
    (hwf : s.vecWf) (hsrc : source < s.nodesVec.length) (hnn : ∀ a ∈ s.idxArcs weighted, 0 ≤ a.2.2) :
    ∃ st : DState, s.dijkstraBasic weighted source = .ok (spInfos st.dist [] false) ∧
      Inv (s.idxArcs weighted) source s.nodesVec.length none [] st.dist st.seen [] := by
  obtain ⟨I, hfr⟩ := basicLoop_inv (src := source) s.succVec (idxArcs_wf s weighted hwf hnn) (idxArcs_rowsOk s weighted)
    (s.totalAdj + 2) (DState.start s.numberOfNodes source false) (Inv.init _ _ _ _ hsrc) (init_fuel s _ _)
  refine ⟨_, ?_, hfr ▸ I⟩
  rw [Store.dijkstraBasic, if_neg (show ¬ source ≥ s.numberOfNodes from Nat.not_le.2 hsrc)]
  rfl

/-- **the distance-only fast path reports exactly the reachable nodes, each with its exact shortest distance** -/
theorem C04_dijkstraBasic_model_exact (s : Store) (weighted : Bool) (source : Nat)
    (hwf : s.vecWf) (hsrc : source < s.nodesVec.length) (hnn : ∀ a ∈ s.idxArcs weighted, 0 ≤ a.2.2)
    (out : List (Nat × SPInfo)) (h : s.dijkstraBasic weighted source = .ok out) :
    ∀ t d, (∃ i, (t, i) ∈ out ∧ i.dist = d) ↔ IsDist (s.idxArcs weighted) source t d := by
  intro t d
  obtain ⟨st, e, I⟩ := dijkstraBasic_run s weighted source hwf hsrc hnn
  cases e.symm.trans h
  rw [spInfos_dist_iff, I.final_exact (idxArcs_wf s weighted hwf hnn) rfl t d]
  exact and_iff_left rfl

/-- with a non-negative cutoff: exactly the nodes whose shortest distance is within the cutoff, with that distance.
    (`0 ≤ c` is needed: the source is popped and reported with distance 0 before any cutoff test, because the cutoff is
    only tested on `vu_dist` inside the relaxation; `C04_dijkstra_model_cutoff_counterexample`.) -/
theorem C04_dijkstra_model_cutoff_corrected (s : Store) (weighted : Bool) (source : Nat) (c : Int) (firstOnly withPaths : Bool)
    (hwf : s.vecWf) (hsrc : source < s.nodesVec.length) (hnn : ∀ a ∈ s.idxArcs weighted, 0 ≤ a.2.2) (hc : 0 ≤ c)
    (out : List (Nat × SPInfo)) (h : s.dijkstra weighted source none (some c) firstOnly withPaths = .ok out) :
    ∀ t d, (∃ i, (t, i) ∈ out ∧ i.dist = d) ↔ (IsDist (s.idxArcs weighted) source t d ∧ 2 * d ≤ c) :=
  fun t d =>
  (dijkstra_run_exact s weighted source (some c) firstOnly withPaths hwf hsrc hnn
    (decide_eq_false (Int.not_lt.2 hc)) out h t d).trans
    (and_congr_right' (decide_eq_false_iff_not.trans Int.not_lt))

/-- an instance with a negative cutoff (one edge 0 → 1, source 0, doubled cutoff `-1`): the model reports the source
    with distance 0, so "reported iff within the cutoff" fails at `t = source`, `d = 0` -/
theorem C04_dijkstra_model_cutoff_counterexample :
    let sp : Specs := ⟨true, false, false, .keepFirst, .create, .error⟩
    let s := (Store.run sp [Op.addEdge ⟨1, 2, some 1, none⟩]).1
    s.vecWf ∧ 0 < s.nodesVec.length ∧ (∀ a ∈ s.idxArcs true, 0 ≤ a.2.2) ∧
    (s.dijkstra true 0 none (some (-1)) false false).toOption = some [(0, ⟨0, []⟩)] ∧
    ¬ (IsDist (s.idxArcs true) 0 0 0 ∧ 2 * (0 : Int) ≤ -1) := by
  intro sp s
  refine ⟨?_, ?_, ?_, ?_, fun h => absurd h.2 (by decide)⟩
  · unfold Store.vecWf; decide
  · decide
  · decide
  · decide

/-- every returned path is a walk from the source to its node whose cost is the reported distance -/
theorem C04_dijkstra_model_paths_valid (s : Store) (weighted : Bool) (source : Nat) (target : Option Nat) (cutoff2 : Option Int) (firstOnly : Bool)
    (hwf : s.vecWf) (hsrc : source < s.nodesVec.length) (hnn : ∀ a ∈ s.idxArcs weighted, 0 ≤ a.2.2)
    (out : List (Nat × SPInfo)) (h : s.dijkstra weighted source target cutoff2 firstOnly true = .ok out) :
    ∀ t i, (t, i) ∈ out → ∀ p ∈ i.paths, p.head? = some source ∧ p.getLast? = some t ∧
      Arcs.walkCost (s.idxArcs weighted) p = some i.dist := by
  intro t i hm p hp
  obtain ⟨st, pend, _, e, I, _, hP⟩ := dijkstra_run s weighted source target cutoff2 firstOnly true hwf hsrc hnn
  rw [e] at h
  simp only [Outcome.ok.injEq] at h
  subst h
  obtain ⟨d, hd, hi⟩ := (mem_spInfos ..).1 hm
  subst hi
  simp only [if_true] at hp ⊢
  obtain ⟨k, hk, h1, h2, h3⟩ := hP rfl t p hp
  have := I.distSeen t d hd
  rw [hk] at this; cases this
  exact ⟨h1, h2, h3⟩

/-- non-vacuity: a weighted digraph with a tie and a heavier parallel route -/
example :
    let sp : Specs := ⟨true, false, false, .keepFirst, .create, .error⟩
    let s := (Store.run sp [Op.addEdge ⟨1, 2, some 1, none⟩, Op.addEdge ⟨1, 3, some 1, none⟩, Op.addEdge ⟨2, 4, some 1, none⟩,
                            Op.addEdge ⟨3, 4, some 1, none⟩, Op.addEdge ⟨1, 4, some 5, none⟩]).1
    (s.dijkstra true 0 none none false true).toOption.map (fun l => l.map fun p => (p.1, p.2.dist, p.2.paths.length))
      = some [(0, 0, 1), (1, 1, 1), (2, 1, 1), (3, 2, 2)] := by
  decide +kernel

end Graphrs
