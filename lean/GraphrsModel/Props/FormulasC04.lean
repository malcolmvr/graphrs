/-
  Source tie for C04 / C08 (translator `tools/formulas.py`): the relaxation step of `dijkstra` and `dijkstra_basic`, the
  choice between the two searches and the sign convention of the fringe key, re-read from
  src/algorithms/shortest_path/dijkstra.rs on every run (`Generated/FormulasC04.lean`), are the expressions the model uses.
  The model's distances are integers (Model/Dijkstra.lean); the source expressions are typed over ℚ (f64), so each tie goes
  through the cast ℤ → ℚ, which preserves +, <, =.  `relaxFullSrc` / `relaxBasicSrc` restate the model's relaxation with every
  test (cutoff, contradiction, improvement, tie) and the candidate distance inside those tests replaced by the regenerated
  expression; the integer `dv + c` that is stored and the hop cost `some 1` stay the model's (tied to the source by
  `C04_src_relaxDist` and `C04_src_hopCost`); they are proved equal to `relaxFull` / `relaxBasic`.
-/
import GraphrsModel.Generated.FormulasC04
import GraphrsModel.Model.Dijkstra
import Mathlib.Tactic.Ring
import Mathlib.Tactic.NormNum
import Mathlib.Algebra.Order.Field.Rat
import Mathlib.Data.Rat.Cast.Order
namespace Graphrs

theorem C04_src_relaxDist (dv c : Int) : ((dv + c : Int) : Rat) = Src.C04.relaxDist dv c := by
  unfold Src.C04.relaxDist; push_cast; ring

theorem C04_src_relaxDistBasic (dv c : Int) : ((dv + c : Int) : Rat) = Src.C04.relaxDistBasic dv c := by
  unfold Src.C04.relaxDistBasic; push_cast; ring

/-- the model's hop cost `1` is the source's `1.0` in both searches -/
theorem C04_src_hopCost : ((1 : Int) : Rat) = Src.C04.hopCost ∧ ((1 : Int) : Rat) = Src.C04.hopCostBasic := by
  unfold Src.C04.hopCost Src.C04.hopCostBasic; norm_num

/-- the model takes the cutoff doubled (`cutoff2 = 2·cutoff`, so that half-integers can be handed over) -/
theorem C04_src_overCutoff (c2 d : Int) : overCutoff (some c2) d = Src.C04.overCutoff (d : Rat) ((c2 : Rat) / 2) := by
  unfold overCutoff Src.C04.overCutoff
  rw [decide_eq_decide, gt_iff_lt, gt_iff_lt, div_lt_iff₀ two_pos, mul_comm (d : Rat), ← Int.cast_ofNat (R := Rat),
    ← Int.cast_mul, Int.cast_lt]

theorem cast_lt_decide (a b : Int) : decide (a < b) = decide ((a : Rat) < (b : Rat)) := by
  rw [decide_eq_decide]; exact Int.cast_lt.symm

theorem C04_src_contradictory (vu du : Int) : decide (vu < du) = Src.C04.contradictory (vu : Rat) (du : Rat) :=
  cast_lt_decide vu du

theorem C04_src_improves (vu su : Int) : decide (vu < su) = Src.C04.improves (vu : Rat) (su : Rat) :=
  cast_lt_decide vu su

theorem C04_src_improvesBasic (vu su : Int) : decide (vu < su) = Src.C04.improvesBasic (vu : Rat) (su : Rat) :=
  cast_lt_decide vu su

theorem C04_src_tieBasic (vu su : Int) : (some su == some vu) = Src.C04.tieBasic (vu : Rat) (su : Rat) := by
  unfold Src.C04.tieBasic
  rw [Bool.eq_iff_iff]
  simp only [beq_iff_eq, Option.some.injEq, decide_eq_true_eq, Int.cast_inj]
  exact eq_comm

theorem C04_src_tie (firstOnly : Bool) (vu su : Int) :
    (!firstOnly && (some su == some vu)) = Src.C04.tie firstOnly (vu : Rat) (su : Rat) :=
  congrArg (!firstOnly && ·) (C04_src_tieBasic vu su)

theorem C04_src_canUseBasic (target : Option Nat) (cutoff2 : Option Int) (firstOnly withPaths : Bool) :
    canUseBasic target cutoff2 firstOnly withPaths = Src.C04.canUseBasic target.isNone cutoff2.isNone firstOnly withPaths := by
  unfold canUseBasic Src.C04.canUseBasic
  cases firstOnly <;> cases withPaths <;> simp

/-- the fringe stores `-vu_dist` and the loop reads `-fringe_item.distance`: negating twice gives `vu_dist` back, which
    is why the model's fringe key (`FNode.1`) is `vu_dist` itself; no model term occurs in the statement -/
theorem C04_src_fringe_key (vu : Rat) :
    Src.C04.popDistance (Src.C04.pushDistance vu) = vu ∧ Src.C04.popDistanceBasic (Src.C04.pushDistance vu) = vu := by
  unfold Src.C04.popDistance Src.C04.popDistanceBasic Src.C04.pushDistance; simp

/-- `relaxFull` with every test, and the candidate distance inside it, taken from the source -/
def relaxFullSrc (weighted : Bool) (cutoff : Option Rat) (firstOnly withPaths : Bool) (v : Nat) (dv : Int)
    (st : DState) (adj : Adj) : Except ErrKind DState :=
  let u := adj.1
  let cost : Option Int := if weighted then adj.2 else some 1
  match cost with
  | none => .ok st
  | some c =>
    let vu := dv + c
    if (match cutoff with | none => false | some cu => Src.C04.overCutoff (Src.C04.relaxDist dv c) cu) then .ok st
    else
      match st.dist[u]?.join with
      | some du => if Src.C04.contradictory (Src.C04.relaxDist dv c) du then .error .ContradictoryPaths else .ok st
      | none =>
        let seenU := st.seen[u]?.join
        let lt := match seenU with | none => true | some su => Src.C04.improves (Src.C04.relaxDist dv c) su
        if lt then
          let st := { st with seen := st.seen.set u (some vu), count := st.count + 1,
                              fringe := (vu, st.count + 1, u) :: st.fringe }
          if withPaths then
            let pv := (st.paths[v]?.getD []).map (· ++ [u])
            .ok { st with paths := st.paths.set u pv }
          else .ok st
        else if (match seenU with | none => false | some su => Src.C04.tie firstOnly (Src.C04.relaxDist dv c) su) then
          let st := { st with count := st.count + 1, fringe := (vu, st.count + 1, u) :: st.fringe }
          if withPaths then
            let pv := (st.paths[v]?.getD []).map (· ++ [u])
            .ok { st with paths := st.paths.set u ((st.paths[u]?.getD []) ++ pv) }
          else .ok st
        else .ok st

/-- **the model's relaxation step is the source's**: same sum, same cutoff test, same contradiction test, same improvement
    and tie tests (the cutoff handed to the model doubled) -/
theorem C04_src_relaxFull (weighted : Bool) (cutoff2 : Option Int) (firstOnly withPaths : Bool) (v : Nat) (dv : Int)
    (st : DState) (adj : Adj) :
    relaxFull weighted cutoff2 firstOnly withPaths v dv st adj
      = relaxFullSrc weighted (cutoff2.map fun (c2 : Int) => (c2 : Rat) / 2) firstOnly withPaths v dv st adj := by
  unfold relaxFull relaxFullSrc
  cases (if weighted then adj.2 else some 1 : Option Int) with
  | none => rfl
  | some c =>
    -- rewrite each source test back into the model's; what is left differs only in how the matches on `seen[u]` and
    -- `firstOnly` are nested
    simp only [Src.C04.relaxDist, ← Int.cast_add, ← C04_src_contradictory, ← C04_src_improves, ← C04_src_tie,
      decide_eq_true_eq]
    cases cutoff2 with
    | none => cases st.seen[adj.1]?.join <;> cases firstOnly <;> rfl
    | some c2 =>
      simp only [Option.map_some, ← C04_src_overCutoff]
      cases st.seen[adj.1]?.join <;> cases firstOnly <;> rfl

/-- `relaxBasic` with every test, and the candidate distance inside it, taken from the source -/
def relaxBasicSrc (weighted : Bool) (dv : Int) (st : DState) (adj : Adj) : DState :=
  let u := adj.1
  let cost : Option Int := if weighted then adj.2 else some 1
  match cost with
  | none => st
  | some c =>
    let vu := dv + c
    let seenU := st.seen[u]?.join
    let lt := match seenU with | none => true | some su => Src.C04.improvesBasic (Src.C04.relaxDistBasic dv c) su
    if lt then
      { st with seen := st.seen.set u (some vu), count := st.count + 1, fringe := (vu, st.count + 1, u) :: st.fringe }
    else if (match seenU with | none => false | some su => Src.C04.tieBasic (Src.C04.relaxDistBasic dv c) su) then
      { st with count := st.count + 1, fringe := (vu, st.count + 1, u) :: st.fringe }
    else st

theorem C04_src_relaxBasic (weighted : Bool) (dv : Int) (st : DState) (adj : Adj) :
    relaxBasic weighted dv st adj = relaxBasicSrc weighted dv st adj := by
  unfold relaxBasic relaxBasicSrc
  cases (if weighted then adj.2 else some 1 : Option Int) with
  | none => rfl
  | some c =>
    simp only [Src.C04.relaxDistBasic, ← Int.cast_add, ← C04_src_improvesBasic, ← C04_src_tieBasic]
    cases st.seen[adj.1]?.join <;> rfl

end Graphrs
