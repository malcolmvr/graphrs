/-
  C10 (model level) — on every store satisfying the coupling invariant the models of `connected_components`,
  `number_of_connected_components`, `node_connected_component`, `weakly_connected_components` and
  `strongly_connected_components` return *the* partition of the nodes by the right reachability relation.

  The strong-components model is run against the invariant of Lemmas/C10SccInv.lean; the fuel `4n+4` it gives each
  source is at least the measure `Scc.mu` at that moment, `2n+1` at most (`Scc.sources_ok`).
-/
import GraphrsModel.Props.Core
import GraphrsModel.Props.C10
import GraphrsModel.Lemmas.C10Comp
import GraphrsModel.Lemmas.C10SccRun
namespace Graphrs

/-- the neighbour function of the abstract graph used by BFS: successors on a directed graph, neighbours otherwise -/
def Store.nbAbs (s : Store) (x : Nat) : List Nat := if s.specs.directed then s.abs.succ true x else s.abs.nbrs false x

open C02 C10M

theorem mem_nbAbs (s : Store) (a b : Nat) : b ∈ s.nbAbs a ↔ s.hasEdge a b = true := by
  unfold Store.nbAbs
  cases hd : s.specs.directed
  · rw [if_neg Bool.false_ne_true, Abs.nbrs, mem_dedup, List.mem_append, ← hd, mem_abs_succ, mem_abs_pred, hd]
    exact ⟨fun h => h.elim id fun h => (nomatch h.1), Or.inl⟩
  · have := mem_abs_succ s a b
    rw [hd] at this
    rw [if_pos rfl, this]

private theorem nbAbs_closed (s : Store) (h : s.wf = true) {y z : Nat} (hz : z ∈ s.nbAbs y) :
    y ∈ s.getAllNodeNames ∧ z ∈ s.getAllNodeNames :=
  s.hasEdge_names h ((mem_nbAbs s y z).1 hz)

private theorem succOrNbrs_ok (s : Store) (h : s.wf = true) (y : Nat) (hy : y ∈ s.getAllNodeNames) :
    ∃ l, s.getSuccessorsOrNeighbors y = .ok l ∧ (∀ z, z ∈ l.map (·.name) ↔ z ∈ s.nbAbs y) ∧
      (∀ z ∈ s.nbAbs y, z ∈ s.getAllNodeNames) := by
  have hy' : s.hasNode y = true := (s.hasNode_names h y).2 hy
  have hcl : ∀ z ∈ s.nbAbs y, z ∈ s.getAllNodeNames := fun z hz => (nbAbs_closed s h hz).2
  cases hd : s.specs.directed
  · obtain ⟨l, hl, hm, _⟩ := C02_neighborNodes s h y hy'
    refine ⟨l, ?_, ?_, hcl⟩
    · simp [Store.getSuccessorsOrNeighbors, hd, hl, Outcome.unwrap]
    · intro z
      rw [hm z, hd]
      simp [Store.nbAbs, hd]
  · obtain ⟨l, hl, hm, _⟩ := C02_successorNodes s h hd y hy'
    refine ⟨l, ?_, ?_, hcl⟩
    · simp [Store.getSuccessorsOrNeighbors, hd, hl, Outcome.unwrap]
    · intro z
      rw [hm z]
      simp [Store.nbAbs, hd]

private theorem bfs_total_wf (s : Store) (h : s.wf = true) :
    ∀ v ∈ s.getAllNodeNames, ∃ out, s.breadthFirstSearch v = .ok out :=
  bfs_total s fun v hv =>
    let ⟨l, hl, hm, hc⟩ := succOrNbrs_ok s h v hv
    ⟨l, hl, fun z hz => hc z ((hm z).1 hz)⟩

/-- `breadth_first_search` of the model on a well-formed store: C10_bfs_correct instantiated with C02 -/
theorem C10_model_bfs (s : Store) (h : s.wf = true) (x : Nat) (hx : s.hasNode x = true) (out : List Nat)
    (hb : s.breadthFirstSearch x = .ok out) :
    out.head? = some x ∧ out.Nodup ∧ ∀ y, y ∈ out ↔ ReachR s.nbAbs x y :=
  C10_bfs_correct s s.nbAbs x out (s.names_nodup h) ((s.hasNode_names h x).1 hx) (succOrNbrs_ok s h) hb

private theorem hasEdge_symm (s : Store) (hd : s.specs.directed = false) {x y : Nat} (hxy : s.hasEdge x y = true) :
    s.hasEdge y x = true := by
  rw [hasEdge_iff] at hxy ⊢
  obtain ⟨e, he, hj⟩ := hxy
  refine ⟨e, he, ?_⟩
  rw [hd] at hj ⊢
  simp only [Abs.sameKey, Bool.not_false, Bool.true_and, Bool.or_eq_true, Bool.and_eq_true, beq_iff_eq] at hj ⊢
  exact hj.symm

private theorem bfs_class (s : Store) (h : s.wf = true) (v : Nat) (hv : v ∈ s.getAllNodeNames) :
    ∃ out, s.breadthFirstSearch v = .ok out ∧ (dedup out).Nodup ∧ ∀ y, y ∈ dedup out ↔ ReachR s.nbAbs v y := by
  obtain ⟨out, hout⟩ := bfs_total_wf s h v hv
  obtain ⟨_, _, hm⟩ := C10_model_bfs s h v ((s.hasNode_names h v).2 hv) out hout
  exact ⟨out, hout, nodup_dedup _, fun y => by rw [mem_dedup]; exact hm y⟩

private theorem cc_partition (s : Store) (h : s.wf = true) (hd : s.specs.directed = false) :
    ∃ comps, s.connectedComponents = .ok comps ∧
    (∀ c ∈ comps, c ≠ []) ∧ (comps.flatMap id).Nodup ∧ (∀ x, x ∈ comps.flatMap id ↔ x ∈ s.getAllNodeNames) ∧
    (∀ c ∈ comps, ∀ x ∈ c, ∀ y, y ∈ c ↔ ReachR s.nbAbs x y) :=
  ⟨_, connectedComponents_eq s hd (bfs_total_wf s h),
    reachFold_partition s.getAllNodeNames s.nbAbs _
      (fun x y hy => (mem_nbAbs s y x).2 (hasEdge_symm s hd ((mem_nbAbs s x y).1 hy)))
      (fun _ _ _ hb => (nbAbs_closed s h hb).2)
      (fun v hv => by
        obtain ⟨out, hout, hc⟩ := bfs_class s h v hv
        rw [bfsOf_eq s v out hout]
        exact hc)⟩

/-- **connected_components** (undirected): non-empty, pairwise disjoint, covering every node once; two nodes share a set iff connected -/
theorem C10_model_connected_components (s : Store) (h : s.wf = true) (hd : s.specs.directed = false) (comps : List (List Nat))
    (hc : s.connectedComponents = .ok comps) :
    (∀ c ∈ comps, c ≠ []) ∧ (comps.flatMap id).Nodup ∧ (∀ x, x ∈ comps.flatMap id ↔ x ∈ s.getAllNodeNames) ∧
    (∀ c ∈ comps, ∀ x ∈ c, ∀ y, y ∈ c ↔ ReachR s.nbAbs x y) := by
  obtain ⟨comps', hc', hp⟩ := cc_partition s h hd
  cases hc.symm.trans hc'
  exact hp

theorem C10_model_number_and_node_component (s : Store) (h : s.wf = true) (hd : s.specs.directed = false) (x : Nat) (hx : s.hasNode x = true) :
    (∃ comps, s.connectedComponents = .ok comps ∧ s.numberOfConnectedComponents = .ok comps.length) ∧
    (∃ c, s.nodeConnectedComponent x = .ok c ∧ c.Nodup ∧ ∀ y, y ∈ c ↔ ReachR s.nbAbs x y) := by
  constructor
  · obtain ⟨comps, hc, _⟩ := cc_partition s h hd
    refine ⟨comps, hc, ?_⟩
    simp [Store.numberOfConnectedComponents, hc, bind, Outcome.bind]
  · obtain ⟨out, hout, hc⟩ := bfs_class s h x ((s.hasNode_names h x).1 hx)
    refine ⟨dedup out, ?_, hc⟩
    simp [Store.nodeConnectedComponent, Store.ensureUndirected, hd, hx, hout, bind, Outcome.bind]

/-- **weakly_connected_components** (directed): the partition by connectivity ignoring direction -/
theorem C10_model_weak_components (s : Store) (h : s.wf = true) (hd : s.specs.directed = true) (comps : List (List Nat))
    (hc : s.weaklyConnectedComponents = .ok comps) :
    (∀ c ∈ comps, c ≠ []) ∧ (comps.flatMap id).Nodup ∧ (∀ x, x ∈ comps.flatMap id ↔ x ∈ s.getAllNodeNames) ∧
    (∀ c ∈ comps, ∀ x ∈ c, ∀ y, y ∈ c ↔ ReachR (fun z => s.abs.succ true z ++ s.abs.pred true z) x y) := by
  rw [weaklyConnectedComponents_eq s hd] at hc
  cases hc
  -- both neighbour functions, the model's and the abstract one, list the ends of the edges at `a`, either direction
  have hmem : ∀ a b, b ∈ s.abs.succ true a ++ s.abs.pred true a ↔ s.hasEdge a b = true ∨ s.hasEdge b a = true := by
    intro a b
    rw [List.mem_append, ← hd, mem_abs_succ, mem_abs_pred, hd]
    exact or_congr_right ⟨fun h => h.2, fun h => ⟨rfl, h⟩⟩
  have hnb : ∀ v z, z ∈ wnb s v ↔ z ∈ s.abs.succ true v ++ s.abs.pred true v := by
    intro v z
    have := C02_maps s h v z
    rw [hd] at this
    rw [wnb, List.mem_append, List.mem_append, this.1, this.2]
  have hcl : ∀ a ∈ s.getAllNodeNames, ∀ b ∈ s.abs.succ true a ++ s.abs.pred true a, b ∈ s.getAllNodeNames :=
    fun a _ b hb => ((hmem a b).1 hb).elim (fun e => (s.hasEdge_names h e).2) fun e => (s.hasEdge_names h e).1
  exact reachFold_partition s.getAllNodeNames _ _ (fun x y hy => (hmem y x).2 ((hmem x y).1 hy).symm) hcl
    fun v hv => ⟨nodup_dedup _, fun y => by
      rw [mem_dedup]
      exact plainBfs_correct s _ v hnb
        (fun w hw => ReachR.closed (P := (· ∈ s.getAllNodeNames)) (fun a b ha hb => hcl a ha b hb) hv hw) y⟩

/-- the successor function the strong-components model reads -/
private def sccNb (s : Store) : Nat → List Nat := fun v => (alookup s.succ v).getD []

private theorem sccNb_closed (s : Store) (h : s.wf = true) :
    ∀ x ∈ s.getAllNodeNames, ∀ w ∈ sccNb s x, w ∈ s.getAllNodeNames := by
  intro x _ w hw
  exact (succ_names s h ((C02_maps s h x w).1.1 hw)).2

/-- the shape of the model: a fold of runs over the node names -/
private theorem scc_shape (s : Store) (hd : s.specs.directed = true) :
    ∃ G : Option Store.SccState → Nat → Option Store.SccState,
      (∀ st src, G (some st) src =
        if st.sccFound.contains src then some st else Store.sccRun (sccNb s) (4 * s.numNodes + 4) st [src]) ∧
      s.stronglyConnectedComponents =
        (match s.getAllNodeNames.foldl G (some {}) with
         | some st => .ok st.components
         | none => .panic "strongly_connected_components: unwrap") := by
  refine ⟨fun acc src => match acc with
      | none => none
      | some st => if st.sccFound.contains src then some st else Store.sccRun (sccNb s) (4 * s.numNodes + 4) st [src],
    fun _ _ => rfl, ?_⟩
  unfold Store.stronglyConnectedComponents Store.ensureDirected
  rw [hd]
  rfl

private theorem scc_final (s : Store) (h : s.wf = true) (hd : s.specs.directed = true) :
    ∃ st, s.stronglyConnectedComponents = .ok st.components ∧
      Scc.CInv s.getAllNodeNames (sccNb s) st [] ∧ ∀ x ∈ s.getAllNodeNames, x ∈ st.sccFound := by
  obtain ⟨G, hG, heq⟩ := scc_shape s hd
  have hfuel : 2 * s.getAllNodeNames.length + 1 ≤ 4 * s.numNodes + 4 := by
    simp only [Store.getAllNodeNames, Store.numNodes, List.length_map]
    omega
  obtain ⟨st, hf, hinv, _, hfound⟩ := Scc.sources_ok (sccNb_closed s h) (4 * s.numNodes + 4) hfuel G hG
    s.getAllNodeNames (fun x hx => hx) {} (Scc.CInv.init _ _)
  refine ⟨st, ?_, hinv, hfound⟩
  rw [heq, hf]

/-- **strongly_connected_components** (directed): the partition by mutual reachability - for every iteration order the model uses -/
theorem C10_model_strong_components (s : Store) (h : s.wf = true) (hd : s.specs.directed = true) (comps : List (List Nat))
    (hc : s.stronglyConnectedComponents = .ok comps) :
    (∀ c ∈ comps, c ≠ []) ∧ (comps.flatMap id).Nodup ∧ (∀ x, x ∈ comps.flatMap id ↔ x ∈ s.getAllNodeNames) ∧
    (∀ c ∈ comps, ∀ x ∈ c, ∀ y, y ∈ c ↔ (ReachR (s.abs.succ true) x y ∧ ReachR (s.abs.succ true) y x)) := by
  obtain ⟨st, heq, hinv, hfound⟩ := scc_final s h hd
  rw [hc] at heq
  cases heq
  have hnb : ∀ x y, y ∈ sccNb s x ↔ y ∈ s.abs.succ true x := by
    intro x y
    have := (C02_maps s h x y).1
    rw [hd] at this
    exact this
  have hreach : ∀ x y, ReachR (sccNb s) x y ↔ ReachR (s.abs.succ true) x y := fun x y =>
    ⟨ReachR.mono (fun a b hb => (hnb a b).1 hb), ReachR.mono (fun a b hb => (hnb a b).2 hb)⟩
  refine ⟨hinv.a.compsNe, hinv.a.compsNodup, ?_, ?_⟩
  · intro x
    rw [← hinv.a.compsF x]
    exact ⟨fun hx => hinv.a.visV x (hinv.a.fVis x hx), hfound x⟩
  · intro c hcm x hx y
    rw [hinv.a.compsClass c hcm x hx y]
    unfold Scc.SC
    rw [hreach, hreach]

/-- the strong-components model never reaches a panic site (every `unwrap` on preorder / lowlink succeeds) -/
theorem C10_model_strong_no_panic (s : Store) (h : s.wf = true) : s.stronglyConnectedComponents.isPanic = false := by
  cases hd : s.specs.directed
  · unfold Store.stronglyConnectedComponents Store.ensureDirected
    rw [hd]
    rfl
  · obtain ⟨st, heq, _⟩ := scc_final s h hd
    rw [heq]
    rfl

/-- non-vacuity: a directed store satisfying the invariant, with its strong and weak components -/
example :
    let s := (Store.run ⟨true, false, true, .error, .create, .error⟩
      [Op.addEdgeTuple 1 2, Op.addEdgeTuple 2 1, Op.addEdgeTuple 2 3, Op.addEdgeTuple 3 4, Op.addEdgeTuple 4 3,
       Op.addEdgeTuple 5 1]).1
    s.wf = true ∧ s.stronglyConnectedComponents.toOption = some [[3, 4], [1, 2], [5]] ∧
    s.weaklyConnectedComponents.toOption = some [[1, 2, 5, 3, 4]] := by
  decide +kernel


/-- non-vacuity for `C10_bfs_ordered_correct`, and the difference the F24 repair makes: on the same store the ordered search
    visits each level in name order, while the search that takes a level in the order it was collected (the code before
    the repair, with this insertion order standing for one particular hash order) returns another list of the same nodes -/
example :
    let s := (Store.run ⟨false, false, false, .error, .create, .error⟩
      [Op.addEdgeTuple 1 9, Op.addEdgeTuple 1 4, Op.addEdgeTuple 1 7, Op.addEdgeTuple 4 2, Op.addEdgeTuple 9 3]).1
    s.wf = true ∧ (s.breadthFirstSearchOrdered 1).toOption = some [1, 4, 7, 9, 2, 3] ∧
    (s.breadthFirstSearch 1).toOption = some [1, 9, 4, 7, 3, 2] := by
  decide +kernel

end Graphrs
