/-
  C05 (model level) — Brandes' algorithm as modelled from src/algorithms/centrality/betweenness.rs equals the
  definition of betweenness centrality (`bcSpec`: enumeration of all shortest paths).

  The stages (invariants and bridge in Lemmas/Bc*.lean; the assembly over sources, the name index of the store and the
  unfolding of `bcSpec` are proved in this file):
  - the single-source stage computes S (reachable nodes in non-decreasing distance), P (tight predecessors) and sigma
    (number of shortest paths; twice that number after `dijkstra`): `C05_bfs_stage`, `C05_dijkstra_stage`;
  - the accumulation computes Brandes' dependencies: `C05_accumulate_stage`;
  - the dependency is the sum over targets of the fraction of enumerated shortest paths through the node:
    `C05_dependency_stage`;
  - summing over sources, rescaling and translating positions to names gives the definition:
    `C05_model_eq_spec_unweighted_corrected`, `C05_model_eq_spec_weighted` (assuming traversal rows without repeated
    neighbours and, weighted, positive weights), and for every GraphSpecs record and every history of API calls
    `C05_model_eq_spec_unweighted_reachable`, `C05_model_eq_spec_weighted_reachable`, `C05_full_statement_reachable`.
  On `Store.wf` alone the equality fails: `C05_model_eq_spec_unweighted_counterexample` is a well-formed record with a
  repeated traversal entry on which model and definition differ.
  `C05_spec_enumerates_shortest_paths`: with hop counts, `tightPaths` lists every shortest path exactly once.
-/
import GraphrsModel.Props.Core
import GraphrsModel.Props.C04Model
import GraphrsModel.Props.C04Paths
import GraphrsModel.Props.C05
import GraphrsModel.Lemmas.BcBridge
import GraphrsModel.Lemmas.C09ModelAux
import GraphrsModel.Lemmas.BcRows
import GraphrsModel.Lemmas.BcPaths
import GraphrsModel.Lemmas.BcDijkstra
import GraphrsModel.Lemmas.BcRowsW
import GraphrsModel.Lemmas.C06Transfer
namespace Graphrs

/-- unit-cost arcs of a traversal list -/
def bcUnitArcs (adjOf : Nat → List Adj) (n : Nat) : Arcs :=
  (List.range n).flatMap fun v => (adjOf v).map fun a => (v, a.1, (1 : Int))

/-- the number of shortest source→t paths (as node sequences), by the specification's own enumeration -/
def sigmaSpec (arcs : Arcs) (n source t : Nat) : Nat :=
  (Arcs.tightPaths arcs (Arcs.distFrom arcs n source) source n t).length

theorem bcUnitArcs_arcsOfC (adjOf : Nat → List Adj) (n : Nat) : Bc.ArcsOfC adjOf n (fun _ => 1) (bcUnitArcs adjOf n) :=
  Bc.arcsOfC_flatMap adjOf n fun _ => 1

theorem bcBfs_ssOut (adjOf : Nat → List Adj) (n source : Nat) (hsrc : source < n)
    (hidx : ∀ v, v < n → ∀ a ∈ adjOf v, a.1 < n)
    (hnd : ∀ v, v < n → (((adjOf v).map (fun a => a.1)).filter (fun j => j != v)).Nodup) :
    ∃ D, Bc.SsOut adjOf n source (fun _ => 1) 1 (bcUnitArcs adjOf n) D (bcBfs adjOf n source) := by
  have hA := bcUnitArcs_arcsOfC adjOf n
  exact Bc.bcBfs_out hA hsrc hidx hnd

theorem bcUnitArcs_ren_id (adjOf : Nat → List Adj) (n : Nat) (hidx : ∀ v, v < n → ∀ a ∈ adjOf v, a.1 < n) :
    Bc.Ren n (bcUnitArcs adjOf n) (bcUnitArcs adjOf n) id :=
  Bc.Ren.refl (bcUnitArcs_arcsOfC adjOf n) hidx ((bcUnitArcs_arcsOfC adjOf n).pos fun _ _ _ _ => Int.one_pos)

/-- **the single-source stage, hop counts**: S lists exactly the reachable nodes, each once, in non-decreasing distance; P[w] is exactly the set of
    tight predecessors of w; sigma[w] is the number of shortest paths from the source to w -/
theorem C05_bfs_stage (adjOf : Nat → List Adj) (n source : Nat) (hsrc : source < n)
    (hidx : ∀ v, v < n → ∀ a ∈ adjOf v, a.1 < n)
    (hnd : ∀ v, v < n → (((adjOf v).map (fun a => a.1)).filter (fun j => j != v)).Nodup) :
    let r := bcBfs adjOf n source
    let arcs := bcUnitArcs adjOf n
    r.S.Nodup ∧ (∀ v, v ∈ r.S ↔ Reachable arcs source v) ∧
    (∀ (i j : Nat) (di dj : Int), i < j → (∃ x, r.S[i]? = some x ∧ IsDist arcs source x di) → (∃ y, r.S[j]? = some y ∧ IsDist arcs source y dj) → di ≤ dj) ∧
    (∀ w ∈ r.S, ∀ v, v ∈ (r.P[w]?.getD []) ↔ (∃ dv dw, IsDist arcs source v dv ∧ IsDist arcs source w dw ∧ dv + 1 = dw ∧ (v, w, 1) ∈ arcs)) ∧
    (∀ w ∈ r.S, r.sigma[w]? = some ((sigmaSpec arcs n source w : Nat) : Rat)) := by
  intro r arcs
  obtain ⟨D, out⟩ := bcBfs_ssOut adjOf n source hsrc hidx hnd
  obtain ⟨h1, h2, h3, h4, h5⟩ := out.stage_facts (bcUnitArcs_ren_id adjOf n hidx) hsrc
  refine ⟨h1, h2, h3, fun w hw v => (h4 w hw v).trans ⟨?_, ?_⟩, fun w hw => ?_⟩
  · rintro ⟨dv, dw, c, hdv, hdw, e, harc⟩
    cases (bcUnitArcs_arcsOfC adjOf n).unit _ harc
    exact ⟨dv, dw, hdv, hdw, e, harc⟩
  · rintro ⟨dv, dw, hdv, hdw, e, harc⟩
    exact ⟨dv, dw, 1, hdv, hdw, e, harc⟩
  · rw [h5 w hw, one_mul]; rfl

/-- **the accumulation**: with `r = bfs(source)`, `accumulate` adds to `bc[x]`, for every reachable `x ≠ source`, the dependency `δ x`,
    where `δ` solves Brandes' recursion  δ(v) = Σ_{w ∈ S, v ∈ P[w]} sigma(v)/sigma(w) · (1 + δ(w)) -/
theorem C05_accumulate_stage (adjOf : Nat → List Adj) (n source : Nat) (hsrc : source < n)
    (hidx : ∀ v, v < n → ∀ a ∈ adjOf v, a.1 < n)
    (hnd : ∀ v, v < n → (((adjOf v).map (fun a => a.1)).filter (fun j => j != v)).Nodup)
    (bc : List Rat) (hbc : bc.length = n) :
    let r := bcBfs adjOf n source
    ∃ δ : Nat → Rat,
      (∀ v, δ v = (r.S.map fun w =>
        if v ∈ r.P[w]?.getD [] then getD0 r.sigma v / getD0 r.sigma w * (1 + δ w) else 0).sum) ∧
      (accumulate bc r).length = n ∧
      ∀ x, x < n → getD0 (accumulate bc r) x = getD0 bc x + if x ∈ r.S ∧ x ≠ source then δ x else 0 := by
  intro r
  obtain ⟨D, out⟩ := bcBfs_ssOut adjOf n source hsrc hidx hnd
  have hL := out.leveled
  refine ⟨Bc.dlt (Bc.gP r.P) (getD0 r.sigma) r.S, ?_, ?_⟩
  · intro v
    rw [hL.dlt_rec v]
    apply Bc.sum_map_congr
    intro w _
    show (if v ∈ Bc.gP r.P w then _ else _) = if v ∈ Bc.gP r.P w then _ else _
    split
    · ring
    · rfl
  · refine ⟨(out.adds_bcAdd bc hbc).1, fun x hx => ?_⟩
    rw [(out.adds_bcAdd bc hbc).2 x hx, hL.bcAdd_eq]

/-- **the dependency identity**: the dependency of the source on `x` is the sum, over the targets `t`, of the fraction of the enumerated
    shortest source-`t` paths that contain `x` (the pair-dependency identity, in counted form) -/
theorem C05_dependency_stage (adjOf : Nat → List Adj) (n source : Nat) (hsrc : source < n)
    (hidx : ∀ v, v < n → ∀ a ∈ adjOf v, a.1 < n)
    (hnd : ∀ v, v < n → (((adjOf v).map (fun a => a.1)).filter (fun j => j != v)).Nodup)
    (bc : List Rat) (hbc : bc.length = n) :
    let r := bcBfs adjOf n source
    let arcs := bcUnitArcs adjOf n
    let d := Arcs.distFrom arcs n source
    ∀ x, x < n → getD0 (accumulate bc r) x = getD0 bc x +
      (r.S.map fun t =>
        if x = source ∨ x = t then 0
        else (((Arcs.tightPaths arcs d source n t).filter fun q => q.contains x).length : Rat) /
          ((Arcs.tightPaths arcs d source n t).length : Rat)).sum := by
  intro r arcs d x hx
  obtain ⟨D, out⟩ := bcBfs_ssOut adjOf n source hsrc hidx hnd
  exact (out.adds_pairTerms (bcUnitArcs_ren_id adjOf n hidx) hsrc bc hbc).2 x hx

theorem Store.nameAt_inj (s : Store) (h : s.wf = true) {i j : Nat} (hi : i < s.nodesVec.length)
    (hj : j < s.nodesVec.length) (e : s.nameAt i = s.nameAt j) : i = j :=
  C03.names_inj (s.names_nodup h) (s.names_nameAt hi) (by rw [e]; exact s.names_nameAt hj)

theorem Store.exists_nameAt (s : Store) {x : Nat} (hx : x ∈ s.names) : ∃ i, i < s.nodesVec.length ∧ x = s.nameAt i := by
  obtain ⟨i, hi, e⟩ := List.getElem_of_mem hx
  have hi' : i < s.nodesVec.length := by rw [← C03.names_length]; exact hi
  refine ⟨i, hi', ?_⟩
  have := s.names_nameAt hi'
  rw [List.getElem?_eq_getElem hi, e] at this
  exact Option.some.inj this

theorem mem_abs_arcs (s : Store) (weighted : Bool) (x y : Nat) (c : Int) :
    (x, y, c) ∈ s.abs.arcs s.specs.directed weighted ↔
      ∃ e ∈ s.allEdges, (if weighted then e.w else some 1) = some c ∧ Abs.sameKey s.specs.directed e x y = true := by
  rw [C06T.mem_abs_arcs]
  exact exists_congr fun e => and_congr_right fun _ => and_congr_right fun _ => (C02.sameKey_iff _ e x y).symm

theorem abs_arcs_unweighted (s : Store) (x y : Nat) (c : Int) :
    (x, y, c) ∈ s.abs.arcs s.specs.directed false ↔ (c = 1 ∧ s.hasEdge x y = true) := by
  rw [mem_abs_arcs, Store.hasEdge, List.any_eq_true]
  constructor
  · rintro ⟨e, he, hc, hk⟩; exact ⟨(Option.some.inj hc).symm, e, he, hk⟩
  · rintro ⟨hc, e, he, hk⟩; exact ⟨e, he, congrArg some hc.symm, hk⟩

theorem abs_arcs_names (s : Store) (h : s.wf = true) (weighted : Bool) {x y : Nat} {c : Int}
    (ha : (x, y, c) ∈ s.abs.arcs s.specs.directed weighted) : x ∈ s.names ∧ y ∈ s.names := by
  obtain ⟨e, hein, _, hm⟩ := (mem_abs_arcs s weighted x y c).1 ha
  have hin := Store.allEdges_valid ((Store.edgesOk_iff s).1 (Store.wf_parts s h).2.1) hein
  simp only [Abs.sameKey, Bool.or_eq_true, Bool.and_eq_true, beq_iff_eq, Bool.not_eq_true'] at hm
  rcases hm with ⟨rfl, rfl⟩ | ⟨⟨_, rfl⟩, rfl⟩
  · exact ⟨hin.1, hin.2.1⟩
  · exact ⟨hin.2.1, hin.1⟩

/-- position arcs `A` of the store's traversal lists are renamed onto its abstract arcs as soon as the arcs correspond
    off the diagonal; injectivity, the index bound and the cover come from `wf` -/
theorem store_ren_of (s : Store) (h : s.wf = true) (weighted : Bool) {cost : Adj → Int} {A : Arcs}
    (hA : Bc.ArcsOfC (fun v => s.succVec[v]?.getD []) s.nodesVec.length cost A)
    (hposA : Bc.PosArcs A) (hposB : Bc.PosArcs (s.abs.arcs s.specs.directed weighted))
    (hAB : ∀ i j c, i < s.nodesVec.length → j < s.nodesVec.length → i ≠ j → (i, j, c) ∈ A →
      (s.nameAt i, s.nameAt j, c) ∈ s.abs.arcs s.specs.directed weighted)
    (hBA : ∀ i j c, i < s.nodesVec.length → j < s.nodesVec.length → i ≠ j →
      (s.nameAt i, s.nameAt j, c) ∈ s.abs.arcs s.specs.directed weighted → ∃ c', c' ≤ c ∧ (i, j, c') ∈ A) :
    Bc.Ren s.nodesVec.length A (s.abs.arcs s.specs.directed weighted) s.nameAt where
  inj := fun _ _ hi hj e => s.nameAt_inj h hi hj e
  ltA := hA.lt fun v _ a ha => C03_indexes_in_range s h v a (Or.inl ha)
  posA := hposA
  posB := hposB
  arcsAB := hAB
  arcsBA := hBA
  cover := by
    rintro ⟨x, y, c⟩ ha
    obtain ⟨hx, hy⟩ := abs_arcs_names s h weighted ha
    obtain ⟨i, hi, ei⟩ := s.exists_nameAt hx
    obtain ⟨j, hj, ej⟩ := s.exists_nameAt hy
    exact ⟨i, j, hi, hj, ei, ej⟩

/-- **the traversal lists and the abstract arcs are the same relation** (C03 + the name index) -/
theorem store_ren (s : Store) (h : s.wf = true) :
    Bc.Ren s.nodesVec.length (bcUnitArcs (fun v => s.succVec[v]?.getD []) s.nodesVec.length)
      (s.abs.arcs s.specs.directed false) s.nameAt := by
  have hA := bcUnitArcs_arcsOfC (fun v => s.succVec[v]?.getD []) s.nodesVec.length
  have harcs : ∀ i j c, i < s.nodesVec.length → j < s.nodesVec.length →
      ((i, j, c) ∈ bcUnitArcs (fun v => s.succVec[v]?.getD []) s.nodesVec.length ↔
        (s.nameAt i, s.nameAt j, c) ∈ s.abs.arcs s.specs.directed false) := by
    intro i j c hi hj
    rw [hA i j c, abs_arcs_unweighted,
      ← (C03_successors_match_store s h i j _ _ (s.names_nameAt hi) (s.names_nameAt hj)).1]
    constructor
    · rintro ⟨_, a, ha, rfl, hc⟩
      exact ⟨hc.symm, a.2, ha⟩
    · rintro ⟨hc, w, hw⟩
      exact ⟨hi, (j, w), hw, rfl, hc.symm⟩
  refine store_ren_of s h false hA (hA.pos fun _ _ _ _ => Int.one_pos) ?_
    (fun i j c hi hj _ => (harcs i j c hi hj).1) (fun i j c hi hj _ hin => ⟨c, Int.le_refl _, (harcs i j c hi hj).2 hin⟩)
  rintro ⟨x, y, c⟩ ha
  rw [((abs_arcs_unweighted s x y c).1 ha).1]
  exact Int.one_pos

/-- **a list of sources**: folding `accumulate ∘ stage` over sources adds, for every position `x`, the pair
    terms of the definition for these sources (`stage` is `bfs` or `dijkstra`) -/
theorem bc_fold_stage {adjOf : Nat → List Adj} {n : Nat} {cost : Adj → Int} {κ : Rat} {A B : Arcs} {f : Nat → Nat}
    (hR : Bc.Ren n A B f) (stage : Nat → SSR)
    (hst : ∀ a, a < n → ∃ D, Bc.SsOut adjOf n a cost κ A D (stage a)) :
    ∀ (L : List Nat) (bc0 : List Rat), (∀ a ∈ L, a < n) → bc0.length = n →
      (L.foldl (fun bc src => accumulate bc (stage src)) bc0).length = n ∧
      ∀ x, x < n →
        getD0 (L.foldl (fun bc src => accumulate bc (stage src)) bc0) x =
          getD0 bc0 x + (L.map fun a => ((stage a).S.map fun t => Bc.pairTerm B f n a x t).sum).sum := by
  intro L
  induction L with
  | nil => intro bc0 _ hl; exact ⟨hl, fun x _ => by simp⟩
  | cons a L ih =>
    intro bc0 hL hl
    have ha : a < n := hL a (List.mem_cons_self ..)
    obtain ⟨D, out⟩ := hst a ha
    have hacc := out.adds_pairTerms hR ha bc0 hl
    obtain ⟨h1, h2⟩ := ih _ (fun b hb => hL b (List.mem_cons_of_mem _ hb)) hacc.1
    rw [List.foldl_cons]
    refine ⟨h1, fun x hx => ?_⟩
    rw [h2 x hx, hacc.2 x hx, List.map_cons, List.sum_cons, add_assoc]

/-- the term of one ordered pair in `bcSpec` -/
def specTerm (v : Nat) (ps : List (List Nat)) : Rat :=
  match ps with
  | [] => 0
  | p :: _ =>
    if p.head? == some v || p.getLast? == some v then 0
    else ((ps.filter fun q => q.contains v).length : Rat) / (ps.length : Rat)

def specScale (n : Nat) (directed normalized : Bool) : Rat :=
  if normalized then (if n ≤ 2 then 1 else 1 / (((n : Rat) - 1) * ((n : Rat) - 2)))
  else if directed then 1 else 1 / 2

theorem bcSpec_unfold (nodes : List Nat) (arcs : Arcs) (directed normalized : Bool) :
    bcSpec nodes arcs directed normalized =
      nodes.map fun v => (v, sumRat ((nodes.flatMap fun s =>
        ((Arcs.distFrom arcs nodes.length s).filter fun kv => kv.1 != s).map fun kv =>
          Arcs.tightPaths arcs (Arcs.distFrom arcs nodes.length s) s nodes.length kv.1).map (specTerm v)) *
        specScale nodes.length directed normalized) := by
  rfl

theorem sumRat_eq_sum (l : List Rat) : sumRat l = l.sum :=
  List.sum_eq_foldl.symm

theorem specTerm_tp (B : Arcs) (d : List (Nat × Int)) (s n v t : Nat) :
    specTerm v (Arcs.tightPaths B d s n t) =
      if v = s ∨ v = t then 0 else Bc.thrH B d s n v t / Bc.sigH B d s n t := by
  unfold Bc.thrH Bc.sigH
  cases hps : Arcs.tightPaths B d s n t with
  | nil =>
    show (0 : Rat) = _
    split
    · rfl
    · exact (zero_div _).symm
  | cons p rest =>
    have hmem : p ∈ Arcs.tightPaths B d s n t := hps ▸ List.mem_cons_self
    show (if (p.head? == some v || p.getLast? == some v) = true then 0 else _) = _
    rw [tightPaths_head B d s n t p hmem, Bc.tightPaths_last B d s n t p hmem]
    have hiff : ((some s == some v || some t == some v) = true) ↔ (v = s ∨ v = t) := by
      rw [Bool.or_eq_true, beq_iff_eq, beq_iff_eq, Option.some.injEq, Option.some.injEq, eq_comm, eq_comm (a := t)]
    by_cases e : v = s ∨ v = t
    · rw [if_pos (hiff.2 e), if_pos e]
    · rw [if_neg (mt hiff.1 e), if_neg e]

section source
variable {adjOf : Nat → List Adj} {n a : Nat} {cost : Adj → Int} {κ : Rat} {A B : Arcs} {f : Nat → Nat}
  {D : List (Option Int)} {r : SSR}

/-- the targets the definition enumerates for the source `f a` are the names of `S \ {a}` -/
theorem spec_targets_perm (hR : Bc.Ren n A B f) (ha : a < n) (out : Bc.SsOut adjOf n a cost κ A D r) :
    (((Arcs.distFrom B n (f a)).filter fun kv => kv.1 != f a).map (·.1)).Perm ((r.S.filter fun t => t != a).map f) := by
  have hE := hR.exactD ha
  have hkn := C06B.distFrom_keys_nodup B n (f a)
  have hnd1 : (((Arcs.distFrom B n (f a)).filter fun kv => kv.1 != f a).map (·.1)).Nodup :=
    hkn.sublist (List.filter_sublist.map _)
  have hnd2 : ((r.S.filter fun t => t != a).map f).Nodup :=
    (out.nd.filter _).map_on (fun x hx y hy e =>
      hR.inj x y (out.lt x (List.mem_filter.1 hx).1) (out.lt y (List.mem_filter.1 hy).1) e)
  rw [List.perm_ext_iff_of_nodup hnd1 hnd2]
  intro y
  simp only [List.mem_map, List.mem_filter, bne_iff_ne, ne_eq]
  constructor
  · rintro ⟨⟨y', k⟩, ⟨hin, hne⟩, rfl⟩
    simp only at hne ⊢
    have hl := AL.mem_lookup hkn hin
    obtain ⟨i, hi, e, hdi⟩ := hR.isDist_name ha ((hE y' k).1 hl)
    subst e
    refine ⟨i, ⟨(out.memD i).2 (by rw [(out.dist i k).2 hdi]; simp), fun e => hne (by rw [e])⟩, rfl⟩
  · rintro ⟨t, ⟨htS, hta⟩, rfl⟩
    have ht := out.lt t htS
    obtain ⟨_, hl⟩ := out.dOf_nonneg htS
    have := (out.label_iff hR ha ht _).2 hl
    refine ⟨(f t, Bc.dOf D t), ⟨AL.lookup_mem this, fun e => hta (hR.inj t a ht ha e)⟩, rfl⟩

/-- **one source, specification side**: the definition's pair terms for the source `f a` and the node `f x` -/
theorem spec_source_sum (hR : Bc.Ren n A B f) (ha : a < n) (out : Bc.SsOut adjOf n a cost κ A D r)
    {x : Nat} (hx : x < n) :
    ((((Arcs.distFrom B n (f a)).filter fun kv => kv.1 != f a).map fun kv =>
        Arcs.tightPaths B (Arcs.distFrom B n (f a)) (f a) n kv.1).map (specTerm (f x))).sum =
      (r.S.map fun t => Bc.pairTerm B f n a x t).sum := by
  have hTp := hR.tpEq ha
  have h1 : (((Arcs.distFrom B n (f a)).filter fun kv => kv.1 != f a).map fun kv =>
        Arcs.tightPaths B (Arcs.distFrom B n (f a)) (f a) n kv.1).map (specTerm (f x)) =
      (((Arcs.distFrom B n (f a)).filter fun kv => kv.1 != f a).map (·.1)).map fun y =>
        specTerm (f x) (Arcs.tightPaths B (Arcs.distFrom B n (f a)) (f a) n y) := by
    rw [List.map_map, List.map_map]; rfl
  rw [h1, ((spec_targets_perm hR ha out).map _).sum_eq, List.map_map, Bc.sum_filter_ite]
  apply Bc.sum_map_congr
  intro t htS
  have ht := out.lt t htS
  by_cases hta : t = a
  · subst hta
    have : (t != t) = false := by simp
    rw [this]
    simp only [Bool.false_eq_true, if_false]
    unfold Bc.pairTerm
    by_cases e : x = t ∨ x = t
    · rw [if_pos e]
    · rw [if_neg e]
      have hxt : x ≠ t := fun h => e (Or.inl h)
      have hfx : f x ≠ f t := fun h => hxt (hR.inj x t hx ht h)
      rw [Bc.thrH_source hTp, if_neg hfx]; simp
  · have : (t != a) = true := by simpa using hta
    rw [this]
    simp only [if_true, Function.comp]
    rw [specTerm_tp]
    unfold Bc.pairTerm
    have hiff : (f x = f a ∨ f x = f t) ↔ (x = a ∨ x = t) := by
      constructor
      · rintro (e | e)
        · exact Or.inl (hR.inj x a hx ha e)
        · exact Or.inr (hR.inj x t hx ht e)
      · rintro (e | e)
        · exact Or.inl (by rw [e])
        · exact Or.inr (by rw [e])
    by_cases e : x = a ∨ x = t
    · rw [if_pos e, if_pos (hiff.2 e)]
    · rw [if_neg e, if_neg (fun h => e (hiff.1 h))]

end source

theorem names_fold (s : Store) (h : s.wf = true) :
    ∀ (F : Outcome (List (Nat × Rat)) → Rat × Nat → Outcome (List (Nat × Rat))),
      (∀ acc v i nd, s.getNodeByIndex i = some nd → F (.ok acc) (v, i) = .ok (ainsert acc nd.name v)) →
      ∀ (l : List Rat) (k : Nat) (acc : List (Nat × Rat)), k + l.length = s.nodesVec.length →
        acc.map (·.1) = (List.range k).map s.nameAt →
        (l.zipIdx k).foldl F (.ok acc) = .ok (acc ++ (l.zipIdx k).map fun p => (s.nameAt p.2, p.1)) := by
  intro F hF l
  induction l with
  | nil => intro k acc _ _; exact (congrArg Outcome.ok (List.append_nil acc)).symm
  | cons v l ih =>
    intro k acc hk hacc
    rw [List.length_cons] at hk
    have hkn : k < s.nodesVec.length := by omega
    have hget : s.getNodeByIndex k = some s.nodesVec[k] := by
      rw [C02_getNodeByIndex s h k]
      exact List.getElem?_eq_getElem hkn
    have hname : s.nodesVec[k].name = s.nameAt k := by
      have := s.names_nameAt hkn
      rw [Store.names, List.getElem?_map, List.getElem?_eq_getElem hkn] at this
      exact Option.some.inj this
    have hfresh : s.nameAt k ∉ acc.map (·.1) := by
      rw [hacc, List.mem_map]
      rintro ⟨j, hj, e⟩
      have hjk := List.mem_range.1 hj
      rw [s.nameAt_inj h (Nat.lt_trans hjk hkn) hkn e] at hjk
      exact Nat.lt_irrefl _ hjk
    rw [List.zipIdx_cons, List.foldl_cons, hF acc v k _ hget, hname, C09M.ainsert_fresh acc _ _ hfresh,
      ih (k + 1) _ (by omega) (by rw [List.map_append, hacc, List.range_succ, List.map_append]; rfl),
      List.map_cons, List.append_assoc]
    rfl

/-- the single-source stage `betweenness_centrality` runs for the source at a position -/
def Store.bcStage (s : Store) (weighted : Bool) (src : Nat) : SSR :=
  if weighted then bcDijkstra (fun v => s.succVec[v]?.getD []) s.nodesVec.length s.totalAdj src
  else bcBfs (fun v => s.succVec[v]?.getD []) s.nodesVec.length src

/-- the sum over sources, by position, before the rescaling -/
def Store.bcRaw (s : Store) (weighted : Bool) : List Rat :=
  (List.range s.nodesVec.length).foldl (fun bc src => accumulate bc (s.bcStage weighted src))
    (List.replicate s.nodesVec.length 0)

/-- the vector that the last loop of `betweenness_centrality` turns into a map by name -/
def Store.bcVec (s : Store) (weighted normalized : Bool) : List Rat :=
  match bcScale s.nodesVec.length normalized s.specs.directed with
  | some sc => (s.bcRaw weighted).map (· * sc)
  | none => s.bcRaw weighted

theorem foldl_accumulate_length (stage : Nat → SSR) (L : List Nat) (bc0 : List Rat) :
    (L.foldl (fun bc src => accumulate bc (stage src)) bc0).length = bc0.length := by
  induction L generalizing bc0 with
  | nil => rfl
  | cons a L ih => rw [List.foldl_cons, ih, C05_accumulate_length]

theorem Store.bcVec_length (s : Store) (weighted normalized : Bool) :
    (s.bcVec weighted normalized).length = s.nodesVec.length := by
  have : (s.bcRaw weighted).length = s.nodesVec.length := by
    rw [Store.bcRaw, foldl_accumulate_length, List.length_replicate]
  unfold Store.bcVec
  cases bcScale s.nodesVec.length normalized s.specs.directed with
  | none => exact this
  | some sc => rw [List.length_map]; exact this

/-- **the model never fails on a well-formed store**: its answer is the vector `bcVec`, keyed by the names -/
theorem Store.betweenness_eq (s : Store) (h : s.wf = true) (weighted normalized : Bool) :
    s.betweenness weighted normalized = .ok ((s.bcVec weighted normalized).zipIdx.map fun p => (s.nameAt p.2, p.1)) := by
  have := names_fold s h (fun (acc : Outcome (List (Nat × Rat))) (p : Rat × Nat) => do
      let out ← acc
      let nd ← Outcome.ofOption "betweenness: get_node_by_index().unwrap()" (s.getNodeByIndex p.2)
      .ok (ainsert out nd.name p.1)) (by
    intro acc v i nd hnd
    simp [bind, Outcome.bind, Outcome.ofOption, hnd]) (s.bcVec weighted normalized) 0 []
    (by rw [s.bcVec_length, Nat.zero_add]) rfl
  exact this

theorem zipIdx_names_keys (s : Store) (bc : List Rat) (hl : bc.length = s.nodesVec.length) :
    (bc.zipIdx.map fun p => (s.nameAt p.2, p.1)).map (·.1) = s.names := by
  rw [List.map_map, s.names_eq_map_nameAt]
  have : ((fun x : Nat × Rat => x.1) ∘ fun p : Rat × Nat => (s.nameAt p.2, p.1)) = s.nameAt ∘ (fun p : Rat × Nat => p.2) := rfl
  rw [this, ← List.map_map, List.zipIdx_map_snd, hl, List.range_eq_range']

theorem alookup_zipIdx_names (s : Store) (h : s.wf = true) (bc : List Rat) (hl : bc.length = s.nodesVec.length) :
    (∀ i, i < s.nodesVec.length → alookup (bc.zipIdx.map fun p => (s.nameAt p.2, p.1)) (s.nameAt i) = some (getD0 bc i)) ∧
    (∀ v, v ∉ s.names → alookup (bc.zipIdx.map fun p => (s.nameAt p.2, p.1)) v = none) := by
  have hnd := s.names_nodup h
  have hkeys := zipIdx_names_keys s bc hl
  constructor
  · intro i hi
    apply C03.alookup_of_mem _ _ _ (by rw [hkeys]; exact hnd)
    rw [List.mem_map]
    have hi' : i < bc.length := by rw [hl]; exact hi
    refine ⟨(bc[i], i), List.mem_zipIdx_iff_getElem?.2 (List.getElem?_eq_getElem hi'), ?_⟩
    unfold getD0
    rw [List.getElem?_eq_getElem hi']; rfl
  · intro v hv
    rw [AL.lookup_none_iff, hkeys]; exact hv

theorem getD0_map_mul (bc : List Rat) (sc : Rat) (i : Nat) : getD0 (bc.map (· * sc)) i = getD0 bc i * sc := by
  unfold getD0
  rw [List.getElem?_map]
  cases bc[i]? with
  | none => exact (zero_mul sc).symm
  | some x => rfl

theorem getD0_scaled (n : Nat) (normalized directed : Bool) (bc : List Rat) (i : Nat) :
    getD0 (match bcScale n normalized directed with
      | some sc => bc.map (· * sc)
      | none => bc) i = getD0 bc i * specScale n directed normalized := by
  unfold bcScale specScale
  by_cases hn : normalized = true
  · by_cases h2 : n ≤ 2
    · rw [if_pos hn, if_pos h2, if_pos hn, if_pos h2]; exact (mul_one _).symm
    · rw [if_pos hn, if_neg h2, if_pos hn, if_neg h2]; exact getD0_map_mul bc _ i
  · by_cases hd : directed = true
    · rw [if_neg hn, if_pos hd, if_neg hn, if_pos hd]; exact (mul_one _).symm
    · rw [if_neg hn, if_neg hd, if_neg hn, if_neg hd]; exact getD0_map_mul bc _ i

/-- **the generic assembly**: whenever the single-source stage delivers its facts (`SsOut`) for every source and the traversal
    arcs `A` match the abstract arcs under the name index (`Ren`), the model of `betweenness_centrality` equals the definition -/
theorem betweenness_eq_spec_of_stage (s : Store) (h : s.wf = true) (weighted normalized : Bool)
    {cost : Adj → Int} {κ : Rat} {A : Arcs}
    (hR : Bc.Ren s.nodesVec.length A (s.abs.arcs s.specs.directed weighted) s.nameAt)
    (hst : ∀ a, a < s.nodesVec.length → ∃ D, Bc.SsOut (fun v => s.succVec[v]?.getD []) s.nodesVec.length a cost κ A D
      (s.bcStage weighted a))
    (m : List (Nat × Rat)) (hm : s.betweenness weighted normalized = .ok m) :
    ∀ v, alookup m v = alookup (bcSpec s.getAllNodeNames (s.abs.arcs s.specs.directed weighted) s.specs.directed normalized) v := by
  have hF := (bc_fold_stage hR (s.bcStage weighted) hst (List.range s.nodesVec.length) (List.replicate s.nodesVec.length 0)
    (fun a ha => List.mem_range.1 ha) List.length_replicate).2
  obtain ⟨hL1, hL2⟩ := alookup_zipIdx_names s h _ (s.bcVec_length weighted normalized)
  rw [← Outcome.ok.inj (hm.symm.trans (s.betweenness_eq h weighted normalized))] at hL1 hL2
  intro v
  rw [bcSpec_unfold, show s.getAllNodeNames = s.names from rfl, C09M.alookup_map_self]
  by_cases hv : v ∈ s.names
  · rw [if_pos hv]
    obtain ⟨i, hi, rfl⟩ := s.exists_nameAt hv
    rw [hL1 i hi, Store.bcVec, getD0_scaled, Store.bcRaw, hF i hi, C03.names_length, Bc.getD0_replicate_zero, zero_add,
      sumRat_eq_sum, Bc.sum_flatMap_map]
    congr 2
    conv => rhs; rw [s.names_eq_map_nameAt, List.map_map]
    apply Bc.sum_map_congr
    intro a ha
    obtain ⟨D, out⟩ := hst a (List.mem_range.1 ha)
    exact (spec_source_sum hR (List.mem_range.1 ha) out hi).symm
  · rw [if_neg hv]
    exact hL2 v hv

/- `Store.wf` does not constrain how often a `succVec` row lists a neighbour, and the BFS counts a repeated entry as a
   second shortest path.  `C05_model_eq_spec_unweighted_counterexample` below: the directed diamond 0→1, 0→2, 1→3, 2→3
   built through the API, with the entry `(1, none)` of row 0 repeated by hand, is still `wf` (membership and minimum weight
   per neighbour are unchanged), but the model answers 2/3, 1/3 for the nodes 1, 2 where the definition gives 1/2, 1/2.
   Hence the hypothesis `hrows` of the next theorem; `C05_rows_nodup_reachable` proves it of every store built through the
   mutation API. -/

/-- **the model of unweighted betweenness = the definition**, on every well-formed store whose traversal rows list every
    neighbour (other than the node itself) once -/
theorem C05_model_eq_spec_unweighted_corrected (s : Store) (h : s.wf = true)
    (hrows : ∀ v, v < s.nodesVec.length →
      (((s.succVec[v]?.getD []).map (fun a => a.1)).filter (fun j => j != v)).Nodup)
    (normalized : Bool) (m : List (Nat × Rat))
    (hm : s.betweenness false normalized = .ok m) :
    ∀ v, alookup m v = alookup (bcSpec s.getAllNodeNames (s.abs.arcs s.specs.directed false) s.specs.directed normalized) v :=
  betweenness_eq_spec_of_stage s h false normalized (store_ren s h)
    (fun a ha => bcBfs_ssOut _ _ a ha (fun v _ a ha => C03_indexes_in_range s h v a (Or.inl ha)) hrows) m hm

/-- well-formed, every traversal row lists every neighbour other than the node itself once, and every traversal weight is
    the weight of a stored edge between the two nodes -/
def Store.wfRows (s : Store) : Prop := s.wf = true ∧ Bc.RowsNd s ∧ Bc.RowsW s

theorem wfRows_addNode (s : Store) (n : Node) (h : s.wfRows) : (s.addNode n).wfRows :=
  ⟨Core_addNode_wf s n h.1, Bc.addNode_rowsNd s n h.2.1, Bc.addNode_rowsW s n (C03.pre_of_wf s h.1) h.2.2⟩

theorem wfRows_addEdge (s : Store) (e : Edge) (h : s.wfRows) : (s.addEdge e).1.wfRows :=
  ⟨Core_addEdge_wf s e h.1, Bc.addEdge_rowsNd s e (C03.pre_of_wf s h.1) h.2.1, Bc.addEdge_rowsW s e h.1 h.2.2⟩

theorem wfRows_new (sp : Specs) : (Store.new sp).wfRows :=
  ⟨C01_new_wf sp, Bc.rowsNdV_nil, by
    intro i j x y _ _ a ha _
    have : (Store.new sp).succVec = [] := rfl
    rw [this] at ha
    simp at ha⟩

theorem wfRows_run (sp : Specs) (ops : List Op) : (Store.run sp ops).1.wfRows :=
  Store.run_ind wfRows_new wfRows_addNode wfRows_addEdge sp ops

/-- **every store reachable through the mutation API has duplicate-free traversal rows** (self entries aside) -/
theorem C05_rows_nodup_reachable (sp : Specs) (ops : List Op) :
    ∀ v : Nat, ((((Store.run sp ops).1.succVec[v]?.getD []).map (fun (a : Adj) => a.1)).filter (fun j => j != v)).Nodup :=
  (wfRows_run sp ops).2.1

/-- **the model of unweighted betweenness = the definition, for every GraphSpecs record and every history of API calls** -/
theorem C05_model_eq_spec_unweighted_reachable (sp : Specs) (ops : List Op) (normalized : Bool) (m : List (Nat × Rat))
    (hm : (Store.run sp ops).1.betweenness false normalized = .ok m) :
    ∀ v, alookup m v = alookup (bcSpec (Store.run sp ops).1.getAllNodeNames
      ((Store.run sp ops).1.abs.arcs (Store.run sp ops).1.specs.directed false)
      (Store.run sp ops).1.specs.directed normalized) v :=
  C05_model_eq_spec_unweighted_corrected _ (wfRows_run sp ops).1 (fun v _ => (wfRows_run sp ops).2.1 v) normalized m hm

/-- on a well-formed store the betweenness model never fails (no error, no panic site): it returns a map -/
theorem C05_model_ok (s : Store) (h : s.wf = true) (weighted normalized : Bool) :
    ∃ m, s.betweenness weighted normalized = .ok m := by
  exact ⟨_, s.betweenness_eq h weighted normalized⟩

/-- a well-formed store (not reachable through the API: row 0 lists the neighbour 1 twice) on which the model and the
    definition disagree -/
def c05BadStore : Store :=
  let s := (Store.run ⟨true, false, true, .keepLast, .create, .drop⟩
    [Op.addNodes [⟨0, none⟩, ⟨1, none⟩, ⟨2, none⟩, ⟨3, none⟩],
     Op.addEdges [⟨0, 1, none, none⟩, ⟨0, 2, none, none⟩, ⟨1, 3, none, none⟩, ⟨2, 3, none, none⟩]]).1
  { s with succVec := [[(1, none), (1, none), (2, none)], [(3, none)], [(3, none)], []] }

theorem C05_model_eq_spec_unweighted_counterexample :
    c05BadStore.wf = true ∧
    (match c05BadStore.betweenness false false with | .ok m => alookup m 1 | _ => none) = some ((2 : Rat) / 3) ∧
    alookup (bcSpec c05BadStore.getAllNodeNames (c05BadStore.abs.arcs c05BadStore.specs.directed false)
      c05BadStore.specs.directed false) 1 = some ((1 : Rat) / 2) := by
  decide +kernel

/-- the arcs the weighted stage traverses: one per adjacency entry, with the entry's weight -/
def bcCostArcs (adjOf : Nat → List Adj) (n : Nat) : Arcs :=
  (List.range n).flatMap fun v => (adjOf v).map fun a => (v, a.1, Bc.djCost a)

theorem bcCostArcs_arcsOf (adjOf : Nat → List Adj) (n : Nat) : Bc.ArcsOfC adjOf n Bc.djCost (bcCostArcs adjOf n) :=
  Bc.arcsOfC_flatMap adjOf n Bc.djCost

theorem filter_fst_singleton (row : List Adj) (i j : Nat) (hij : j ≠ i)
    (hnd : ((row.map (fun a => a.1)).filter (fun k => k != i)).Nodup) (a : Adj) (ha : a ∈ row) (haj : a.1 = j) :
    row.filter (fun b => b.1 == j) = [a] := by
  induction row with
  | nil => cases ha
  | cons b row ih =>
    rw [List.map_cons, List.filter_cons] at hnd
    by_cases hb : b.1 = j
    · have hbi : (b.1 != i) = true := by rw [hb]; exact bne_iff_ne.2 hij
      rw [hbi] at hnd
      simp only [if_true, List.nodup_cons] at hnd
      have hnone : row.filter (fun b => b.1 == j) = [] := by
        rw [List.filter_eq_nil_iff]
        intro c hc hcj
        apply hnd.1
        rw [List.mem_filter]
        have hcj' : c.1 = j := beq_iff_eq.1 hcj
        exact ⟨List.mem_map.2 ⟨c, hc, by rw [hcj', hb]⟩, hbi⟩
      rw [List.filter_cons, beq_iff_eq.2 hb, if_pos rfl, hnone]
      rcases List.mem_cons.1 ha with e | e
      · rw [e]
      · exfalso
        have : a ∈ row.filter (fun b => b.1 == j) := List.mem_filter.2 ⟨e, beq_iff_eq.2 haj⟩
        rw [hnone] at this; cases this
    · have hbj : (b.1 == j) = false := beq_false_of_ne hb
      rw [List.filter_cons, hbj]
      simp only [Bool.false_eq_true, if_false]
      have ha' : a ∈ row := by
        rcases List.mem_cons.1 ha with e | e
        · exact absurd (e ▸ haj) hb
        · exact e
      apply ih _ ha'
      split at hnd
      · exact (List.nodup_cons.1 hnd).2
      · exact hnd

/-- **the single-source stage, positive weights**: after `dijkstra`, S lists exactly the reachable nodes, each once, in non-decreasing distance;
    P[w] is exactly the set of tight predecessors of w; sigma[w] is twice the number of shortest paths from the source to w
    (the stage leaves `sigma[source] = 2`; only ratios of `sigma` are used afterwards) -/
theorem C05_dijkstra_stage (adjOf : Nat → List Adj) (n source total : Nat) (hsrc : source < n)
    (hidx : ∀ v, v < n → ∀ a ∈ adjOf v, a.1 < n)
    (hpos : ∀ v, v < n → ∀ a ∈ adjOf v, 0 < a.2.getD 0)
    (hnd : ∀ v, v < n → (((adjOf v).map (fun a => a.1)).filter (fun j => j != v)).Nodup)
    (htot : Bc.pendN adjOf n (List.replicate n none) ≤ total) :
    let r := bcDijkstra adjOf n total source
    let arcs := bcCostArcs adjOf n
    r.S.Nodup ∧ (∀ v, v ∈ r.S ↔ Reachable arcs source v) ∧
    (∀ (i j : Nat) (di dj : Int), i < j → (∃ x, r.S[i]? = some x ∧ IsDist arcs source x di) → (∃ y, r.S[j]? = some y ∧ IsDist arcs source y dj) → di ≤ dj) ∧
    (∀ w ∈ r.S, ∀ v, v ∈ (r.P[w]?.getD []) ↔ (∃ dv dw c, IsDist arcs source v dv ∧ IsDist arcs source w dw ∧ dv + c = dw ∧ (v, w, c) ∈ arcs)) ∧
    (∀ w ∈ r.S, r.sigma[w]? = some (2 * ((sigmaSpec arcs n source w : Nat) : Rat))) := by
  intro r arcs
  have hA := bcCostArcs_arcsOf adjOf n
  obtain ⟨D, out⟩ := Bc.bcDijkstra_out hA hsrc hidx hpos hnd total htot
  exact out.stage_facts (Bc.Ren.refl hA hidx out.posA) hsrc

/-- **the weighted traversal lists and the weighted abstract arcs carry the same distances** (C03: the entry for a
    neighbour holds the minimum stored weight) -/
theorem store_ren_weighted (s : Store) (h : s.wf = true)
    (hrows : ∀ v, v < s.nodesVec.length →
      (((s.succVec[v]?.getD []).map (fun a => a.1)).filter (fun j => j != v)).Nodup)
    (hwpos : ∀ v, v < s.nodesVec.length → ∀ a ∈ s.succVec[v]?.getD [], 0 < Bc.djCost a)
    (hepos : ∀ e ∈ s.allEdges, ∃ w, e.w = some w ∧ 0 < w) :
    Bc.Ren s.nodesVec.length (bcCostArcs (fun v => s.succVec[v]?.getD []) s.nodesVec.length)
      (s.abs.arcs s.specs.directed true) s.nameAt := by
  have hA := bcCostArcs_arcsOf (fun v => s.succVec[v]?.getD []) s.nodesVec.length
  -- the unique entry for a neighbour carries the minimum stored weight
  have hentry : ∀ i j, i < s.nodesVec.length → j < s.nodesVec.length → i ≠ j → ∀ a ∈ s.succVec[i]?.getD [], a.1 = j →
      Abs.minW ((s.abs.between s.specs.directed (s.nameAt i) (s.nameAt j)).map (·.w)) = some a.2 := by
    intro i j hi hj hij a ha haj
    have h2 := (C03_successors_match_store s h i j _ _ (s.names_nameAt hi) (s.names_nameAt hj)).2 ⟨a.2, by rw [← haj]; exact ha⟩
    rw [filter_fst_singleton _ i j (fun e => hij e.symm) (hrows i hi) a ha haj] at h2
    rw [← h2]; rfl
  have hbetween : ∀ x y (e : Edge), e ∈ s.abs.between s.specs.directed x y ↔
      (e ∈ s.allEdges ∧ Abs.sameKey s.specs.directed e x y = true) := fun x y e => List.mem_filter
  refine store_ren_of s h true hA (hA.pos hwpos) ?_ ?_ ?_
  · rintro ⟨x, y, c⟩ ha
    obtain ⟨e, he, hw, _⟩ := (mem_abs_arcs s true x y c).1 ha
    obtain ⟨w', hw', hpos⟩ := hepos e he
    rw [show e.w = some c from hw] at hw'
    rw [Option.some.inj hw']; exact hpos
  · intro i j c hi hj hij hin
    obtain ⟨_, a, ha, haj, hc⟩ := (hA i j c).1 hin
    obtain ⟨hmem, _⟩ := C03.minW_spec _ _ (hentry i j hi hj hij a ha haj)
    obtain ⟨e, he, hew⟩ := List.mem_map.1 hmem
    obtain ⟨heA, hkey⟩ := (hbetween _ _ e).1 he
    obtain ⟨w', hw', _⟩ := hepos e heA
    refine (mem_abs_arcs s true _ _ c).2 ⟨e, heA, ?_, hkey⟩
    have : a.2 = some w' := by rw [← hew, hw']
    rw [← hc, Bc.djCost, this]
    exact hw'
  · intro i j c hi hj hij hin
    obtain ⟨e, heA, hew, hkey⟩ := (mem_abs_arcs s true _ _ c).1 hin
    have hhas : s.hasEdge (s.nameAt i) (s.nameAt j) = true := List.any_eq_true.2 ⟨e, heA, hkey⟩
    obtain ⟨w, hw⟩ := (C03_successors_match_store s h i j _ _ (s.names_nameAt hi) (s.names_nameAt hj)).1.2 hhas
    obtain ⟨_, hle⟩ := C03.minW_spec _ _ (hentry i j hi hj hij (j, w) hw rfl)
    have hlt' := hle e.w (List.mem_map.2 ⟨e, (hbetween _ _ e).2 ⟨heA, hkey⟩, rfl⟩)
    have hcpos := hwpos i hi (j, w) hw
    cases w with
    | none => exact absurd hcpos (Int.lt_irrefl 0)
    | some c' =>
      rw [show e.w = some c from hew] at hlt'
      exact ⟨c', Int.not_lt.1 (of_decide_eq_false hlt'), (hA i j c').2 ⟨hi, (j, some c'), hw, rfl, rfl⟩⟩

theorem pendN_le_totalAdj (s : Store) (h : s.wf = true) :
    Bc.pendN (fun v => s.succVec[v]?.getD []) s.nodesVec.length (List.replicate s.nodesVec.length none) ≤ s.totalAdj := by
  obtain ⟨hno, _, _, _⟩ := Store.wf_parts s h
  have hlen : s.succVec.length = s.nodesVec.length := by
    rw [(C03.nodesOk_len s hno).1, C03.names_length]
  rw [Bc.pendN_replicate, Store.totalAdj, sumNat_eq_sum]
  refine Nat.le_of_eq (congrArg List.sum (List.ext_getElem? fun i => ?_))
  rw [List.getElem?_map, List.getElem?_map]
  by_cases hi : i < s.nodesVec.length
  · rw [List.getElem?_range hi, List.getElem?_eq_getElem (hlen ▸ hi), Option.map_some, Option.map_some,
      List.getElem?_eq_getElem (hlen ▸ hi)]
    rfl
  · rw [List.getElem?_eq_none (by rw [List.length_range]; exact Nat.le_of_not_lt hi),
      List.getElem?_eq_none (hlen ▸ Nat.le_of_not_lt hi)]
    rfl

/-- **the model of weighted betweenness = the definition** (positive weights): on every well-formed store whose traversal
    rows list every other neighbour once and carry positive weights, all stored weights being positive -/
theorem C05_model_eq_spec_weighted (s : Store) (h : s.wf = true)
    (hrows : ∀ v, v < s.nodesVec.length →
      (((s.succVec[v]?.getD []).map (fun a => a.1)).filter (fun j => j != v)).Nodup)
    (hwpos : ∀ v, v < s.nodesVec.length → ∀ a ∈ s.succVec[v]?.getD [], 0 < a.2.getD 0)
    (hepos : ∀ e ∈ s.allEdges, ∃ w, e.w = some w ∧ 0 < w)
    (normalized : Bool) (m : List (Nat × Rat))
    (hm : s.betweenness true normalized = .ok m) :
    ∀ v, alookup m v = alookup (bcSpec s.getAllNodeNames (s.abs.arcs s.specs.directed true) s.specs.directed normalized) v :=
  betweenness_eq_spec_of_stage s h true normalized (store_ren_weighted s h hrows hwpos hepos)
    (fun _ ha => Bc.bcDijkstra_out (bcCostArcs_arcsOf _ _) ha (fun v _ a ha => C03_indexes_in_range s h v a (Or.inl ha))
      hwpos hrows s.totalAdj (pendN_le_totalAdj s h)) m hm

/-- `Bc.ShortestPath` (Lemmas/BcPaths.lean) and `IsShortestPath` (Props/C04Paths.lean) are the same predicate -/
theorem shortestPath_iff (A : Arcs) (s t : Nat) (p : List Nat) : Bc.ShortestPath A s t p ↔ IsShortestPath A s t p :=
  ⟨fun ⟨c, ⟨h1, h2, h3⟩, hd⟩ => ⟨h1, h2, c, h3, hd⟩, fun ⟨h1, h2, c, h3, hd⟩ => ⟨c, ⟨h1, h2, h3⟩, hd⟩⟩

/-- **the definition enumerates every shortest path exactly once** (hop counts): for every node `x` of a well-formed store
    and every target `t`, the list `tightPaths` used by `bcSpec` has no duplicates and contains exactly the node sequences
    from `x` to `t` that `walkCost` accepts with the distance as their cost -/
theorem C05_spec_enumerates_shortest_paths (s : Store) (h : s.wf = true) (x : Nat) (hx : x ∈ s.getAllNodeNames) (t : Nat) :
    let B := s.abs.arcs s.specs.directed false
    let n := s.getAllNodeNames.length
    (Arcs.tightPaths B (Arcs.distFrom B n x) x n t).Nodup ∧
    ∀ p, p ∈ Arcs.tightPaths B (Arcs.distFrom B n x) x n t ↔ Bc.ShortestPath B x t p := by
  intro B n
  have hR := store_ren s h
  have hn : n = s.nodesVec.length := C03.names_length s
  obtain ⟨i, hi', hxi⟩ := s.exists_nameAt hx
  rw [hn, hxi]
  have hU : Bc.UnitArcs B := by
    rintro ⟨x', y', c⟩ ha
    exact ((abs_arcs_unweighted s x' y' c).1 ha).1
  refine Bc.tightPaths_exact hU (hR.exactD hi') _ ?_ t
  intro t' k hk
  have := Bc.isDist_lt_nodes hU ((List.range s.nodesVec.length).map s.nameAt)
    (List.mem_map.2 ⟨i, List.mem_range.2 hi', rfl⟩) hR.nodes_cover hk
  simpa using this

/-- the same over positions: `sigmaSpec` counts the shortest paths of the traversal lists -/
theorem C05_sigmaSpec_counts_shortest_paths (adjOf : Nat → List Adj) (n source : Nat) (hsrc : source < n)
    (hidx : ∀ v, v < n → ∀ a ∈ adjOf v, a.1 < n) (t : Nat) :
    let arcs := bcUnitArcs adjOf n
    ∃ l : List (List Nat), l.Nodup ∧ (∀ p, p ∈ l ↔ Bc.ShortestPath arcs source t p) ∧ sigmaSpec arcs n source t = l.length := by
  intro arcs
  have hR := bcUnitArcs_ren_id adjOf n hidx
  have hU := (bcUnitArcs_arcsOfC adjOf n).unit
  have hn : ∀ t' k, IsDist arcs source t' k → k < (n : Int) := by
    intro t' k hk
    have := Bc.isDist_lt_nodes hU ((List.range n).map id)
      (List.mem_map.2 ⟨source, List.mem_range.2 hsrc, rfl⟩) hR.nodes_cover hk
    simpa using this
  have := Bc.tightPaths_exact hU (hR.exactD hsrc) n hn t
  exact ⟨_, this.1, this.2, rfl⟩

/-- with all stored weights positive, all traversal weights are positive (every traversal weight is a stored weight) -/
theorem traversal_weights_pos (s : Store) (h : s.wfRows) (hepos : ∀ e ∈ s.allEdges, ∃ w, e.w = some w ∧ 0 < w) :
    ∀ v, v < s.nodesVec.length → ∀ a ∈ s.succVec[v]?.getD [], 0 < a.2.getD 0 := by
  intro v hv a ha
  have hj := C03_indexes_in_range s h.1 v a (Or.inl ha)
  obtain ⟨e, he, _, hw⟩ := h.2.2 v a.1 _ _ (s.names_nameAt hv) (s.names_nameAt hj) a ha rfl
  obtain ⟨w, hw', hpos⟩ := hepos e he
  rw [← hw, hw']
  exact hpos

/-- **the model of weighted betweenness = the definition, for every GraphSpecs record and every history of API calls that
    leaves only positive weights in the graph** -/
theorem C05_model_eq_spec_weighted_reachable (sp : Specs) (ops : List Op)
    (hepos : ∀ e ∈ (Store.run sp ops).1.allEdges, ∃ w, e.w = some w ∧ 0 < w)
    (normalized : Bool) (m : List (Nat × Rat))
    (hm : (Store.run sp ops).1.betweenness true normalized = .ok m) :
    ∀ v, alookup m v = alookup (bcSpec (Store.run sp ops).1.getAllNodeNames
      ((Store.run sp ops).1.abs.arcs (Store.run sp ops).1.specs.directed true)
      (Store.run sp ops).1.specs.directed normalized) v :=
  C05_model_eq_spec_weighted _ (wfRows_run sp ops).1 (fun v _ => (wfRows_run sp ops).2.1 v)
    (traversal_weights_pos _ (wfRows_run sp ops) hepos) hepos normalized m hm

theorem betweenness_keys (s : Store) (h : s.wf = true) (weighted normalized : Bool) (out : List (Nat × Rat))
    (hm : s.betweenness weighted normalized = .ok out) : out.map (·.1) = s.names := by
  rw [Outcome.ok.inj (hm.symm.trans (s.betweenness_eq h weighted normalized))]
  exact zipIdx_names_keys s _ (s.bcVec_length weighted normalized)

/-- **`C05_full_statement` (Props/C05.lean) on every store built through the mutation API**: with hop counts, or with positive
    weights, every entry of the model's answer is the value of the definition.  (The statement in Props/C05.lean quantifies
    over arbitrary `Store` records, which is too much: it needs the coupling invariant and the row facts proved above.) -/
theorem C05_full_statement_reachable (sp : Specs) (ops : List Op) (weighted normalized : Bool)
    (hw : weighted = true → ∀ e ∈ (Store.run sp ops).1.allEdges, ∃ w, e.w = some w ∧ 0 < w)
    (out : List (Nat × Rat)) (hm : (Store.run sp ops).1.betweenness weighted normalized = .ok out) :
    ∀ kv ∈ out, alookup (bcSpec (Store.run sp ops).1.getAllNodeNames
      ((Store.run sp ops).1.abs.arcs (Store.run sp ops).1.specs.directed weighted)
      (Store.run sp ops).1.specs.directed normalized) kv.1 = some kv.2 := by
  intro kv hkv
  have hwr := wfRows_run sp ops
  obtain ⟨hno, _, _, _⟩ := Store.wf_parts _ hwr.1
  have hnd := C03.nodesOk_nodup _ hno
  have hkeys := betweenness_keys _ hwr.1 weighted normalized out hm
  have hlook : alookup out kv.1 = some kv.2 := C03.alookup_of_mem _ _ _ (by rw [hkeys]; exact hnd) hkv
  cases weighted with
  | false => rw [← C05_model_eq_spec_unweighted_reachable sp ops normalized out hm kv.1]; exact hlook
  | true => rw [← C05_model_eq_spec_weighted_reachable sp ops (hw rfl) normalized out hm kv.1]; exact hlook

/-- the unweighted instance, unconditionally for all histories -/
theorem C05_full_statement_unweighted_reachable (sp : Specs) (ops : List Op) (normalized : Bool) (out : List (Nat × Rat))
    (hm : (Store.run sp ops).1.betweenness false normalized = .ok out) :
    ∀ kv ∈ out, alookup (bcSpec (Store.run sp ops).1.getAllNodeNames
      ((Store.run sp ops).1.abs.arcs (Store.run sp ops).1.specs.directed false)
      (Store.run sp ops).1.specs.directed normalized) kv.1 = some kv.2 :=
  C05_full_statement_reachable sp ops false normalized (fun h => by cases h) out hm

end Graphrs
