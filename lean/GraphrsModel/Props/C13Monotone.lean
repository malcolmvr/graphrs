/-
  C13 — Louvain: in the exact-arithmetic step-level model (Model/LouvainFull.lean), the modularity of the levels,
  measured on the INPUT graph, never decreases, and the first level is at least as good as the all-singletons
  partition.

  `LouvainFull.inputModularity s weighted res P` (Lemmas/LouvainMono.lean) is Newman's formula
  `Abs.modularitySpec` on the abstract graph `s.abs` of the store for the communities of `P` (lists of node ranks,
  as the model returns them) mapped back to node names - the quantity the checker of the harness (`ObsComm.lean`,
  `ok.monotone`) computes from the implementation's output.

  Main result (`C13_model_levels_monotone_F`, and `C13_model_levels_monotone` for the model at its hard-coded fuels,
  `C13_model_levels_monotone_W` for the `Stop`-annotated form): for every well-formed single-edge store without negative
  weights and with positive total weight (unweighted mode: at least one edge), every `res ≥ 0`, EVERY threshold, every
  family of shuffle permutations and all fuels: if the model returns `some levels`, there is a function `Q` with
  `inputModularity s weighted res P = some (Q P)` for every list of communities `P` (so the value is defined for the
  singletons and for every level), `Q singletons ≤ Q levels[0]` and `Q levels[i] ≤ Q levels[i+1]`.

  Proof (Lemmas/LouvainMonoSum.lean, LouvainFullEdges.lean, LouvainMono.lean).
  1. `LM.wsum es f = Σ_e w_e f(e.u, e.v)`; `LM.Qlist` = Σ over the communities of the modularity term, written with
     `wsum` over the edge list of the level-0 (converted) graph.
  2. Aggregation invariant `LM.AggInv`: every (symmetric, when undirected) edge sum of a level graph equals the edge sum
     of the level-0 graph after mapping each original node to its super-node; true for `convert_graph` with `B = id`,
     preserved by `generate_graph` (`LM.agg_step`: `add_edge` appends the first edge between two communities or
     replaces the single stored one by the accumulated weight; `LM.addEdge_step`).
  3. On such a level the degree maps of `get_degree_information` are edge sums, so the potential `LT.Phi` of the
     termination proof is the modularity of the assignment (`LM.Phi_eq_Qasg`), and the modularity `Qlist` of the
     partition of ORIGINAL nodes a state carries (`st.part`) equals that potential (`LM.Qlist_part`).
  4. No visit decreases `Phi` (`LT.visit_step`), hence one `compute_one_level` returns a partition at least as good as
     the one it was handed (`LM.level_modularity_le`); the partition handed to level i+1 is the one returned by level i
     (`LF.PI.inputOK`), and the first one is the all-singletons partition (`LM.levelLoop_modularity_le`, `LM.lpTailF_modularity_le`).
  5. `Qlist` on the converted graph is Newman's formula on the input (`LM.inputModularity_eq`).
  The threshold test of the loop (`newMod - modularity ≤ threshold`, with `newMod` measured on the level graph) is not
  used: the statement holds for every threshold, also negative ones.
-/
import GraphrsModel.Lemmas.LouvainMono
import GraphrsModel.Props.C13TerminationFull
namespace Graphrs
open LouvainFull

namespace LM

theorem sumW_some_nonan (l : List Edge) (z : Int) (h : Abs.sumW l = some z) : NoNaN l := by
  induction l generalizing z with
  | nil => intro e he; cases he
  | cons e l ih =>
    rw [C12W.sumW_cons] at h
    cases hw : e.w with
    | none => rw [hw] at h; simp [W.add] at h
    | some x =>
      cases hs : Abs.sumW l with
      | none => rw [hw, hs] at h; simp [W.add] at h
      | some y =>
        intro e' he'
        rcases List.mem_cons.1 he' with rfl | h'
        · rw [hw]; simp
        · exact ih y hs e' h'

/-- positive total weight in weighted mode: no weight is NaN -/
theorem nonan_of_totalWeight (s : Store) (hm : 0 < totalWeight s true) : NoNaN s.allEdges := by
  unfold totalWeight at hm
  simp only [if_true] at hm
  have : s.sizeWeighted = Abs.sumW s.allEdges := rfl
  rw [this] at hm
  cases hs : Abs.sumW s.allEdges with
  | none => rw [hs] at hm; simp [ratW] at hm
  | some z => exact sumW_some_nonan _ z hs

end LM

/-- the modularity of every list of communities `P` (node ranks) measured on the input graph is defined, and equals
    the sum `LM.Qlist` over the edges of the converted graph -/
theorem C13_inputModularity_defined (s : Store) (h : s.wf = true) (hmulti : s.specs.multi = false) (weighted : Bool)
    (hm : 0 < totalWeight s weighted) (res : Rat) (lv : Level) (hlv : convertGraph s weighted = .ok lv)
    (P : List (List Nat)) :
    inputModularity s weighted res P = some (LM.Qlist s.specs.directed lv.g.allEdges (mOf lv weighted) res P) := by
  have hnan : weighted = true → LM.NoNaN s.allEdges := by
    intro hw'; subst hw'; exact LM.nonan_of_totalWeight s hm
  exact LM.inputModularity_eq s h hmulti weighted lv hlv hnan res (ne_of_gt (LF.mOf_pos s h weighted lv hlv hm)) P

/-- **C13 (modularity never decreases from level to level), for all fuels.**  `s` well-formed and single-edge, no
    negative weight (weighted mode; NaN is excluded by the positive total weight), positive total weight (unweighted
    mode: the number of edges), `res ≥ 0`; every threshold, every shuffle family, every pair of fuels.  If the model
    returns `some levels`, the modularity measured on the input graph is defined (`some (Q P)`) for every list of
    communities, the first level is at least as good as the all-singletons partition and every level is at least as
    good as the previous one. -/
theorem C13_model_levels_monotone_F (s : Store) (h : s.wf = true) (hmulti : s.specs.multi = false) (weighted : Bool)
    (res threshold : Rat) (perms : List (List Nat))
    (hw : weighted = true → ∀ e ∈ s.allEdges, ∀ w, e.w = some w → 0 ≤ w)
    (hm : 0 < totalWeight s weighted) (hres : 0 ≤ res)
    (sweepFuel levelFuel : Nat) (levels : List (List (List Nat)))
    (hl : louvainPartitionsF sweepFuel levelFuel s weighted res threshold perms = .ok (some levels)) :
    ∃ Q : List (List Nat) → Rat,
      (∀ P, inputModularity s weighted res P = some (Q P)) ∧
      (∀ l0, levels[0]? = some l0 → Q ((List.range s.numNodes).map fun i => [i]) ≤ Q l0) ∧
      (∀ i a b, levels[i]? = some a → levels[i + 1]? = some b → Q a ≤ Q b) := by
  obtain ⟨lv, hlv, hwf, hmulti', hnum, hg, hmem⟩ := LF.convertGraph_spec s h weighted
  have hnan : weighted = true → LM.NoNaN s.allEdges := by
    intro hw'; subst hw'; exact LM.nonan_of_totalWeight s hm
  have hnn : LF.EdgesNN lv.g := LF.convertGraph_edgesNN s h weighted lv hlv hw
  have hm' := LF.mOf_pos s h weighted lv hlv hm
  have hnan' := LM.conv_nonan s h hmulti weighted lv hlv hnan
  have hdir : lv.g.specs.directed = s.specs.directed := (LF.convertGraph_edges s h weighted lv hlv).1
  unfold louvainPartitionsF at hl
  simp only [bind, Outcome.bind, hlv] at hl
  have hchain := LM.lpTailF_modularity_le lv s.numNodes hg hwf hmulti' hnum hmem hnn hnan' weighted res threshold perms hm' hres
    sweepFuel levelFuel levels hl
  rw [hdir] at hchain
  exact ⟨LM.Qlist s.specs.directed lv.g.allEdges (mOf lv weighted) res,
    fun P => C13_inputModularity_defined s h hmulti weighted hm res lv hlv P,
    fun l0 h0 => LM.isChain_getElem? hchain 0 _ l0 rfl h0,
    fun i a b ha hb => LM.isChain_getElem? hchain (i + 1) a b ha hb⟩

/-- **C13 (modularity never decreases from level to level), the model at its hard-coded fuels.** -/
theorem C13_model_levels_monotone (s : Store) (h : s.wf = true) (hmulti : s.specs.multi = false) (weighted : Bool)
    (res threshold : Rat) (perms : List (List Nat))
    (hw : weighted = true → ∀ e ∈ s.allEdges, ∀ w, e.w = some w → 0 ≤ w)
    (hm : 0 < totalWeight s weighted) (hres : 0 ≤ res)
    (levels : List (List (List Nat)))
    (hl : louvainPartitions s weighted res threshold perms = .ok (some levels)) :
    ∃ Q : List (List Nat) → Rat,
      (∀ P, inputModularity s weighted res P = some (Q P)) ∧
      (∀ l0, levels[0]? = some l0 → Q ((List.range s.numNodes).map fun i => [i]) ≤ Q l0) ∧
      (∀ i a b, levels[i]? = some a → levels[i + 1]? = some b → Q a ≤ Q b) := by
  rw [C13_model_is_F s h] at hl
  exact C13_model_levels_monotone_F s h hmulti weighted res threshold perms hw hm hres _ _ levels hl

/-- the same for the `Stop`-annotated model `louvainPartitionsW`, all fuels -/
theorem C13_model_levels_monotone_W (s : Store) (h : s.wf = true) (hmulti : s.specs.multi = false) (weighted : Bool)
    (res threshold : Rat) (perms : List (List Nat))
    (hw : weighted = true → ∀ e ∈ s.allEdges, ∀ w, e.w = some w → 0 ≤ w)
    (hm : 0 < totalWeight s weighted) (hres : 0 ≤ res)
    (sweepFuel levelFuel : Nat) (levels : List (List (List Nat)))
    (hl : louvainPartitionsW sweepFuel levelFuel s weighted res threshold perms = .ok (.ok levels)) :
    ∃ Q : List (List Nat) → Rat,
      (∀ P, inputModularity s weighted res P = some (Q P)) ∧
      (∀ l0, levels[0]? = some l0 → Q ((List.range s.numNodes).map fun i => [i]) ≤ Q l0) ∧
      (∀ i a b, levels[i]? = some a → levels[i + 1]? = some b → Q a ≤ Q b) := by
  have hF : louvainPartitionsF sweepFuel levelFuel s weighted res threshold perms = .ok (some levels) := by
    rw [C13_model_W_erase, hl]
    rfl
  exact C13_model_levels_monotone_F s h hmulti weighted res threshold perms hw hm hres _ _ levels hF

/-- the statement with the `Option` values spelled out: every level has a defined modularity -/
theorem C13_model_levels_monotone_values (s : Store) (h : s.wf = true) (hmulti : s.specs.multi = false) (weighted : Bool)
    (res threshold : Rat) (perms : List (List Nat))
    (hw : weighted = true → ∀ e ∈ s.allEdges, ∀ w, e.w = some w → 0 ≤ w)
    (hm : 0 < totalWeight s weighted) (hres : 0 ≤ res)
    (levels : List (List (List Nat)))
    (hl : louvainPartitions s weighted res threshold perms = .ok (some levels)) :
    (∃ q, inputModularity s weighted res ((List.range s.numNodes).map fun i => [i]) = some q) ∧
    (∀ l ∈ levels, ∃ q, inputModularity s weighted res l = some q) ∧
    (∀ l0 q0 q1, levels[0]? = some l0 →
      inputModularity s weighted res ((List.range s.numNodes).map fun i => [i]) = some q0 →
      inputModularity s weighted res l0 = some q1 → q0 ≤ q1) ∧
    (∀ i a b qa qb, levels[i]? = some a → levels[i + 1]? = some b →
      inputModularity s weighted res a = some qa → inputModularity s weighted res b = some qb → qa ≤ qb) := by
  obtain ⟨Q, hQ, h0, h1⟩ := C13_model_levels_monotone s h hmulti weighted res threshold perms hw hm hres levels hl
  refine ⟨⟨_, hQ _⟩, fun l _ => ⟨_, hQ l⟩, ?_, ?_⟩
  · intro l0 q0 q1 hl0 e0 e1
    rw [hQ] at e0 e1
    cases e0; cases e1
    exact h0 l0 hl0
  · intro i a b qa qb ha hb ea eb
    rw [hQ] at ea eb
    cases ea; cases eb
    exact h1 i a b ha hb

/-- the all-singletons partition by ranks is the all-singletons partition by names: the rank singletons, mapped to names,
    are a permutation of `[[x] | x ∈ node names]`, and Newman's formula does not depend on the order of the communities -/
theorem C13_singletons_by_name (s : Store) (h : s.wf = true) (weighted : Bool) (res : Rat) :
    inputModularity s weighted res ((List.range s.numNodes).map fun i => [i])
      = Abs.modularitySpec s.specs.directed s.abs (s.abs.nodeNames.map fun x => [x]) weighted res := by
  have hperm : (sortNat s.getAllNodeNames).Perm s.getAllNodeNames := sortNat_perm _
  have hlen : s.numNodes = (sortNat s.getAllNodeNames).length := by
    rw [hperm.length_eq]; exact (List.length_map _).symm
  unfold inputModularity
  rw [hlen, LM.toNames_singletons]
  exact LM.modularitySpec_perm _ _ (hperm.map _) weighted res

/-- an undirected path on 8 nodes, all weights 1 -/
def C13M.exPath : Store := (Store.run ⟨false, false, true, .keepLast, .create, .error⟩
  [Op.addEdge ⟨0, 1, some 1, none⟩, Op.addEdge ⟨1, 2, some 1, none⟩, Op.addEdge ⟨2, 3, some 1, none⟩,
   Op.addEdge ⟨3, 4, some 1, none⟩, Op.addEdge ⟨4, 5, some 1, none⟩, Op.addEdge ⟨5, 6, some 1, none⟩,
   Op.addEdge ⟨6, 7, some 1, none⟩]).1

/-- identity shuffles -/
def C13M.exPerms : List (List Nat) :=
  [[], [0], [0, 1], [0, 1, 2], [0, 1, 2, 3], [0, 1, 2, 3, 4], [0, 1, 2, 3, 4, 5], [0, 1, 2, 3, 4, 5, 6], [0, 1, 2, 3, 4, 5, 6, 7]]

theorem C13M.exPath_hyps : C13M.exPath.wf = true ∧ C13M.exPath.specs.multi = false ∧ C13M.exPath.numNodes = 8 ∧
    (∀ e ∈ C13M.exPath.allEdges, ∀ w, e.w = some w → 0 ≤ w) ∧ totalWeight C13M.exPath true = 7 := by
  -- one `decide` for all conjuncts: the store is evaluated once
  have heval : C13M.exPath.specs.multi = false ∧ C13M.exPath.numNodes = 8 ∧
      C13M.exPath.allEdges.all (fun e => e.w == some 1) = true ∧ C13M.exPath.sizeWeighted = some 7 := by decide +kernel
  obtain ⟨hmulti, hn, hall, hsize⟩ := heval
  refine ⟨Core_reachable_wf _ _, hmulti, hn, ?_, ?_⟩
  · intro e he w hw
    have := beq_iff_eq.1 (List.all_eq_true.1 hall e he)
    rw [this] at hw
    cases hw
    exact Int.one_nonneg
  · show (if true = true then ratW C13M.exPath.sizeWeighted else _) = 7
    rw [if_pos rfl, hsize]
    exact Int.cast_ofNat 7

/-- the model returns two levels on the path ... -/
theorem C13M.exPath_levels :
    louvainPartitions C13M.exPath true 1 (1 / 10000000) C13M.exPerms
      = .ok (some [[[1, 0], [3, 2], [5, 4], [7, 6]], [[3, 2, 1, 0], [7, 6, 5, 4]]]) := by
  decide +kernel

/-- ... the theorem applies to it (hypotheses met, both clauses non-trivially instantiated) ... -/
example : ∃ Q : List (List Nat) → Rat,
    (∀ P, inputModularity C13M.exPath true 1 P = some (Q P)) ∧
    Q ((List.range 8).map fun i => [i]) ≤ Q [[1, 0], [3, 2], [5, 4], [7, 6]] ∧
    Q [[1, 0], [3, 2], [5, 4], [7, 6]] ≤ Q [[3, 2, 1, 0], [7, 6, 5, 4]] := by
  obtain ⟨hwf, hmulti, hn, hw, hm⟩ := C13M.exPath_hyps
  obtain ⟨Q, hQ, h0, h1⟩ := C13_model_levels_monotone C13M.exPath hwf hmulti true 1 (1 / 10000000) C13M.exPerms
    (fun _ => hw) (by rw [hm]; norm_num) (by norm_num) _ C13M.exPath_levels
  rw [hn] at h0
  exact ⟨Q, hQ, h0 _ rfl, h1 0 _ _ rfl rfl⟩

/-- ... and the three values, evaluated by the kernel independently of the theorem: −13/98 ≤ 31/98 ≤ 35/98 -/
example :
    inputModularity C13M.exPath true 1 ((List.range 8).map fun i => [i]) = some (-13 / 98) ∧
    inputModularity C13M.exPath true 1 [[1, 0], [3, 2], [5, 4], [7, 6]] = some (31 / 98) ∧
    inputModularity C13M.exPath true 1 [[3, 2, 1, 0], [7, 6, 5, 4]] = some (5 / 14) := by
  decide +kernel

/-- a directed graph whose node names are not their ranks (10, …, 60), with a self-loop, in unweighted mode,
    resolution 1/2 -/
def C13M.exDir : Store := (Store.run ⟨true, false, true, .keepLast, .create, .error⟩
  [Op.addEdge ⟨10, 20, some 2, none⟩, Op.addEdge ⟨20, 10, some 1, none⟩, Op.addEdge ⟨20, 30, some 1, none⟩,
   Op.addEdge ⟨30, 40, some 3, none⟩, Op.addEdge ⟨40, 30, some 1, none⟩, Op.addEdge ⟨40, 40, some 1, none⟩,
   Op.addEdge ⟨50, 60, some 2, none⟩, Op.addEdge ⟨60, 50, some 2, none⟩, Op.addEdge ⟨60, 10, some 1, none⟩,
   Op.addEdge ⟨30, 50, some 1, none⟩]).1

def C13M.exPermsD : List (List Nat) :=
  [[], [0], [1, 0], [2, 0, 1], [0, 1, 2, 3], [0, 1, 2, 3, 4], [0, 1, 2, 3, 4, 5]]

theorem C13M.exDir_levels :
    louvainPartitions C13M.exDir false (1 / 2) (1 / 10000000) C13M.exPermsD
      = .ok (some [[[1, 0], [3, 2], [5, 4]], [[1, 0, 5, 4], [3, 2]]]) := by
  decide +kernel

example : ∃ Q : List (List Nat) → Rat,
    (∀ P, inputModularity C13M.exDir false (1 / 2) P = some (Q P)) ∧
    Q ((List.range 6).map fun i => [i]) ≤ Q [[1, 0], [3, 2], [5, 4]] ∧
    Q [[1, 0], [3, 2], [5, 4]] ≤ Q [[1, 0, 5, 4], [3, 2]] := by
  have heval : C13M.exDir.specs.multi = false ∧ C13M.exDir.numNodes = 6 ∧ C13M.exDir.sizeUnweighted = 10 := by
    decide +kernel
  obtain ⟨hmulti, hn, hsize⟩ := heval
  have hm : totalWeight C13M.exDir false = 10 := by
    show (if false = true then _ else (C13M.exDir.sizeUnweighted : Rat)) = 10
    rw [if_neg Bool.false_ne_true, hsize]
    exact Nat.cast_ofNat
  obtain ⟨Q, hQ, h0, h1⟩ := C13_model_levels_monotone C13M.exDir (Core_reachable_wf _ _) hmulti false (1 / 2)
    (1 / 10000000) C13M.exPermsD (fun hc => by cases hc) (by rw [hm]; norm_num) (by norm_num) _ C13M.exDir_levels
  rw [hn] at h0
  exact ⟨Q, hQ, h0 _ rfl, h1 0 _ _ rfl rfl⟩

/-- the values: 1/50 ≤ 53/100 ≤ 54/100 (communities `{10,20}`, `{30,40}`, `{50,60}`, then `{10,20,50,60}`, `{30,40}`) -/
example :
    inputModularity C13M.exDir false (1 / 2) ((List.range 6).map fun i => [i]) = some (1 / 50) ∧
    inputModularity C13M.exDir false (1 / 2) [[1, 0], [3, 2], [5, 4]] = some (53 / 100) ∧
    inputModularity C13M.exDir false (1 / 2) [[1, 0, 5, 4], [3, 2]] = some (27 / 50) ∧
    LM.toNames (sortNat C13M.exDir.getAllNodeNames) [1, 0, 5, 4] = [20, 10, 60, 50] := by
  decide +kernel

end Graphrs
