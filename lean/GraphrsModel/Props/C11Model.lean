/-
  C11 (model level) — on a well-formed store of the right kind (undirected, resp. directed; single-edge for `clustering`)
  whose requested names are nodes, what the models of `triangles` and unweighted `clustering` (undirected and directed)
  return for the full node set and for every subset of nodes, what `transitivity` returns, and the coefficient
  `square_clustering` computes for one node of an undirected graph (`Store.squareCoefficient`; the loop over the requested
  names has no theorem here) are the values of the definitions in Spec/Cluster.lean.  `generalized_degree` is in
  Props/C11GenDeg.lean, the weighted forms in Props/C11Weighted.lean.
-/
import GraphrsModel.Props.Core
import GraphrsModel.Props.C11
import GraphrsModel.Lemmas.C11ModelTri
import GraphrsModel.Lemmas.C11ModelSq
import GraphrsModel.Lemmas.C11ModelDir
namespace Graphrs
open C11M

theorem C11_model_neighbors (s : Store) (h : s.wf = true) (hd : s.specs.directed = false) (x : Nat) (hx : s.hasNode x = true) :
    ∃ l, s.getNeighborNodes x = .ok l ∧ ∀ y, y ∈ (l.map (·.name)).filter (· != x) ↔ y ∈ s.abs.N x := by
  have ⟨l, hl, e, _, _⟩ := nbr_ok s h hd x hx
  refine ⟨l, hl, fun y => ?_⟩
  rw [e]
  exact mem_mN s h hd x hx y

/-- **triangles(v) = number of triangles through v**, for every requested subset -/
theorem C11_model_triangles (s : Store) (h : s.wf = true) (hd : s.specs.directed = false) (names : Option (List Nat))
    (hn : ∀ x ∈ requestedU s names, s.hasNode x = true) (m : List (Nat × Nat)) (hm : s.triangles names = .ok m) :
    (∀ x, x ∈ m.map (·.1) ↔ x ∈ requestedU s names) ∧ ∀ x ∈ requestedU s names, alookup m x = some (s.abs.trianglesAt x) := by
  unfold Store.triangles at hm
  simp only [ensureUndirected_pass s hd, ensureHasNodes_requestedU s names hn,
    trianglesAndDegrees_requestedU s h hd names hn, bind, Outcome.bind] at hm
  cases hm
  constructor
  · intro x
    rw [keys_foldl_ainsert, List.map_map, List.map_id'' (f := _ ∘ _) fun _ => rfl, mem_reqT]
    exact or_iff_right List.not_mem_nil
  · apply alookup_tads s names hn _ s.abs.trianglesAt
    intro v hv
    rw [tad_ntri s h hd v hv]
    exact Nat.mul_div_cancel_left _ Nat.two_pos

private theorem two_dvd_mul_pred (d : Nat) : d * (d - 1) = 2 * (d * (d - 1) / 2) :=
  (Nat.two_mul_div_two_of_even (Nat.even_mul_pred_self d)).symm

private theorem cast_mul_pred (d : Nat) : (d : Rat) * ((d : Rat) - 1) = ((d * (d - 1) : Nat) : Rat) := by
  cases d with
  | zero => rw [Nat.zero_mul, Nat.cast_zero, zero_mul]
  | succ n => rw [Nat.cast_mul, Nat.add_sub_cancel, Nat.cast_succ, add_sub_cancel_right]

/-- the code's quotient of doubled counts is the definition's quotient -/
private theorem trans_val (T P : Nat) :
    (if (2 * T == 0) = true then (0 : Rat) else ((2 * T : Nat) : Rat) / ((2 * P : Nat) : Rat))
      = if (T == 0) = true then (0 : Rat) else (T : Rat) / (P : Rat) := by
  by_cases hT0 : T = 0
  · rw [hT0]; rfl
  · rw [if_neg (by rw [beq_iff_eq]; omega), if_neg (by rwa [beq_iff_eq]), Nat.cast_mul, Nat.cast_mul, Nat.cast_two]
    exact mul_div_mul_left _ _ two_ne_zero

private theorem clustering_val (T d : Nat) (hT : T ≤ d * (d - 1) / 2) :
    (if (2 * T == 0) = true then (0 : Rat) else ((2 * T : Nat) : Rat) / ((d : Rat) * ((d : Rat) - 1)))
      = if d < 2 then (0 : Rat) else (T : Rat) / ((d * (d - 1) / 2 : Nat) : Rat) := by
  rw [cast_mul_pred, two_dvd_mul_pred d, Nat.mul_div_cancel_left _ Nat.two_pos, trans_val]
  by_cases hT0 : T = 0
  · rw [hT0, Nat.cast_zero, zero_div, ite_self, ite_self]
  · -- a triangle needs two neighbours
    have hd2 : ¬ d < 2 := fun hd2 => by
      have : d * (d - 1) / 2 = 0 := by
        rcases (by omega : d = 0 ∨ d = 1) with rfl | rfl <;> rfl
      omega
    rw [if_neg (by rwa [beq_iff_eq]), if_neg hd2]

/-- **clustering(v)**, undirected unweighted single-edge graphs -/
theorem C11_model_clustering_undirected (s : Store) (h : s.wf = true) (hd : s.specs.directed = false) (hmul : s.specs.multi = false)
    (names : Option (List Nat)) (hn : ∀ x ∈ requestedU s names, s.hasNode x = true)
    (m : List (Nat × Rat)) (hm : s.clusteringUnweighted names = .ok m) :
    ∀ x ∈ requestedU s names, alookup m x = some (s.abs.clusteringAt x) := by
  unfold Store.clusteringUnweighted at hm
  simp only [ensureNotMulti_pass s hmul, ensureHasNodes_requestedU s names hn,
    trianglesAndDegrees_requestedU s h hd names hn, bind, Outcome.bind, hd, Bool.false_eq_true, if_false] at hm
  cases hm
  apply alookup_tads s names hn _ s.abs.clusteringAt
  intro v hv
  rw [tad_ntri s h hd v hv, tad_degree s h hd v hv]
  exact clustering_val _ _ (C11_triangles_le_pairs s.abs v)

/-- **clustering(v)**, directed unweighted single-edge graphs: the Fagiolo form -/
theorem C11_model_clustering_directed (s : Store) (h : s.wf = true) (hd : s.specs.directed = true) (hmul : s.specs.multi = false)
    (names : Option (List Nat)) (hn : ∀ x ∈ (names.getD s.getAllNodeNames), s.hasNode x = true)
    (m : List (Nat × Rat)) (hm : s.clusteringUnweighted names = .ok m) :
    ∀ x ∈ (names.getD s.getAllNodeNames), alookup m x = some (s.abs.fagioloAt x) := by
  unfold Store.clusteringUnweighted at hm
  simp only [ensureNotMulti_pass s hmul, ensureHasNodes_pass s names (fun l e x hx => hn x (e ▸ hx)),
    directed_ok s h hd names hn, bind, Outcome.bind, hd, if_true] at hm
  cases hm
  intro x hx
  rw [alookup_foldl_ainsert (fun t : Store.DTAD => t.name) _ (fun v => s.abs.fagioloAt v), if_pos]
  · rw [List.map_map]
    exact List.mem_map.2 ⟨x, hx, rfl⟩
  · intro t ht
    obtain ⟨v, hv, rfl⟩ := List.mem_map.1 ht
    have hv' := hn v hv
    show (if (triM s v == 0) = true then (0 : Rat)
      else (triM s v : Rat) / (((((mP s v).length + (mS s v).length : Nat) : Rat)
        * ((((mP s v).length + (mS s v).length : Nat) : Rat) - 1)
        - 2 * ((sinter (mP s v) (mS s v)).length : Rat)) * 2)) = s.abs.fagioloAt v
    rw [tri_eq s h hd v hv', total_eq s h hd v hv', recip_eq s h hd v hv', mul_comm _ (2 : Rat)]
    rfl

private theorem sumNat_map_two_mul {α} (l : List α) (f g : α → Nat) (hfg : ∀ v ∈ l, f v = 2 * g v) :
    sumNat (l.map f) = 2 * sumNat (l.map g) := by
  rw [sumNat_eq_sum, sumNat_eq_sum, ← List.sum_map_mul_left]
  exact congrArg _ (List.map_congr_left hfg)

theorem C11_model_transitivity (s : Store) (h : s.wf = true) (hd : s.specs.directed = false) (t : Rat)
    (ht : s.transitivity = .ok t) : t = s.abs.transitivitySpec := by
  unfold Store.transitivity at ht
  rw [ensureUndirected_pass s hd] at ht
  by_cases hem : s.getAllNodes.isEmpty = true
  · have hnil : s.abs.nodeNames = [] := by
      rw [abs_nodeNames, Store.names, show s.nodesVec = [] from List.isEmpty_iff.1 hem]
      rfl
    simp only [bind, Outcome.bind, if_pos hem] at ht
    cases ht
    rw [Abs.transitivitySpec, hnil]
    rfl
  · simp only [bind, Outcome.bind, if_neg hem, trianglesAndDegrees_requestedU s h hd none (requestedU_none s h)] at ht
    cases ht
    have e1 : sumNat (((reqT s none).map (tadOf s)).map (·.ntri)) = 2 * sumNat (s.names.map s.abs.trianglesAt) := by
      rw [List.map_map]
      exact sumNat_map_two_mul _ _ _ fun v hv => tad_ntri s h hd v ((s.hasNode_names h v).2 hv)
    have e2 : sumNat (((reqT s none).map (tadOf s)).map fun x => x.degree * (x.degree - 1))
        = 2 * sumNat (s.names.map fun v => (s.abs.N v).length * ((s.abs.N v).length - 1) / 2) := by
      rw [List.map_map]
      refine sumNat_map_two_mul _ _ _ fun v hv => ?_
      show (tadOf s v).degree * ((tadOf s v).degree - 1) = _
      rw [tad_degree s h hd v ((s.hasNode_names h v).2 hv)]
      exact two_dvd_mul_pred _
    show (if (_ == 0) = true then (0 : Rat) else _ / _) = _
    rw [e1, e2]
    exact trans_val _ _

/-- the coefficient `square_clustering` computes for one node (`get_coefficient_for_node`), undirected graphs -/
theorem C11_model_square (s : Store) (h : s.wf = true) (hd : s.specs.directed = false) (x : Nat) (hx : s.hasNode x = true)
    (c : Rat) (hc : s.squareCoefficient x = .ok c) : c = s.abs.squareAt x :=
  (Outcome.ok.inj ((squareCoefficient_ok s h hd x hx).symm.trans hc)).symm

/-- the restriction to a subset returns the full computation's values for exactly those nodes -/
theorem C11_model_subset (s : Store) (h : s.wf = true) (hd : s.specs.directed = false) (S : List Nat) (hS : S ≠ [])
    (hn : ∀ x ∈ S, s.hasNode x = true) (mAll mS : List (Nat × Nat))
    (h1 : s.triangles none = .ok mAll) (h2 : s.triangles (some S) = .ok mS) :
    ∀ x ∈ S, alookup mS x = alookup mAll x := by
  have hS' := requestedU_some s hS
  have t1 := (C11_model_triangles s h hd none (requestedU_none s h) mAll h1).2
  have t2 := (C11_model_triangles s h hd (some S) (hS'.symm ▸ hn) mS h2).2
  intro x hx
  rw [t2 x (hS'.symm ▸ hx), t1 x ((s.hasNode_names h x).1 (hn x hx))]

end Graphrs
