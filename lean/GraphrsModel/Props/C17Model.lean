/-
  C17 (model level) — in the step-level Louvain model (Model/LouvainFull.lean) the visit of a node does not depend on
  the order in which the candidate map `weights2com : HashMap<usize, f64>` hands over its entries: the scan and the
  index guards go through the list sorted by community id, `risky` is an `any/any`.  The candidate map the model
  builds has pairwise distinct keys; hence replacing `get_neighbor_weights` by anything that returns a reordering of
  its result changes neither a visit nor `compute_one_level`.
-/
import GraphrsModel.Props.C17
import GraphrsModel.Model.LouvainFull
import GraphrsModel.Lemmas.LouvainVisit
namespace Graphrs
open LouvainFull

/-- **whatever order the hash map yields its entries in, the visit does the same thing** -/
theorem C17_visit_order_independent (lv : Level) (m res : Rat) (st : LState) (u cur : Nat)
    (w1 w2 : List (Nat × Rat)) (hperm : w1.Perm w2) (hkeys : (w1.map (·.1)).Nodup) :
    visitWith lv m res st u cur w1 = visitWith lv m res st u cur w2 := by
  have hS := LF.isort_key_perm_eq w1 w2 hperm hkeys
  have hU : ∀ (gain : Nat → Rat → Rat) (best : Nat × Rat), Louvain.updateBest gain w1 best = Louvain.updateBest gain w2 best :=
    fun gain best => C17_updateBest_order_independent gain w1 w2 best hperm hkeys
  have hA : ∀ p : Nat × Rat → Bool, w1.any p = w2.any p := fun _ => hperm.any_eq
  unfold visitWith
  simp only [hS, hU, hA]

/-- the association list `neighborWeights` returns has distinct keys (it is built with `ainsert`), so the hypothesis
    `hkeys` above is met by the real candidate map - and by every reordering of it -/
theorem C17_neighborWeights_keys_nodup (g : Store) (u : Nat) (node2com : List (Nat × Nat)) (w2c : List (Nat × Rat))
    (h : neighborWeights g u node2com = .ok w2c) :
    (w2c.map (·.1)).Nodup ∧ ∀ w' : List (Nat × Rat), w'.Perm w2c → (w'.map (·.1)).Nodup := by
  have hk := LF.neighborWeights_keys_nodup h
  exact ⟨hk, fun w' hp => ((hp.map (·.1)).nodup_iff).2 hk⟩

/-! ### replacing `get_neighbor_weights` by any reordering of its result -/

/-- `visit` with the candidate map handed over in the order `ρ` puts it -/
def visitR (ρ : List (Nat × Rat) → List (Nat × Rat)) (lv : Level) (m res : Rat) (st : LState) (u : Nat) : Outcome LState := do
  let cur ← Outcome.ofOption "compute_one_level: node2com.get(u).unwrap()" (alookup st.node2com u)
  let w2c ← neighborWeights lv.g u st.node2com
  visitWith lv m res st u cur (ρ w2c)

/-- `sweeps` over `visitR` -/
def sweepsR (ρ : List (Nat × Rat) → List (Nat × Rat)) (lv : Level) (m res : Rat) (order : List Nat) :
    Nat → LState → Outcome (Option LState)
  | 0, _ => .ok none
  | fuel + 1, st => do
    let st' ← order.foldl (fun acc u => do let s ← acc; visitR ρ lv m res s u) (.ok { st with moves := 0 })
    if st'.moves > 0 then sweepsR ρ lv m res order fuel st' else .ok (some st')

/-- `computeOneLevel` over `sweepsR` -/
def computeOneLevelR (ρ : List (Nat × Rat) → List (Nat × Rat)) (lv : Level) (m res : Rat) (partition : List (List Nat))
    (perm : List Nat) (fuel : Nat) : Outcome (Option (List (List Nat) × List (List Nat) × Bool)) := do
  let names := sortNat lv.g.getAllNodeNames
  let di ← degreeInformation lv.g partition.length
  let base := lv.g.getAllNodeNames
  let order := perm.filterMap fun i => base[i]?
  let st0 : LState := { part := partition, inner := names.map fun n => [n], node2com := names.map fun n => (n, n),
                        di := di, improvement := false, moves := 0 }
  match ← sweepsR ρ lv m res order fuel st0 with
  | none => .ok none
  | some st => if st.risky then .ok none else .ok (some (st.part.filter (!·.isEmpty), st.inner.filter (!·.isEmpty), st.improvement))

/-- a visit is the same whatever reordering `ρ` of the candidate map it is given -/
theorem C17_visit_reorder (ρ : List (Nat × Rat) → List (Nat × Rat)) (hρ : ∀ l, (ρ l).Perm l)
    (lv : Level) (m res : Rat) (st : LState) (u : Nat) : visitR ρ lv m res st u = visit lv m res st u := by
  unfold visitR visit
  simp only [bind, Outcome.bind]
  cases h1 : Outcome.ofOption "compute_one_level: node2com.get(u).unwrap()" (alookup st.node2com u) with
  | err k => rfl
  | panic k => rfl
  | ok cur =>
    cases h2 : neighborWeights lv.g u st.node2com with
    | err k => rfl
    | panic k => rfl
    | ok w2c =>
      simp only
      exact C17_visit_order_independent lv m res st u cur (ρ w2c) w2c (hρ w2c)
        ((C17_neighborWeights_keys_nodup lv.g u st.node2com w2c h2).2 _ (hρ w2c))

theorem C17_sweeps_reorder (ρ : List (Nat × Rat) → List (Nat × Rat)) (hρ : ∀ l, (ρ l).Perm l)
    (lv : Level) (m res : Rat) (order : List Nat) (fuel : Nat) (st : LState) :
    sweepsR ρ lv m res order fuel st = sweeps lv m res order fuel st := by
  have hv : visitR ρ lv m res = visit lv m res := by
    funext s u; exact C17_visit_reorder ρ hρ lv m res s u
  induction fuel generalizing st with
  | zero => rfl
  | succ fuel ih =>
    unfold sweepsR sweeps
    simp only [hv, ih]

/-- **`compute_one_level` does not depend on the order in which `get_neighbor_weights` returns the candidates** -/
theorem C17_computeOneLevel_reorder (ρ : List (Nat × Rat) → List (Nat × Rat)) (hρ : ∀ l, (ρ l).Perm l)
    (lv : Level) (m res : Rat) (partition : List (List Nat)) (perm : List Nat) (fuel : Nat) :
    computeOneLevelR ρ lv m res partition perm fuel = computeOneLevel lv m res partition perm fuel := by
  unfold computeOneLevelR computeOneLevel
  simp only [C17_sweeps_reorder ρ hρ]
  -- the two `match`es are different auxiliary matchers with the same unfolding
  rfl

/-! ### the whole seeded run: level loop and `louvain_partitions` -/

/-- `levelLoop` over `computeOneLevelR` -/
def levelLoopR (ρ : List (Nat × Rat) → List (Nat × Rat)) (weighted : Bool) (res threshold m : Rat) (perms : List (List Nat))
    (sweepFuel : Nat) :
    Nat → Level → List (List Nat) → List (List Nat) → Bool → Rat → List (List (List Nat)) → Outcome (Option (List (List (List Nat))))
  | 0, _, _, _, _, _, _ => .ok none
  | fuel + 1, lv, partition, inner, improvement, modularity, acc =>
    if !improvement then .ok (some acc)
    else do
      let acc := acc ++ [partition]
      match ← (lv.g.modularity inner weighted res).unwrap "louvain_partitions: modularity().unwrap()" with
      | none => .ok none
      | some newMod =>
        if newMod - modularity ≤ threshold then .ok (some acc)
        else do
          let lv' ← generateGraph lv inner
          let perm := perms[lv'.g.numNodes]?.getD []
          match ← computeOneLevelR ρ lv' m res partition perm sweepFuel with
          | none => .ok none
          | some (p, i, imp) => levelLoopR ρ weighted res threshold m perms sweepFuel fuel lv' p i imp newMod acc

/-- `louvainPartitions` with every candidate map handed over in the order `ρ` puts it -/
def louvainPartitionsR (ρ : List (Nat × Rat) → List (Nat × Rat)) (s : Store) (weighted : Bool) (res threshold : Rat)
    (perms : List (List Nat)) : Outcome (Option (List (List (List Nat)))) := do
  let lv ← convertGraph s weighted
  let n := lv.g.numNodes
  let partition : List (List Nat) := (List.range n).map fun i => [i]
  match ← (lv.g.modularity partition weighted res).unwrap "louvain_partitions: modularity().unwrap()" with
  | none => .ok none
  | some mod0 =>
    let m : Rat := if weighted then ratW lv.g.sizeWeighted else (lv.g.sizeUnweighted : Rat)
    let sweepFuel := 4 * n * n + 16
    match ← computeOneLevelR ρ lv m res partition (perms[n]?.getD []) sweepFuel with
    | none => .ok none
    | some (p, i, _) => levelLoopR ρ weighted res threshold m perms sweepFuel (n + 2) lv p i true mod0 []

theorem C17_levelLoop_reorder (ρ : List (Nat × Rat) → List (Nat × Rat)) (hρ : ∀ l, (ρ l).Perm l)
    (weighted : Bool) (res threshold m : Rat) (perms : List (List Nat)) (sweepFuel fuel : Nat) (lv : Level)
    (partition inner : List (List Nat)) (improvement : Bool) (modularity : Rat) (acc : List (List (List Nat))) :
    levelLoopR ρ weighted res threshold m perms sweepFuel fuel lv partition inner improvement modularity acc
      = levelLoop weighted res threshold m perms sweepFuel fuel lv partition inner improvement modularity acc := by
  have hc : computeOneLevelR ρ = computeOneLevel := by
    funext lv m res p perm f; exact C17_computeOneLevel_reorder ρ hρ lv m res p perm f
  induction fuel generalizing lv partition inner improvement modularity acc with
  | zero => rfl
  | succ fuel ih =>
    unfold levelLoopR levelLoop
    simp only [hc, ih]
    rfl

/-- **the seeded run as a whole — every level of `louvain_partitions` — is the same for every order in which the
    candidate maps yield their entries**: with the seed's shuffles `perms` fixed, the model's answer is a function of the
    graph and the arguments alone -/
theorem C17_louvainPartitions_reorder (ρ : List (Nat × Rat) → List (Nat × Rat)) (hρ : ∀ l, (ρ l).Perm l)
    (s : Store) (weighted : Bool) (res threshold : Rat) (perms : List (List Nat)) :
    louvainPartitionsR ρ s weighted res threshold perms = louvainPartitions s weighted res threshold perms := by
  have hc : computeOneLevelR ρ = computeOneLevel := by
    funext lv m res p perm f; exact C17_computeOneLevel_reorder ρ hρ lv m res p perm f
  have hl : levelLoopR ρ = levelLoop := by
    funext w r t m ps sf f lv p i imp md acc; exact C17_levelLoop_reorder ρ hρ w r t m ps sf f lv p i imp md acc
  unfold louvainPartitionsR louvainPartitions
  simp only [hc, hl]
  rfl

/-- two calls (two processes, two hash seeds) that hand their candidate maps over in different orders agree -/
theorem C17_louvainPartitions_two_orders (ρ₁ ρ₂ : List (Nat × Rat) → List (Nat × Rat))
    (h₁ : ∀ l, (ρ₁ l).Perm l) (h₂ : ∀ l, (ρ₂ l).Perm l)
    (s : Store) (weighted : Bool) (res threshold : Rat) (perms : List (List Nat)) :
    louvainPartitionsR ρ₁ s weighted res threshold perms = louvainPartitionsR ρ₂ s weighted res threshold perms := by
  rw [C17_louvainPartitions_reorder ρ₁ h₁, C17_louvainPartitions_reorder ρ₂ h₂]

/-- non-vacuity: reversing the candidate map is such a reordering -/
example : ∀ l : List (Nat × Rat), (List.reverse l).Perm l := fun l => List.reverse_perm l

end Graphrs
