/-
  C06 (model level) — the model of `closeness_centrality` (reverse() on directed graphs, level-synchronous BFS or the
  Dijkstra stage of centrality/closeness.rs, `get_node_centrality`) against the definition `ccSpec`.
  Hop counts: equal on every store that satisfies the coupling invariant `Store.wf`.  Positive weights: refuted on `wf`
  alone (`C06_cex_store`); proved when every entry of `successors_vec` carries a weight, hence on every store reached
  through the mutation API.
-/
import GraphrsModel.Props.Core
import GraphrsModel.Props.C04Model
import GraphrsModel.Props.C03Rows
import GraphrsModel.Props.C06
import GraphrsModel.Lemmas.C06Levels
import GraphrsModel.Lemmas.C06Dijkstra
import GraphrsModel.Lemmas.C06Closeness
import GraphrsModel.Lemmas.C06Weighted
namespace Graphrs

def unitArcs (adjOf : Nat → List Adj) (n : Nat) : Arcs :=
  (List.range n).flatMap fun v => (adjOf v).map fun a => (v, a.1, (1 : Int))

/-- weighted arcs of a traversal list (entries without a weight carry none) -/
def weightArcs (adjOf : Nat → List Adj) (n : Nat) : Arcs :=
  (List.range n).flatMap fun v => (adjOf v).filterMap fun a => a.2.map fun c => (v, a.1, c)

theorem mem_unitArcs (adjOf : Nat → List Adj) (n u x : Nat) (w : Int) :
    (u, x, w) ∈ unitArcs adjOf n ↔ (u < n ∧ w = 1 ∧ ∃ a ∈ adjOf u, a.1 = x) := by
  unfold unitArcs
  simp only [List.mem_flatMap, List.mem_range, List.mem_map, Prod.mk.injEq]
  constructor
  · rintro ⟨v, hv, a, ha, e1, e2, e3⟩
    subst e1
    exact ⟨hv, e3.symm, a, ha, e2⟩
  · rintro ⟨hu, hw, a, ha, e⟩
    exact ⟨u, hu, a, ha, rfl, e, hw.symm⟩

theorem mem_weightArcs (adjOf : Nat → List Adj) (n u x : Nat) (w : Int) :
    (u, x, w) ∈ weightArcs adjOf n ↔ (u < n ∧ (x, some w) ∈ adjOf u) := by
  unfold weightArcs
  simp only [List.mem_flatMap, List.mem_range, List.mem_filterMap, Option.map_eq_some_iff, Prod.mk.injEq]
  constructor
  · rintro ⟨v, hv, a, ha, c, hc, e1, e2, e3⟩
    subst e1 e2 e3
    refine ⟨hv, ?_⟩
    rw [← hc]; exact ha
  · rintro ⟨hu, ha⟩
    exact ⟨u, hu, (x, some w), ha, w, rfl, rfl, rfl, rfl⟩

/-- **the level-synchronous BFS of closeness.rs computes exactly the hop distances** -/
theorem C06_ccLevels_exact (adjOf : Nat → List Adj) (n source : Nat) (hsrc : source < n)
    (hidx : ∀ v, v < n → ∀ a ∈ adjOf v, a.1 < n) :
    let res := ccLevels adjOf n (n + 1) [source] [] 0 []
    (res.map (·.1)).Nodup ∧ ∀ v d, (v, d) ∈ res ↔ IsDist (unitArcs adjOf n) source v d :=
  C06L.ccLevels_exact (mem_unitArcs adjOf n) hidx hsrc

/-- **the Dijkstra stage of closeness.rs computes exactly the weighted distances** (positive weights, every entry weighted) -/
theorem C06_ccWeighted_exact (adjOf : Nat → List Adj) (n total source : Nat) (hsrc : source < n)
    (hidx : ∀ v, v < n → ∀ a ∈ adjOf v, a.1 < n)
    (hpos : ∀ v, v < n → ∀ a ∈ adjOf v, ∃ c, a.2 = some c ∧ 0 < c)
    (htotal : sumNat ((List.range n).map fun v => (adjOf v).length) ≤ total) :
    let res := ccWeighted adjOf n total source
    (res.map (·.1)).Nodup ∧ ∀ v d, (v, d) ∈ res ↔ IsDist (weightArcs adjOf n) source v d := by
  have hA : ArcsWf (weightArcs adjOf n) n := by
    intro a ha
    obtain ⟨u, x, w⟩ := a
    obtain ⟨hu, hm⟩ := (mem_weightArcs adjOf n u x w).1 ha
    obtain ⟨c, hc, hpos'⟩ := hpos u hu _ hm
    cases Option.some.inj hc
    exact ⟨hidx u hu _ hm, Int.le_of_lt hpos'⟩
  refine C06D.ccWeighted_exact hA ?_ ?_ ?_ hsrc htotal
  · intro v x w h
    obtain ⟨_, hm⟩ := (mem_weightArcs adjOf n v x w).1 h
    exact mem_rowArcs_true.2 ⟨rfl, hm⟩
  · intro v hv a ha
    obtain ⟨u, x, w⟩ := a
    obtain ⟨e, hm⟩ := mem_rowArcs_true.1 ha
    subst e
    exact (mem_weightArcs adjOf n u x w).2 ⟨hv, hm⟩
  · intro v hv a ha
    obtain ⟨c, hc, _⟩ := hpos v hv a ha
    exact ⟨c, hc⟩

/-- **closeness of the model = the definition**, unweighted, on every well-formed store -/
theorem C06_model_eq_spec_unweighted (s : Store) (h : s.wf = true) (wfFlag : Bool) (m : List (Nat × Rat))
    (hm : s.closeness false wfFlag = .ok m) :
    ∀ u, alookup m u = alookup (ccSpec s.getAllNodeNames (s.abs.arcs s.specs.directed false) wfFlag) u := by
  refine C06C.closeness_generic s h false wfFlag m hm
    (fun g => unitArcs (fun v => g.succVec[v]?.getD []) g.numberOfNodes) (fun _ => True)
    (fun _ => trivial) (fun _ _ _ _ => trivial) ?_ ?_ ?_
  · intro g hg _
    exact C06T.store_sim_unit g hg _ (mem_unitArcs _ _)
  · intro g hg _ _ i hi
    have := C06_ccLevels_exact (fun v => g.succVec[v]?.getD []) g.numberOfNodes i hi
      (fun v _ a ha => C03_indexes_in_range g hg v a (Or.inl ha))
    exact this
  · rintro ⟨x, y, c⟩ ha
    obtain ⟨e, _, hc, _⟩ := (C06T.mem_abs_arcs ..).1 ha
    cases Option.some.inj (show some 1 = some c from hc)
    exact Int.zero_le_ofNat 1

/-! ### weighted closeness

The statement of `C06_model_eq_spec_unweighted` with `closeness true` and the hypothesis
`∀ e ∈ s.allEdges, ∃ c, e.w = some c ∧ 0 < c` is false on some stores that satisfy `Store.wf` but are not reachable
through the mutation API (`C06_model_eq_spec_weighted_counterexample`).

The clause `vecOk` of the coupling invariant compares, per pair of nodes, the *minimum* weight listed in
`successors_vec` with the minimum stored weight, and the `f64` minimum ignores a NaN that is not in first position.  So
`wf` admits a row `[(1, 3.0), (1, NaN)]` next to the single stored edge of weight 3; the model of the Dijkstra stage
(`bcDijkstraLoop`, documented precondition "weights must not be NaN") reads the NaN entry as cost 0 (`adj.2.getD 0`)
and reports distance 0 instead of 3 (the Rust code would propagate the NaN instead; either way not the distance 3).
Such a row cannot be produced by `add_edge` (see `C06W.addEdge_allW`), so the defect is in the strength of `Store.wf`
as a hypothesis, not in the reachable behaviour.  `C06_model_eq_spec_weighted_of_weighted_entries` has the additional
hypothesis that every entry of `successors_vec` carries a weight - needed on undirected graphs only, since on directed
graphs the model runs on `reverse()`, a rebuilt graph, for which the property is proved (`C06W.newFrom_allW`). -/

/-- the counterexample store: the undirected one-edge graph 1 - 2 (weight 3) with a NaN entry appended to row 0 -/
def C06_cex_store : Store :=
  { (Store.run ⟨false, false, false, .keepFirst, .create, .error⟩ [Op.addEdge ⟨1, 2, some 3, none⟩]).1 with
    succVec := [[(1, some 3), (1, none)], [(0, some 3)]] }

/-- on `C06_cex_store` (well-formed, its one edge of weight 3) the model reports closeness 0 for node 1, the definition 1/3 -/
theorem C06_model_eq_spec_weighted_counterexample :
    C06_cex_store.wf = true ∧
    (∀ e ∈ C06_cex_store.allEdges, ∃ c, e.w = some c ∧ 0 < c) ∧
    C06_cex_store.closeness true false = .ok [(1, 0), (2, 1 / 3)] ∧
    alookup (ccSpec C06_cex_store.getAllNodeNames (C06_cex_store.abs.arcs C06_cex_store.specs.directed true) false) 1
      = some (1 / 3) ∧
    alookup [(1, (0 : Rat)), (2, 1 / 3)] 1 ≠ some (1 / 3) := by
  refine ⟨by decide +kernel, ?_, by decide +kernel, by decide +kernel, by decide +kernel⟩
  intro e he
  have : C06_cex_store.allEdges = [⟨1, 2, some 3, none⟩] := by decide +kernel
  rw [this] at he
  simp only [List.mem_singleton] at he
  subst he
  exact ⟨3, rfl, by decide⟩

theorem abs_arc_pos {g : Store} (hpos : ∀ e ∈ g.allEdges, ∃ c, e.w = some c ∧ 0 < c) {x y : Nat} {c : Int}
    (h : (x, y, c) ∈ g.abs.arcs g.specs.directed true) : 0 < c := by
  obtain ⟨e, he, hc, _⟩ := (C06T.mem_abs_arcs ..).1 h
  obtain ⟨c2, hc2, hpos2⟩ := hpos e he
  cases Option.some.inj ((show e.w = some c from hc).symm.trans hc2)
  exact hpos2

theorem totalAdj_bound (g : Store) (hg : g.wf = true) :
    sumNat ((List.range g.numberOfNodes).map fun v => (g.succVec[v]?.getD []).length) ≤ g.totalAdj := by
  have hlen : g.numberOfNodes = g.succVec.length :=
    (C03.names_length g).symm.trans (C03.nodesOk_len g (g.wf_parts hg).1).1.symm
  rw [hlen, Store.totalAdj]
  exact Nat.le_of_eq (congrArg sumNat (List.map_map.symm.trans
    (congrArg (List.map List.length) (C06C.map_range_getD g.succVec []))))

/-- **weighted closeness of the model = the definition** for positive weights, when on undirected graphs every
    entry of `successors_vec` carries a weight (which holds on every store built through the API from weighted edges;
    on directed graphs nothing is asked) -/
theorem C06_model_eq_spec_weighted_of_weighted_entries (s : Store) (h : s.wf = true) (wfFlag : Bool) (m : List (Nat × Rat))
    (hpos : ∀ e ∈ s.allEdges, ∃ c, e.w = some c ∧ 0 < c)
    (hent : s.specs.directed = false → ∀ row ∈ s.succVec, ∀ a ∈ row, ∃ c, a.2 = some c)
    (hm : s.closeness true wfFlag = .ok m) :
    ∀ u, alookup m u = alookup (ccSpec s.getAllNodeNames (s.abs.arcs s.specs.directed true) wfFlag) u := by
  refine C06C.closeness_generic s h true wfFlag m hm
    (fun g => weightArcs (fun v => g.succVec[v]?.getD []) g.numberOfNodes)
    (fun g => C06W.AllW g.succVec ∧ ∀ e ∈ g.allEdges, ∃ c, e.w = some c ∧ 0 < c)
    (fun hd => ⟨hent hd, hpos⟩) ?_ ?_ ?_ ?_
  · -- the rebuilt reversed graph
    intro hd t hrev _
    obtain ⟨t', hrev', _, _, hAbs⟩ := Core_reverse s h hd
    rw [hrev] at hrev'
    cases hrev'
    have hedges : ∀ e ∈ t.allEdges, ∃ c, e.w = some c ∧ 0 < c := by
      intro e he
      have hp := hAbs.edges_perm
      obtain ⟨e0, he0, e1⟩ := List.mem_map.1 (show e ∈ s.allEdges.map Edge.reversed from hp.mem_iff.1 he)
      obtain ⟨c, hc, hc0⟩ := hpos e0 he0
      refine ⟨c, ?_, hc0⟩
      rw [← e1]; exact hc
    refine ⟨?_, hedges⟩
    unfold Store.reverse at hrev
    rw [if_neg (by simp [hd])] at hrev
    apply C06W.newFrom_allW _ _ _ t _ hrev
    intro e he
    rw [List.mem_map] at he
    obtain ⟨e0, he0, e1⟩ := he
    obtain ⟨c, hc, _⟩ := hpos e0 he0
    exact ⟨c, by rw [← e1]; exact hc⟩
  · intro g hg hgood
    exact C06T.store_sim_weighted g hg _ (mem_weightArcs _ _) hgood.1
      (fun e he => by obtain ⟨c, hc, _⟩ := hgood.2 e he; exact ⟨c, hc⟩)
  · intro g hg hgood S i hi
    have := C06_ccWeighted_exact (fun v => g.succVec[v]?.getD []) g.numberOfNodes g.totalAdj i hi
      (fun v _ a ha => C03_indexes_in_range g hg v a (Or.inl ha))
      (by
        intro v hv a ha
        obtain ⟨row, hrow, har⟩ := C06T.row_mem_succVec g v a ha
        obtain ⟨c, hc⟩ := hgood.1 row hrow a har
        refine ⟨c, hc, ?_⟩
        have hmem : (v, a.1, c) ∈ weightArcs (fun v => g.succVec[v]?.getD []) g.numberOfNodes := by
          rw [mem_weightArcs]
          refine ⟨hv, ?_⟩
          rw [← hc]; exact ha
        obtain ⟨x, y, c', _, _, hle, harc⟩ := S.d1 _ _ _ hmem
        exact Int.lt_of_lt_of_le (abs_arc_pos hgood.2 harc) hle)
      (totalAdj_bound g hg)
    exact this
  · exact fun a ha => Int.le_of_lt (abs_arc_pos hpos ha)

/-- on every store reached by a history that only adds weighted edges the extra hypothesis holds, so the statement is
    unconditional there -/
theorem C06_model_eq_spec_weighted_reachable (sp : Specs) (ops : List Op) (hops : ∀ op ∈ ops, C06W.opWeighted op)
    (wfFlag : Bool) (m : List (Nat × Rat))
    (hpos : ∀ e ∈ (Store.run sp ops).1.allEdges, ∃ c, e.w = some c ∧ 0 < c)
    (hm : (Store.run sp ops).1.closeness true wfFlag = .ok m) :
    ∀ u, alookup m u =
      alookup (ccSpec (Store.run sp ops).1.getAllNodeNames
        ((Store.run sp ops).1.abs.arcs (Store.run sp ops).1.specs.directed true) wfFlag) u :=
  C06_model_eq_spec_weighted_of_weighted_entries _ (Core_reachable_wf sp ops) wfFlag m hpos
    (fun _ => C06W.run_allW sp ops hops) hm

/-- **weighted closeness of the model = the definition on every reachable store** whose stored edges have positive
    weights - no hypothesis on the history (compare `C06_model_eq_spec_weighted_reachable`, which asks every operation of
    the history to add weighted edges only, and `C06_model_eq_spec_weighted_of_weighted_entries`, which assumes the
    entries are weighted): the entry-level invariant `Store.entOk` of Props/C03Rows holds on every reachable store -/
theorem C06_model_eq_spec_weighted_any_history (sp : Specs) (ops : List Op) (wfFlag : Bool) (m : List (Nat × Rat))
    (hpos : ∀ e ∈ (Store.run sp ops).1.allEdges, ∃ c, e.w = some c ∧ 0 < c)
    (hm : (Store.run sp ops).1.closeness true wfFlag = .ok m) :
    ∀ u, alookup m u =
      alookup (ccSpec (Store.run sp ops).1.getAllNodeNames
        ((Store.run sp ops).1.abs.arcs (Store.run sp ops).1.specs.directed true) wfFlag) u :=
  C06_model_eq_spec_weighted_of_weighted_entries _ (Core_reachable_wf sp ops) wfFlag m hpos
    (fun _ => (C03_entries_weighted _ (C03_rows_reachable sp ops)
      (fun e he => by obtain ⟨c, hc, _⟩ := hpos e he; exact ⟨c, hc⟩)).1) hm

/-- the model never fails on a well-formed store (the `reverse().unwrap()` and `get_node_by_index().unwrap()` sites are
    not reached): the hop-count instance of `C06C.closeness_ok`, which holds in both modes -/
theorem C06_closeness_unweighted_ok (s : Store) (h : s.wf = true) (wfFlag : Bool) :
    ∃ m, s.closeness false wfFlag = .ok m :=
  C06C.closeness_ok s h false wfFlag

/-- **the Bellman-Ford bound behind `ccSpec`** (which runs `distFrom arcs n s` without testing `isClosed`): on a
    well-formed store, `n = number of nodes` rounds of relaxation over the abstract arcs give exactly the shortest
    distances from every node, provided the costs are non-negative; in particular the labelling is closed -/
theorem C06_distFrom_exact (s : Store) (h : s.wf = true) (weighted : Bool)
    (hnn : ∀ a ∈ s.abs.arcs s.specs.directed weighted, 0 ≤ a.2.2) (src : Nat) (hsrc : src ∈ s.getAllNodeNames) :
    (∀ t d, alookup (Arcs.distFrom (s.abs.arcs s.specs.directed weighted) s.getAllNodeNames.length src) t = some d ↔
      IsDist (s.abs.arcs s.specs.directed weighted) src t d) ∧
    isClosed (s.abs.arcs s.specs.directed weighted)
      (Arcs.distFrom (s.abs.arcs s.specs.directed weighted) s.getAllNodeNames.length src) = true :=
  ⟨C06B.distFrom_exact s.names _ src (s.names_nodup h) hsrc (C06C.arcs_endpoints s h _ _) hnn,
   C06B.distFrom_closed s.names _ src (s.names_nodup h) hsrc (C06C.arcs_endpoints s h _ _) hnn⟩

/-- non-vacuity: a directed multigraph with parallel arcs of different weights, a cycle and an isolated node -/
example :
    let sp : Specs := ⟨true, true, false, .keepFirst, .create, .error⟩
    let s := (Store.run sp [Op.addEdge ⟨1, 2, some 2, none⟩, Op.addEdge ⟨2, 3, some 1, none⟩, Op.addEdge ⟨1, 3, some 5, none⟩,
      Op.addEdge ⟨1, 3, some 4, none⟩, Op.addEdge ⟨3, 1, some 1, none⟩, Op.addNode ⟨7, none⟩]).1
    (s.closeness true true).toOption = some [(1, 4 / 9), (2, 4 / 15), (3, 1 / 3), (7, 0)] ∧
    ccSpec s.getAllNodeNames (s.abs.arcs true true) true = [(1, 4 / 9), (2, 4 / 15), (3, 1 / 3), (7, 0)] ∧
    (s.closeness false false).toOption = some [(1, 2 / 3), (2, 2 / 3), (3, 1), (7, 0)] ∧
    ccSpec s.getAllNodeNames (s.abs.arcs true false) false = [(1, 2 / 3), (2, 2 / 3), (3, 1), (7, 0)] := by
  decide +kernel

end Graphrs
