/-
  C09 / C12 at model level: the weighted degree functions of the model return the abstract weighted degrees on every
  well-formed store, and the modularity of the model, weighted or not, is Newman's formula (`Abs.modularitySpec`) for
  every true partition. The model is first shown equal to a pure `Option Rat` expression over the abstract graph
  (`C12W.model_eq`), which double counting in `Option Rat` then turns into the formula (`C12W.gen_eq_spec`).
-/
import GraphrsModel.Props.C09Model
import GraphrsModel.Props.C12
namespace Graphrs


/-- weighted degree: in + out weight for a directed graph; for an undirected graph the weight of the touching edges with
    a self-loop counted twice; `none` (NaN) as soon as one of the edges has no weight -/
theorem C09_model_weighted_degree (s : Store) (h : s.wf = true) (x : Nat) :
    s.getNodeWeightedDegree x = (if s.hasNode x then some (s.abs.weightedDegree s.specs.directed x) else none) := by
  cases hx : s.hasNode x
  · simp only [Store.getNodeWeightedDegree, C09M.edgesForNode_absent s x hx]
    rfl
  · obtain ⟨l, hl, hdir, hundir⟩ := C09M.edgesForNode_abs s h x hx
    simp only [Store.getNodeWeightedDegree, hl, if_true, C12W.store_sumW_eq]
    cases hd : s.specs.directed
    · rw [C12W.sumW_perm (hundir hd).1, C12W.sumW_perm (hundir hd).2]
      rfl
    · rw [C12W.sumW_perm (hdir hd), C12W.sumW_append]
      exact congrArg some (C12W.W_add_zero _)

theorem C09_model_weighted_in_out_degree (s : Store) (h : s.wf = true) (x : Nat) :
    s.getNodeWeightedInDegree x = (if s.specs.directed && s.hasNode x then some (Abs.sumW (s.abs.inEdges x)) else none) ∧
    s.getNodeWeightedOutDegree x = (if s.specs.directed && s.hasNode x then some (Abs.sumW (s.abs.outEdges x)) else none) := by
  cases hc : s.specs.directed && s.hasNode x
  · obtain ⟨⟨k1, h1⟩, ⟨k2, h2⟩⟩ := C09M.inOutEdges_err s x hc
    simp only [Store.getNodeWeightedInDegree, Store.getNodeWeightedOutDegree, h1, h2]
    exact ⟨rfl, rfl⟩
  · rw [Bool.and_eq_true] at hc
    obtain ⟨l1, hl1, hp1⟩ := C02_inEdges s h hc.1 x hc.2
    obtain ⟨l2, hl2, hp2⟩ := C02_outEdges s h hc.1 x hc.2
    simp only [Store.getNodeWeightedInDegree, Store.getNodeWeightedOutDegree, hl1, hl2, C12W.store_sumW_eq,
      C12W.sumW_perm hp1, C12W.sumW_perm hp2]
    exact ⟨rfl, rfl⟩

namespace C12W

theorem degMapW (s : Store) (h : s.wf = true) :
    s.getWeightedDegreeForAllNodes = .ok (s.names.map fun x => (x, s.abs.weightedDegree s.specs.directed x)) :=
  C09M.forAllNodes_wf s h _ _ _ fun x hx => by rw [C09_model_weighted_degree s h x, hx]; rfl

theorem inDegMapW (s : Store) (h : s.wf = true) (hd : s.specs.directed = true) :
    s.getWeightedInDegreeForAllNodes = .ok (s.names.map fun x => (x, Abs.sumW (s.abs.inEdges x))) := by
  rw [Store.getWeightedInDegreeForAllNodes, hd]
  exact C09M.forAllNodes_wf s h _ _ _ fun x hx => by rw [(C09_model_weighted_in_out_degree s h x).1, hd, hx]; rfl

theorem outDegMapW (s : Store) (h : s.wf = true) (hd : s.specs.directed = true) :
    s.getWeightedOutDegreeForAllNodes = .ok (s.names.map fun x => (x, Abs.sumW (s.abs.outEdges x))) := by
  rw [Store.getWeightedOutDegreeForAllNodes, hd]
  exact C09M.forAllNodes_wf s h _ _ _ fun x hx => by rw [(C09_model_weighted_in_out_degree s h x).2, hd, hx]; rfl

end C12W

/-- the `*_for_all_nodes` maps: no panic, one entry per node, the abstract value -/
theorem C09_model_weighted_degree_map (s : Store) (h : s.wf = true) :
    ∃ m, s.getWeightedDegreeForAllNodes = .ok m ∧
      ∀ x, alookup m x = (if s.hasNode x then some (s.abs.weightedDegree s.specs.directed x) else none) :=
  ⟨_, C12W.degMapW s h, C09M.lookup_names_map s h _⟩


namespace C12W

attribute [local instance] ratMonoid

/-- the (possibly undefined) weight sum of an edge list, as the specification computes it -/
def S (wt : Bool) (es : List Edge) : Option Rat := Store.sumOpt (es.map (Abs.wOf wt))

theorem S_perm (wt : Bool) {l1 l2 : List Edge} (p : l1.Perm l2) : S wt l1 = S wt l2 :=
  sumOpt_perm (p.map _)

theorem S_false (es : List Edge) : S false es = some (es.length : Rat) := by
  rw [S, sumOpt_map_congr_some es (Abs.wOf false) (fun _ => 1) fun e _ => rfl]
  simp

theorem S_true (es : List Edge) : S true es = Store.wRat (Abs.sumW es) :=
  (wRat_sumW es).symm

theorem lc_eq (wt : Bool) (es : List Edge) :
    (if wt then Store.sumOpt (es.map fun e => Store.wRat e.w) else some ((es.length : Nat) : Rat)) = S wt es := by
  cases wt
  · exact (S_false es).symm
  · exact congrArg Store.sumOpt (List.map_congr_left fun e _ => (wOf_true e).symm)

/-- one community's term of the model -/
def contrib (res : Rat) (lc m o i nm : Option Rat) : Option Rat :=
  match lc, m, o, i, nm with
  | some lc, some m, some o, some i, some nm => if m == 0 then none else some (lc / m - res * o * i * nm)
  | _, _, _, _, _ => none

/-- the degree of `x` as the model of `modularity` holds it for an undirected graph: incoming plus outgoing weight -/
def deg (wt : Bool) (a : Abs) (x : Nat) : Option Rat := S wt (a.inEdges x) + S wt (a.outEdges x)

theorem deg_false (dir : Bool) (a : Abs) (x : Nat) : some ((a.degree dir x : Nat) : Rat) = deg false a x := by
  rw [deg, S_false, S_false, C09_degree_eq_in_add_out, Nat.cast_add]
  rfl

theorem deg_true (dir : Bool) (a : Abs) (x : Nat) : Store.wRat (a.weightedDegree dir x) = deg true a x := by
  rw [deg, S_true, S_true, C09_weightedDegree_eq, wRat_add]
  rfl

theorem commFold (site : String) (D : List (Nat × Option Rat)) (comm : List Nat) (g : Nat → Option Rat)
    (hD : ∀ n ∈ comm, alookup D n = some (g n)) :
    comm.foldl (fun a n => do
      let t ← a
      let d ← Outcome.ofOption site (alookup D n)
      Outcome.ok (match t, d with | some x, some y => some (x + y) | _, _ => none)) (.ok (some (0 : Rat)))
      = .ok (Store.sumOpt (comm.map g)) := by
  rw [Outcome.foldl_ok_pure _ (fun t n => oadd t (g n)) comm fun t n hn => by
    simp only [bind, Outcome.bind, hD n hn, Outcome.ofOption]; rfl]
  rw [sumOpt_eq_sum, List.sum_eq_foldl, List.foldl_map]
  rfl

/-- one community's term of the model, from the weight `m`, the factor `nm` and the per-node degrees -/
def term (res : Rat) (wt : Bool) (a : Abs) (m nm : Option Rat) (Do Di : Nat → Option Rat) (c : List Nat) : Option Rat :=
  contrib res (S wt (a.edges.filter fun e => c.contains e.u && c.contains e.v)) m
    (Store.sumOpt (c.map Do)) (Store.sumOpt (c.map Di)) nm

/-- the degree map `modularity` reads on an undirected store, as a map to `Option Rat` -/
theorem degRatMap (s : Store) (h : s.wf = true) (wt : Bool) :
    (if wt = true then Outcome.map' (fun m => List.map (fun kv => (kv.1, Store.wRat kv.2)) m) s.getWeightedDegreeForAllNodes
      else Outcome.map' (fun m => List.map (fun kv => (kv.1, some (kv.2 : Rat))) m) s.getDegreeForAllNodes)
      = .ok (s.names.map fun x => (x, deg wt s.abs x)) := by
  cases wt
  · rw [if_neg Bool.false_ne_true, C09M.degMap s h]
    simp only [Outcome.map', List.map_map, Function.comp_def, deg_false]
  · rw [if_pos rfl, degMapW s h]
    simp only [Outcome.map', List.map_map, Function.comp_def, deg_true]

/-- the in- and out-degree maps `modularity` reads on a directed store, as maps to `Option Rat` -/
theorem outRatMap (s : Store) (h : s.wf = true) (hd : s.specs.directed = true) (wt : Bool) :
    (if wt = true then Outcome.map' (fun m => List.map (fun kv => (kv.1, Store.wRat kv.2)) m) s.getWeightedOutDegreeForAllNodes
      else Outcome.map' (fun m => List.map (fun kv => (kv.1, some (kv.2 : Rat))) m) s.getOutDegreeForAllNodes)
      = .ok (s.names.map fun x => (x, S wt (s.abs.outEdges x))) := by
  cases wt
  · rw [if_neg Bool.false_ne_true, C09M.outDegMap s h hd]
    simp only [Outcome.map', List.map_map, Function.comp_def, S_false]
  · rw [if_pos rfl, outDegMapW s h hd]
    simp only [Outcome.map', List.map_map, Function.comp_def, S_true]

theorem inRatMap (s : Store) (h : s.wf = true) (hd : s.specs.directed = true) (wt : Bool) :
    (if wt = true then Outcome.map' (fun m => List.map (fun kv => (kv.1, Store.wRat kv.2)) m) s.getWeightedInDegreeForAllNodes
      else Outcome.map' (fun m => List.map (fun kv => (kv.1, some (kv.2 : Rat))) m) s.getInDegreeForAllNodes)
      = .ok (s.names.map fun x => (x, S wt (s.abs.inEdges x))) := by
  cases wt
  · rw [if_neg Bool.false_ne_true, C09M.inDegMap s h hd]
    simp only [Outcome.map', List.map_map, Function.comp_def, S_false]
  · rw [if_pos rfl, inDegMapW s h hd]
    simp only [Outcome.map', List.map_map, Function.comp_def, S_true]

/-- the model of `modularity` as a pure expression over the abstract graph: the weight `m`, the factor `norm` and
    the community terms, from the per-node degrees as the model sums them -/
def gen (dir : Bool) (a : Abs) (wt : Bool) (comms : List (List Nat)) (res : Rat) : Option Rat :=
  let nrm := fun d : Rat => if d == 0 then (0 : Rat) else 1 / d * (1 / d)
  if dir then
    let m := Store.sumOpt (a.nodeNames.map fun x => S wt (a.outEdges x))
    Store.sumOpt (comms.map (term res wt a m (m.map nrm) (fun x => S wt (a.outEdges x)) fun x => S wt (a.inEdges x)))
  else
    let d := Store.sumOpt (a.nodeNames.map (deg wt a))
    Store.sumOpt (comms.map (term res wt a (d.map (· / 2)) (d.map nrm) (deg wt a) (deg wt a)))

theorem subgraph_edges (s : Store) (h : s.wf = true) (c : List Nat) :
    ∃ t, s.getSubgraph c = .ok t ∧ t.allEdges.Perm (s.abs.edges.filter fun e => c.contains e.u && c.contains e.v) := by
  obtain ⟨t, h1, _, _, h4⟩ := Core_subgraph s h c
  exact ⟨t, h1, h4.edges_perm⟩

theorem partition_names (s : Store) (h : s.wf = true) (comms : List (List Nat))
    (hp : s.isPartition comms = true) (hsets : ∀ c ∈ comms, c.Nodup) : ∀ c ∈ comms, ∀ x ∈ c, x ∈ s.names := by
  have := (C12_is_partition_iff s comms (Store.names_nodup _ h) (s.hasNode_names h) hsets).1 hp
  exact fun c hc x hx => this.2.1 x (List.mem_flatMap.mpr ⟨c, hc, hx⟩)

theorem model_eq (s : Store) (h : s.wf = true) (comms : List (List Nat)) (wt : Bool) (res : Rat)
    (hp : s.isPartition comms = true) (hsets : ∀ c ∈ comms, c.Nodup) :
    s.modularity comms wt res = .ok (gen s.specs.directed s.abs wt comms res) := by
  have hnames := partition_names s h comms hp hsets
  unfold Store.modularity
  rw [hp, if_neg (by decide)]
  dsimp only
  cases hd : s.specs.directed
  · -- the degree maps first, on their own: a `simp` over the whole loop body is slow to check
    conv =>
      lhs
      arg 1
      simp only [Bool.false_eq_true, if_false, degRatMap s h wt, Outcome.ok_bind, pure, List.map_map, Function.comp_def]
    rw [Outcome.ok_bind, C02.foldl_ok_append _ (fun c => [term res wt s.abs
        ((Store.sumOpt (s.names.map fun x => deg wt s.abs x)).map fun x => x / 2)
        ((Store.sumOpt (s.names.map fun x => deg wt s.abs x)).map fun m => if m == 0 then 0 else 1 / m * (1 / m))
        (deg wt s.abs) (deg wt s.abs) c]) comms []]
    · simp only [List.nil_append, ← List.map_eq_flatMap, Outcome.ok_bind]
      rfl
    · intro c hc acc
      obtain ⟨t, ht, hperm⟩ := subgraph_edges s h c
      -- one pass of the loop, bind by bind (`erw`: the loop body and `commFold` name the same match differently)
      rw [Outcome.ok_bind, ht, Outcome.ok_bind]
      erw [commFold _ _ c (deg wt s.abs) fun n hn => C09M.lookup_of_mem s.names _ n (hnames c hc n hn)]
      rw [Outcome.ok_bind, if_neg Bool.false_ne_true, Outcome.ok_bind, lc_eq, S_perm wt hperm]
      rfl
  · conv =>
      lhs
      arg 1
      simp only [if_true, outRatMap s h hd wt, inRatMap s h hd wt, Outcome.unwrap, Outcome.ok_bind, pure, List.map_map,
        Function.comp_def]
    rw [Outcome.ok_bind, C02.foldl_ok_append _ (fun c => [term res wt s.abs
        (Store.sumOpt (s.names.map fun x => S wt (s.abs.outEdges x)))
        ((Store.sumOpt (s.names.map fun x => S wt (s.abs.outEdges x))).map fun m => if m == 0 then 0 else 1 / m * (1 / m))
        (fun x => S wt (s.abs.outEdges x)) (fun x => S wt (s.abs.inEdges x)) c]) comms []]
    · simp only [List.nil_append, ← List.map_eq_flatMap, Outcome.ok_bind]
      rfl
    · intro c hc acc
      obtain ⟨t, ht, hperm⟩ := subgraph_edges s h c
      rw [Outcome.ok_bind, ht, Outcome.ok_bind]
      erw [commFold _ _ c (fun x => S wt (s.abs.outEdges x)) fun n hn =>
        C09M.lookup_of_mem s.names _ n (hnames c hc n hn)]
      rw [Outcome.ok_bind, if_pos rfl]
      erw [commFold _ _ c (fun x => S wt (s.abs.inEdges x)) fun n hn =>
        C09M.lookup_of_mem s.names _ n (hnames c hc n hn)]
      rw [Outcome.ok_bind, lc_eq, S_perm wt hperm]
      rfl

theorem sumO_wOf (wt : Bool) (es : List Edge) : Abs.sumO (es.map (Abs.wOf wt)) = S wt es := rfl

theorem contrib_none_m (res : Rat) (lc o i nm : Option Rat) : contrib res lc none o i nm = none := by
  cases lc <;> rfl

theorem contrib_zero_m (res : Rat) (lc o i nm : Option Rat) : contrib res lc (some 0) o i nm = none := by
  cases lc <;> cases o <;> cases i <;> cases nm <;> rfl

theorem S_by_set (wt : Bool) (es : List Edge) (f : Edge → Nat) (c : List Nat) (hc : c.Nodup) :
    Store.sumOpt (c.map fun x => S wt (es.filter fun e => f e == x)) = S wt (es.filter fun e => c.contains (f e)) := by
  simp only [S, sumOpt_eq_sum]
  exact C09M.sum_by_set es f (Abs.wOf wt) c hc

theorem S_by_key (wt : Bool) (es : List Edge) (f : Edge → Nat) (c : List Nat) (hc : c.Nodup) (hf : ∀ e ∈ es, f e ∈ c) :
    Store.sumOpt (c.map fun x => S wt (es.filter fun e => f e == x)) = S wt es := by
  simp only [S, sumOpt_eq_sum]
  exact C09M.sum_by_key es f (Abs.wOf wt) c hc hf

theorem sumOpt_deg (wt : Bool) (a : Abs) (c : List Nat) :
    Store.sumOpt (c.map (deg wt a))
      = Store.sumOpt (c.map fun x => S wt (a.edges.filter fun e => e.v == x))
        + Store.sumOpt (c.map fun x => S wt (a.edges.filter fun e => e.u == x)) := by
  simp only [sumOpt_eq_sum]
  exact List.sum_map_add

theorem gen_eq_spec (dir : Bool) (a : Abs) (hv : a.Valid) (wt : Bool) (comms : List (List Nat)) (res : Rat)
    (hsets : ∀ c ∈ comms, c.Nodup) (hne : comms ≠ []) :
    gen dir a wt comms res = Abs.modularitySpec dir a comms wt res := by
  have hout := S_by_key wt a.edges (·.u) a.nodeNames hv.1 fun e he => (hv.2 e he).1
  have hin := S_by_key wt a.edges (·.v) a.nodeNames hv.1 fun e he => (hv.2 e he).2
  unfold Abs.modularitySpec
  simp only [sumO_wOf]
  -- in each case three cases of the total weight: undefined, 0 (every term is `none`), non-zero
  cases dir
  · conv_lhs => simp only [gen, Bool.false_eq_true, if_false, sumOpt_deg, hout, hin]
    cases hT : S wt a.edges with
    | none => exact sumOpt_all_none comms hne _ fun c _ => contrib_none_m ..
    | some t =>
      have half : (t + t) / 2 = t := by ring
      by_cases ht : t = 0
      · subst ht
        simp only [some_add_some, Option.map_some, half, beq_self_eq_true, if_true]
        exact sumOpt_all_none comms hne _ fun c _ => contrib_zero_m ..
      · have hb : (t == 0) = false := beq_false_of_ne ht
        have hb2 : (t + t == 0) = false := beq_false_of_ne (by rw [← two_mul]; exact mul_ne_zero two_ne_zero ht)
        simp only [some_add_some, Option.map_some, half, hb, Bool.false_eq_true, if_false]
        refine congrArg Store.sumOpt (List.map_congr_left fun c hc => ?_)
        rw [term, sumOpt_deg, S_by_set wt a.edges (·.u) c (hsets c hc), S_by_set wt a.edges (·.v) c (hsets c hc)]
        cases S wt (a.edges.filter fun e => c.contains e.u && c.contains e.v) with
        | none => rfl
        | some lc =>
          cases S wt (a.edges.filter fun e => c.contains e.u) with
          | none => cases S wt (a.edges.filter fun e => c.contains e.v) <;> rfl
          | some o =>
            cases S wt (a.edges.filter fun e => c.contains e.v) with
            | none => rfl
            | some i =>
              simp only [some_add_some, contrib, hb, hb2, Bool.false_eq_true, if_false]
              congr 1
              ring
  · conv_lhs => simp only [gen, if_true, Abs.outEdges, Abs.inEdges, hout]
    cases hT : S wt a.edges with
    | none => exact sumOpt_all_none comms hne _ fun c _ => contrib_none_m ..
    | some t =>
      by_cases ht : t = 0
      · subst ht
        simp only [Option.map_some, beq_self_eq_true, if_true]
        exact sumOpt_all_none comms hne _ fun c _ => contrib_zero_m ..
      · have hb : (t == 0) = false := beq_false_of_ne ht
        simp only [Option.map_some, hb, Bool.false_eq_true, if_false]
        refine congrArg Store.sumOpt (List.map_congr_left fun c hc => ?_)
        rw [term, S_by_set wt a.edges (·.u) c (hsets c hc), S_by_set wt a.edges (·.v) c (hsets c hc)]
        cases S wt (a.edges.filter fun e => c.contains e.u && c.contains e.v) with
        | none => rfl
        | some lc =>
          cases S wt (a.edges.filter fun e => c.contains e.u) with
          | none => cases S wt (a.edges.filter fun e => c.contains e.v) <;> rfl
          | some o =>
            cases S wt (a.edges.filter fun e => c.contains e.v) with
            | none => rfl
            | some i =>
              simp only [contrib, hb, Bool.false_eq_true, if_false]
              congr 1
              ring

end C12W

/-- **weighted modularity of the model = Newman's formula**, for every true partition (sets given as duplicate-free lists)
    with at least one community; this includes the degenerate answers: `none` (the f64 code returns NaN) when an edge
    has no weight or the total weight is 0 -/
theorem C12_model_modularity_weighted (s : Store) (h : s.wf = true) (comms : List (List Nat)) (res : Rat)
    (hp : s.isPartition comms = true) (hsets : ∀ c ∈ comms, c.Nodup) (hne : comms ≠ []) :
    s.modularity comms true res = .ok (Abs.modularitySpec s.specs.directed s.abs comms true res) := by
  rw [C12W.model_eq s h comms true res hp hsets,
    C12W.gen_eq_spec _ _ (C09_model_abs_valid s h) true comms res hsets hne]

/-- the unweighted case, with its degenerate answer: no edges (m = 0) gives `none` on both sides -/
theorem C12_model_modularity_unweighted_total (s : Store) (h : s.wf = true) (comms : List (List Nat)) (res : Rat)
    (hp : s.isPartition comms = true) (hsets : ∀ c ∈ comms, c.Nodup) (hne : comms ≠ []) :
    s.modularity comms false res = .ok (Abs.modularitySpec s.specs.directed s.abs comms false res) := by
  rw [C12W.model_eq s h comms false res hp hsets,
    C12W.gen_eq_spec _ _ (C09_model_abs_valid s h) false comms res hsets hne]

/-- unweighted modularity of the model = Newman's formula, for every true partition of a graph with at least one edge -/
theorem C12_model_modularity_unweighted (s : Store) (h : s.wf = true) (comms : List (List Nat)) (res : Rat)
    (hp : s.isPartition comms = true) (hsets : ∀ c ∈ comms, c.Nodup) (hm : s.abs.edges ≠ []) :
    s.modularity comms false res = .ok (Abs.modularitySpec s.specs.directed s.abs comms false res) := by
  refine C12_model_modularity_unweighted_total s h comms res hp hsets ?_
  -- an edge has an end point, which a true partition covers: there is a community
  rintro rfl
  obtain ⟨e, he⟩ := List.exists_mem_of_ne_nil _ hm
  have hcover := ((C12_is_partition_iff s [] (Store.names_nodup _ h) (s.hasNode_names h) hsets).1 hp).2.2
  exact List.not_mem_nil (hcover e.u ((C09_model_abs_valid s h).2 e he).1)

/-- non-vacuity: a weighted directed multigraph with a self-loop and two communities -/
example :
    let s := (Store.run { directed := true, multi := true, selfLoops := true, dedupe := .keepLast, missing := .create, slFalse := .error }
      [.addEdge ⟨1, 2, some 5, none⟩, .addEdge ⟨2, 1, some 3, none⟩, .addEdge ⟨2, 2, some 4, none⟩, .addEdge ⟨1, 2, some 1, none⟩,
       .addEdge ⟨3, 1, some 2, none⟩]).1
    s.wf = true ∧ s.isPartition [[1, 2], [3]] = true ∧
      s.modularity [[1, 2], [3]] true 1 = .ok (Abs.modularitySpec true s.abs [[1, 2], [3]] true 1) ∧
      Abs.modularitySpec true s.abs [[1, 2], [3]] true 1 ≠ none := by
  intro s
  have h : s.wf = true ∧ s.isPartition [[1, 2], [3]] = true ∧ Abs.modularitySpec true s.abs [[1, 2], [3]] true 1 ≠ none := by
    decide +kernel
  exact ⟨h.1, h.2.1, C12_model_modularity_weighted s h.1 [[1, 2], [3]] 1 h.2.1 (by decide) (by decide), h.2.2⟩


/-- the same instance with both sides evaluated by the kernel (independent of the theorem above) -/
example :
    let s := (Store.run { directed := true, multi := true, selfLoops := true, dedupe := .keepLast, missing := .create, slFalse := .error }
      [.addEdge ⟨1, 2, some 5, none⟩, .addEdge ⟨2, 1, some 3, none⟩, .addEdge ⟨2, 2, some 4, none⟩, .addEdge ⟨1, 2, some 1, none⟩,
       .addEdge ⟨3, 1, some 2, none⟩]).1
    (s.modularity [[1, 2], [3]] true 1).toOption = some (Abs.modularitySpec true s.abs [[1, 2], [3]] true 1) ∧
      Abs.modularitySpec true s.abs [[1, 2], [3]] true 1 = some 0 ∧
      (s.modularity [[1, 2], [3]] true (1 / 2)).toOption = some (some (13 / 30)) ∧
      Abs.modularitySpec true s.abs [[1, 2], [3]] true (1 / 2) = some (13 / 30) := by
  decide +kernel

end Graphrs
