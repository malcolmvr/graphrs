/-
  C02 — every read API describes one and the same graph.

  Under the coupling invariant `Store.wf` (which holds on every reachable state: C01_run_refines)
  every query of the model - each following the lookup path of the Rust function of the same
  name, through whichever of the twelve indexes that function uses - returns the answer computed
  from the abstract graph `s.abs` (node list + edge list) alone.  This file also re-establishes
  the adjacency-set clause `adjOk` of the invariant after every mutation.
-/
import GraphrsModel.Spec.Inv
import GraphrsModel.Lemmas.C02Nbr
import GraphrsModel.Lemmas.C02Lists
import GraphrsModel.Lemmas.C02AdjPreserved
namespace Graphrs
open C02

private theorem wf_props (s : Store) (h : s.wf = true) : NodesP s ∧ EdgesP s ∧ AdjP s :=
  ⟨nodesP_of s (s.wf_parts h).1, edgesP_of s (s.wf_parts h).2.1, (adjOk_iff s).1 (s.wf_parts h).2.2.1⟩

set_option linter.unusedVariables false in
/-- (`h1`, `h2` are not needed: `add_node` touches no edge store and no name-keyed set) -/
theorem C02_addNode_adjOk (s : Store) (n : Node) (h : s.wf = true)
    (h1 : (s.addNode n).nodesOk = true) (h2 : (s.addNode n).edgesOk = true) :
    (s.addNode n).adjOk = true := by
  obtain ⟨hn, he, ha, _⟩ := s.wf_parts h
  exact (adjOk_iff _).2 (addNode_J s n (J_of_wf s hn he ha)).adj

theorem C02_addEdge_adjOk (s : Store) (e : Edge) (h : s.wf = true)
    (h1 : (s.addEdge e).1.nodesOk = true) (h2 : (s.addEdge e).1.edgesOk = true) :
    (s.addEdge e).1.adjOk = true := by
  obtain ⟨hn, he, ha, _⟩ := s.wf_parts h
  exact addEdge_adjOk s e hn he ha h1 h2

theorem C02_getNode (s : Store) (h : s.wf = true) (x : Nat) : s.getNode x = s.abs.getNode x := by
  exact getNode_eq (nodesP_of s (s.wf_parts h).1) x

theorem C02_hasNode (s : Store) (h : s.wf = true) (x : Nat) : s.hasNode x = s.abs.hasNode x := by
  unfold Store.hasNode Abs.hasNode
  rw [C02_getNode s h, Abs.getNode, Bool.eq_iff_iff, List.find?_isSome, List.any_eq_true]

theorem C02_getNodeIndex (s : Store) (h : s.wf = true) (x : Nat) :
    s.getNodeIndex x = (match s.abs.indexOf x with | some i => .ok i | none => .err .NodeNotFound) := by
  have hn := nodesP_of s (s.wf_parts h).1
  unfold Store.getNodeIndex Abs.indexOf
  cases hl : alookup s.nodesMap x with
  | some i =>
    have hi := (hn.link x i).1 hl
    have := findIdx_of_names s.nodesVec x i hn.namesNodup hi
    have hlt := hn.idx_lt hl
    simp [Store.abs, this, hlt]
  | none =>
    have : ¬ (s.abs.nodes.findIdx (·.name == x) < s.abs.nodes.length) := by
      rw [List.findIdx_lt_length]
      rintro ⟨nd, hnd, hx⟩
      exact hn.not_mem_names hl (beq_iff_eq.1 hx ▸ List.mem_map_of_mem hnd)
    simp [this]

theorem C02_getNodeByIndex (s : Store) (h : s.wf = true) (i : Nat) : s.getNodeByIndex i = s.abs.nodes[i]? := by
  exact (nodesP_of s (s.wf_parts h).1).rev i

set_option linter.unusedVariables false in
/-- every stored edge is found between its own endpoints, and only there
    (holds for any store: `between` filters `allEdges` by a test every edge passes at its own endpoints) -/
theorem C02_allEdges_between (s : Store) (h : s.wf = true) (e : Edge) :
    e ∈ s.allEdges ↔ e ∈ s.abs.between s.specs.directed e.u e.v := by
  rw [Abs.between, List.mem_filter]
  exact ⟨fun hm => ⟨hm, (sameKey_iff _ e e.u e.v).2 (.inl ⟨rfl, rfl⟩)⟩, And.left⟩

/-- the error channel of the pairwise queries: the wrong kind of graph, then absent nodes -/
theorem C02_pair_errors (s : Store) (u v : Nat) :
    (s.specs.multi = true → s.getEdge u v = .err .WrongMethod) ∧
    (s.specs.multi = false → s.getEdges u v = .err .WrongMethod) ∧
    (s.specs.multi = false → (acontains s.nodesMap u = false ∨ acontains s.nodesMap v = false) → s.getEdge u v = .err .NodeNotFound) ∧
    (s.specs.multi = true → (acontains s.nodesMap u = false ∨ acontains s.nodesMap v = false) → s.getEdges u v = .err .NodeNotFound) := by
  refine ⟨?_, ?_, ?_, ?_⟩
  · intro hm; simp [Store.getEdge, hm]
  · intro hm; simp [Store.getEdges, hm]
  · intro hm hc
    rcases hc with hc | hc <;> simp [Store.getEdge, hm, hc]
  · intro hm hc
    rcases hc with hc | hc <;> simp [Store.getEdges, hm, hc]

private theorem getEdge_of_idx (s : Store) (hm : s.specs.multi = false) {u v ui vi : Nat}
    (hu : alookup s.nodesMap u = some ui) (hv : alookup s.nodesMap v = some vi) :
    s.getEdge u v = s.getEdgeByIndexes ui vi := by
  simp [Store.getEdge, Store.getNodeIndex, hm, acontains, hu, hv, Outcome.unwrap, bind, Outcome.bind]

private theorem getEdges_of_idx (s : Store) (hm : s.specs.multi = true) {u v ui vi : Nat}
    (hu : alookup s.nodesMap u = some ui) (hv : alookup s.nodesMap v = some vi) :
    s.getEdges u v = (match s.edgesByIdx ui vi with
      | none => .err .EdgeNotFound
      | some l => .ok l) := by
  simp [Store.getEdges, Store.getNodeIndex, hm, acontains, hu, hv, Outcome.unwrap, bind, Outcome.bind]
  rfl

private theorem acontains_of_none {s : Store} {u : Nat} (h : alookup s.nodesMap u = none) :
    acontains s.nodesMap u = false := by rw [acontains, h]; rfl

/-- on a single-edge graph `get_edge` returns the stored edge between the two nodes -/
theorem C02_getEdge (s : Store) (h : s.wf = true) (hm : s.specs.multi = false) (u v : Nat)
    (hu : s.hasNode u = true) (hv : s.hasNode v = true) :
    s.getEdge u v = (match s.abs.between s.specs.directed u v with
                     | [] => .err .EdgeNotFound
                     | e :: _ => .ok e) := by
  obtain ⟨hn, he, _⟩ := wf_props s h
  obtain ⟨ui, hui⟩ := (hasNode_iff hn u).1 hu
  obtain ⟨vi, hvi⟩ := (hasNode_iff hn v).1 hv
  rw [getEdge_of_idx s hm hui hvi]
  unfold Store.getEdgeByIndexes
  rcases edgesByIdx_eq hn he hui hvi with ⟨h1, h2⟩ | ⟨e, l, h1, h2⟩ <;> rw [h1, h2]

/-- on a multi-edge graph `get_edges` returns all parallel edges, in insertion order -/
theorem C02_getEdges (s : Store) (h : s.wf = true) (hm : s.specs.multi = true) (u v : Nat)
    (hu : s.hasNode u = true) (hv : s.hasNode v = true) :
    s.getEdges u v = (match s.abs.between s.specs.directed u v with
                      | [] => .err .EdgeNotFound
                      | l => .ok l) := by
  obtain ⟨hn, he, _⟩ := wf_props s h
  obtain ⟨ui, hui⟩ := (hasNode_iff hn u).1 hu
  obtain ⟨vi, hvi⟩ := (hasNode_iff hn v).1 hv
  rw [getEdges_of_idx s hm hui hvi]
  rcases edgesByIdx_eq hn he hui hvi with ⟨h1, h2⟩ | ⟨e, l, h1, h2⟩ <;> rw [h1, h2]

/-- on a single-edge store, the stored edges between two names are at most one, and `get_edge` returns it -/
theorem getEdge_between (s : Store) (h : s.wf = true) (hm : s.specs.multi = false) (x y : Nat) :
    (s.hasEdge x y = true ∧ ∃ e, s.getEdge x y = .ok e ∧ s.abs.between s.specs.directed x y = [e]) ∨
    (s.hasEdge x y = false ∧ s.abs.between s.specs.directed x y = []) := by
  obtain ⟨hn, he, _⟩ := wf_props s h
  have hb := between_eq he x y
  have hiff := he.hasEdge_iff x y
  -- the edges between `x` and `y` are the entry of the edge map under their key
  cases hl : alookup s.edges (nameKey s.specs.directed x y) with
  | none =>
    rw [hl] at hb hiff
    exact .inr ⟨Bool.eq_false_iff.2 fun hxy => Bool.false_ne_true (hiff.1 hxy), hb⟩
  | some l =>
    rw [hl] at hb hiff
    have hxy := hiff.2 rfl
    have hnames := hasEdge_names he hxy
    have hsingle := he.single _ (AL.lookup_mem hl)
    simp only [hm, Bool.false_eq_true, false_or] at hsingle
    match l, hsingle with
    | [e], _ =>
      refine .inl ⟨hxy, e, ?_, hb⟩
      rw [C02_getEdge s h hm x y ((hasNode_mem hn x).2 hnames.1) ((hasNode_mem hn y).2 hnames.2), hb]
      rfl

private theorem edgesByIdx_symm (s : Store) (hd : s.specs.directed = false) (i j : Nat) :
    s.edgesByIdx i j = s.edgesByIdx j i := by
  have h1 : ∀ i j, s.edgesByIdx i j = alookup s.edgesMap (idxKey s.specs.directed i j) := fun _ _ => rfl
  rw [h1, h1, hd, idxKey_eq_nameKey, nameKey_symm, ← idxKey_eq_nameKey]

set_option linter.unusedVariables false in
/-- on an undirected graph the pairwise queries are symmetric, whatever the name / insertion orders
    (holds for any store: the position key is canonicalised before the lookup) -/
theorem C02_getEdge_symmetric (s : Store) (h : s.wf = true) (hd : s.specs.directed = false) (u v : Nat) :
    s.getEdge u v = s.getEdge v u ∧ s.getEdges u v = s.getEdges v u := by
  obtain ⟨a1, a2, a3, a4⟩ := C02_pair_errors s u v
  obtain ⟨b1, b2, b3, b4⟩ := C02_pair_errors s v u
  -- either the same error on both sides, or `edgesByIdx` at the swapped positions
  cases hm : s.specs.multi
  · refine ⟨?_, (a2 hm).trans (b2 hm).symm⟩
    cases hu : alookup s.nodesMap u with
    | none => exact (a3 hm (.inl (acontains_of_none hu))).trans (b3 hm (.inr (acontains_of_none hu))).symm
    | some ui =>
      cases hv : alookup s.nodesMap v with
      | none => exact (a3 hm (.inr (acontains_of_none hv))).trans (b3 hm (.inl (acontains_of_none hv))).symm
      | some vi =>
        rw [getEdge_of_idx s hm hu hv, getEdge_of_idx s hm hv hu, Store.getEdgeByIndexes, Store.getEdgeByIndexes,
          edgesByIdx_symm s hd]
  · refine ⟨(a1 hm).trans (b1 hm).symm, ?_⟩
    cases hu : alookup s.nodesMap u with
    | none => exact (a4 hm (.inl (acontains_of_none hu))).trans (b4 hm (.inr (acontains_of_none hu))).symm
    | some ui =>
      cases hv : alookup s.nodesMap v with
      | none => exact (a4 hm (.inr (acontains_of_none hv))).trans (b4 hm (.inl (acontains_of_none hv))).symm
      | some vi => rw [getEdges_of_idx s hm hu hv, getEdges_of_idx s hm hv hu, edgesByIdx_symm s hd]

private theorem getNode_isNone (s : Store) (x : Nat) (hx : s.hasNode x = true) : (s.getNode x).isNone = false := by
  unfold Store.hasNode at hx
  cases h : s.getNode x <;> simp_all

theorem C02_outEdges (s : Store) (h : s.wf = true) (hd : s.specs.directed = true) (x : Nat) (hx : s.hasNode x = true) :
    ∃ l, s.getOutEdgesForNode x = .ok l ∧ l.Perm (s.abs.outEdges x) := by
  obtain ⟨_, he, ha⟩ := wf_props s h
  unfold Store.getOutEdgesForNode
  simp only [hd, getNode_isNone s x hx, Bool.not_true, Bool.false_eq_true, if_false]
  exact outList s _ he ha hd x

theorem C02_inEdges (s : Store) (h : s.wf = true) (hd : s.specs.directed = true) (x : Nat) (hx : s.hasNode x = true) :
    ∃ l, s.getInEdgesForNode x = .ok l ∧ l.Perm (s.abs.inEdges x) := by
  obtain ⟨_, he, ha⟩ := wf_props s h
  unfold Store.getInEdgesForNode
  simp only [hd, getNode_isNone s x hx, Bool.not_true, Bool.false_eq_true, if_false]
  exact inList s _ he ha hd x

/-- all = in ⊎ out on a directed graph (a self-loop is listed in both), the touching edges on an undirected one -/
theorem C02_edgesForNode (s : Store) (h : s.wf = true) (x : Nat) (hx : s.hasNode x = true) :
    ∃ l, s.getEdgesForNode x = .ok l ∧ l.Perm (s.abs.edgesForNode s.specs.directed x) := by
  obtain ⟨_, he, ha⟩ := wf_props s h
  unfold Store.getEdgesForNode Abs.edgesForNode
  simp only [getNode_isNone s x hx, Bool.false_eq_true, if_false]
  cases hd : s.specs.directed
  · obtain ⟨l, hl, hp⟩ := touchList s "get_edges_for_node: edges.get(succ).unwrap()" he ha hd x
    have hpe := pred_empty s he ha hd x
    unfold Store.setOf at hpe hl
    refine ⟨l, ?_, hp⟩
    have hk : (fun q => if (!false && decide (x > q)) = true then (q, x) else (x, q)) = fun q => nameKey false x q := by
      funext q; rfl
    have hnil : ∀ site, s.flatEdges site [] = .ok [] := fun _ => rfl
    simp only [hpe, List.map_nil, hnil, bind, Outcome.bind, hk, hl, List.nil_append]
  · obtain ⟨l1, hl1, hp1⟩ := inList s "get_edges_for_node: edges.get(pred).unwrap()" he ha hd x
    obtain ⟨l2, hl2, hp2⟩ := outList s "get_edges_for_node: edges.get(succ).unwrap()" he ha hd x
    unfold Store.setOf at hl1 hl2
    refine ⟨l1 ++ l2, ?_, List.Perm.append hp1 hp2⟩
    simp only [bind, Outcome.bind, hl1, Bool.not_true, Bool.false_and, Bool.false_eq_true, if_false, hl2]

theorem C02_node_errors (s : Store) (x : Nat) :
    (s.specs.directed = false → s.getInEdgesForNode x = .err .WrongMethod ∧ s.getOutEdgesForNode x = .err .WrongMethod ∧
        s.getSuccessorNodes x = .err .WrongMethod ∧ s.getPredecessorNodes x = .err .WrongMethod) ∧
    ((s.getNode x).isNone = true → s.getEdgesForNode x = .err .NodeNotFound) := by
  constructor
  · intro hd
    simp [Store.getInEdgesForNode, Store.getOutEdgesForNode, Store.getSuccessorNodes,
      Store.getPredecessorNodes, hd]
  · intro hx
    simp [Store.getEdgesForNode, hx]

theorem C02_successorNodes (s : Store) (h : s.wf = true) (hd : s.specs.directed = true) (x : Nat) (hx : s.hasNode x = true) :
    ∃ l, s.getSuccessorNodes x = .ok l ∧ (∀ y, y ∈ l.map (·.name) ↔ y ∈ s.abs.succ true x) ∧ (l.map (·.name)).Nodup := by
  obtain ⟨hn, he, ha⟩ := wf_props s h
  obtain ⟨i, hi⟩ := (hasNode_iff hn x).1 hx
  have hS : ∀ y, y ∈ s.abs.succ true x ↔ y ∈ Store.setOf s.succ x := fun y => by
    rw [← hd, mem_abs_succ, ha.mem_succ he]
  rw [Store.getSuccessorNodes, hd, getAdjNodes_eq s _ hi]
  exact nodesByIndexes_names hn _ (ha.okSuccMap.nodup i) (fun j hj => (ha.okSuccMap.mem hj).2)
    (fun y hy => (ha.okSucc.mem ((hS y).1 hy)).2)
    fun y j hj => ((ha.idx x i y j ((hn.link x i).1 hi) hj).1).trans (hS y).symm

theorem C02_predecessorNodes (s : Store) (h : s.wf = true) (hd : s.specs.directed = true) (x : Nat) (hx : s.hasNode x = true) :
    ∃ l, s.getPredecessorNodes x = .ok l ∧ (∀ y, y ∈ l.map (·.name) ↔ y ∈ s.abs.pred true x) ∧ (l.map (·.name)).Nodup := by
  obtain ⟨hn, he, ha⟩ := wf_props s h
  obtain ⟨i, hi⟩ := (hasNode_iff hn x).1 hx
  have hP : ∀ y, y ∈ s.abs.pred true x ↔ y ∈ Store.setOf s.pred x := fun y => by
    rw [← hd, mem_abs_pred, ha.mem_pred he]
  rw [Store.getPredecessorNodes, hd, getAdjNodes_eq s _ hi]
  exact nodesByIndexes_names hn _ (ha.okPredMap.nodup i) (fun j hj => (ha.okPredMap.mem hj).2)
    (fun y hy => (ha.okPred.mem ((hP y).1 hy)).2)
    fun y j hj => ((ha.idx x i y j ((hn.link x i).1 hi) hj).2).trans (hP y).symm

theorem C02_neighborNodes (s : Store) (h : s.wf = true) (x : Nat) (hx : s.hasNode x = true) :
    ∃ l, s.getNeighborNodes x = .ok l ∧ (∀ y, y ∈ l.map (·.name) ↔ y ∈ s.abs.nbrs s.specs.directed x) ∧ (l.map (·.name)).Nodup := by
  obtain ⟨hn, he, ha⟩ := wf_props s h
  obtain ⟨hvs, hvp⟩ := vec_rows s (s.wf_parts h).2.2.2
  obtain ⟨i, hi⟩ := (hasNode_iff hn x).1 hx
  have hpl : i < s.predVec.length := hn.predVecLen ▸ hn.idx_lt hi
  have hql : i < s.succVec.length := hn.succVecLen ▸ hn.idx_lt hi
  have hp : s.predVec[i]? = some s.predVec[i] := List.getElem?_eq_getElem hpl
  have hq : s.succVec[i]? = some s.succVec[i] := List.getElem?_eq_getElem hql
  -- the positions listed in the two rows are those in the two position-keyed sets
  have hmem : ∀ j, j ∈ Store.dedupConsecutive (sortNat ((s.predVec[i] ++ s.succVec[i]).map (·.1))) ↔
      (j ∈ Store.setOf s.succMap i ∨ j ∈ Store.setOf s.predMap i) := by
    intro j
    rw [mem_dedupConsecutive, mem_sortNat, List.map_append, List.mem_append, hvp i _ hp, hvs i _ hq, or_comm]
    exact or_congr (and_iff_right_of_imp fun a => (ha.okSuccMap.mem a).2)
      (and_iff_right_of_imp fun a => (ha.okPredMap.mem a).2)
  have hN : ∀ y, y ∈ s.abs.nbrs s.specs.directed x ↔ (y ∈ Store.setOf s.succ x ∨ y ∈ Store.setOf s.pred x) := fun y => by
    rw [Abs.nbrs, mem_dedup, List.mem_append, mem_abs_succ, mem_abs_pred, ha.mem_succ he, ha.mem_pred he]
  unfold Store.getNeighborNodes
  simp only [acontains, hi, Option.isSome_some, Bool.not_true, Bool.false_eq_true, if_false,
    Store.getNodeIndex, Outcome.unwrap, bind, Outcome.bind, hp, hq]
  refine nodesByIndexes_names hn _ (nodup_dedupConsecutive _ (sorted_sortNat _)) (fun j hj => ?_)
    (fun y hy => ?_) fun y j hj => ?_
  · exact ((hmem j).1 hj).elim (fun a => (ha.okSuccMap.mem a).2) fun a => (ha.okPredMap.mem a).2
  · exact ((hN y).1 hy).elim (fun a => (ha.okSucc.mem a).2) fun a => (ha.okPred.mem a).2
  · rw [hmem, hN]
    exact or_congr (ha.idx x i y j ((hn.link x i).1 hi) hj).1 (ha.idx x i y j ((hn.link x i).1 hi) hj).2

/-- the successor / predecessor maps are the neighbour sets of the edge list -/
theorem C02_maps (s : Store) (h : s.wf = true) (x y : Nat) :
    (y ∈ (alookup s.succ x).getD [] ↔ y ∈ s.abs.succ s.specs.directed x) ∧
    (y ∈ (alookup s.pred x).getD [] ↔ y ∈ s.abs.pred s.specs.directed x) := by
  obtain ⟨_, he, ha⟩ := wf_props s h
  rw [mem_abs_succ, mem_abs_pred]
  exact ⟨ha.mem_succ he x y, ha.mem_pred he x y⟩

/-- decidable equality of query outcomes (only to let the kernel evaluate the example below) -/
private instance decEqOutcome {α : Type} [DecidableEq α] : DecidableEq (Outcome α)
  | .ok a, .ok b => if h : a = b then isTrue (h ▸ rfl) else isFalse (fun e => h (Outcome.ok.inj e))
  | .err a, .err b => if h : a = b then isTrue (h ▸ rfl) else isFalse (fun e => h (Outcome.err.inj e))
  | .panic a, .panic b => if h : a = b then isTrue (h ▸ rfl) else isFalse (fun e => h (Outcome.panic.inj e))
  | .ok _, .err _ => isFalse nofun
  | .ok _, .panic _ => isFalse nofun
  | .err _, .ok _ => isFalse nofun
  | .err _, .panic _ => isFalse nofun
  | .panic _, .ok _ => isFalse nofun
  | .panic _, .err _ => isFalse nofun

/-- non-vacuity: an undirected multigraph whose names were inserted out of sort order -/
example :
    let sp : Specs := ⟨false, true, true, .error, .create, .error⟩
    let s := (Store.run sp [Op.addEdge ⟨7, 3, some 1, some 1⟩, Op.addEdge ⟨3, 7, some 2, some 2⟩, Op.addEdgeTuple 7 7]).1
    s.wf = true ∧ s.getEdges 7 3 = s.getEdges 3 7 ∧
    s.getEdges 3 7 = .ok [⟨3, 7, some 1, some 1⟩, ⟨3, 7, some 2, some 2⟩] := by
  decide +kernel

end Graphrs
