/-
  C20 for src/algorithms/shortest_path/dijkstra.rs: `single_source`, `multi_source`, `all_pairs` and
  `get_all_shortest_paths_involving` of the model never panic on a well-formed store, whatever the weights.
  The searches are followed with the invariant `C20B.PI` (every position the search state mentions is in range), which
  needs no hypothesis on the weights; with it the renaming to names (`spToNames`) cannot hit its `unwrap`s.
  Namespace `C20B`: the helper statements of the C20 breadth files.
-/
import GraphrsModel.Props.C20BreadthBase
import GraphrsModel.Props.C08Api
namespace Graphrs
open C20B

namespace C20B

def PathsOk (n : Nat) (paths : List (List (List Nat))) : Prop := ∀ ps ∈ paths, ∀ p ∈ ps, ∀ i ∈ p, i < n

/-- positions in range: `dist` has one slot per node and every stored path mentions positions below `n` only - the part
    of the search state the renaming to names depends on -/
def PI (n : Nat) (st : DState) : Prop := st.dist.length = n ∧ PathsOk n st.paths

section
variable {n : Nat} {paths : List (List (List Nat))} {st st' : DState} {weighted : Bool} {cutoff2 : Option Int}
  {firstOnly withPaths : Bool} {v u : Nat} {dv : Int}

theorem pathsOk_getD (h : PathsOk n paths) (u : Nat) : ∀ p ∈ paths[u]?.getD [], ∀ i ∈ p, i < n := by
  intro p hp
  cases hu : paths[u]? with
  | none => rw [hu] at hp; cases hp
  | some ps =>
    rw [hu] at hp
    exact h ps (List.mem_of_getElem? hu) p hp

theorem pathsOk_set (h : PathsOk n paths) (u : Nat) (pv : List (List Nat)) (hpv : ∀ p ∈ pv, ∀ i ∈ p, i < n) :
    PathsOk n (paths.set u pv) := by
  intro ps hps
  rcases List.mem_or_eq_of_mem_set hps with h1 | h1
  · exact h ps h1
  · exact h1 ▸ hpv

theorem pathsOk_ext (h : PathsOk n paths) (v : Nat) (hu : u < n) :
    ∀ p ∈ (paths[v]?.getD []).map (· ++ [u]), ∀ i ∈ p, i < n := by
  intro p hp i hi
  obtain ⟨q, hq, rfl⟩ := List.mem_map.1 hp
  rcases List.mem_append.1 hi with h1 | h1
  · exact pathsOk_getD h v q hq i h1
  · exact List.mem_singleton.1 h1 ▸ hu

namespace PI

theorem pushLt (hst : PI n st) (withPaths : Bool) (v : Nat) (hu : u < n) (vu : Int) :
    PI n (pushLt withPaths v u vu st) := by
  refine ⟨hst.1, ?_⟩
  cases withPaths
  · exact hst.2
  · exact pathsOk_set hst.2 _ _ (pathsOk_ext hst.2 v hu)

theorem pushEq (hst : PI n st) (withPaths : Bool) (v : Nat) (hu : u < n) (vu : Int) :
    PI n (pushEq withPaths v u vu st) := by
  refine ⟨hst.1, ?_⟩
  cases withPaths
  · exact hst.2
  · exact pathsOk_set hst.2 _ _ fun p hp => (List.mem_append.1 hp).elim (pathsOk_getD hst.2 u p) (pathsOk_ext hst.2 v hu p)

end PI

theorem relaxFull_PI {adj : Adj} (hu : adj.1 < n) (hst : PI n st)
    (h : relaxFull weighted cutoff2 firstOnly withPaths v dv st adj = .ok st') : PI n st' := by
  rcases relaxFull_inv h with ⟨_, e⟩ | ⟨c, _, ⟨_, e⟩ | ⟨_, _, _, e⟩ | ⟨_, _, _, _, e⟩⟩
  · exact e ▸ hst
  · exact e ▸ hst
  · exact e ▸ hst.pushLt withPaths v hu _
  · exact e ▸ hst.pushEq withPaths v hu _

theorem dijkstraLoop_PI {adjOf : Nat → List Adj} (hadj : ∀ v, ∀ a ∈ adjOf v, a.1 < n) {target : Option Nat}
    (fuel : Nat) {st st' : DState} (hst : PI n st)
    (h : dijkstraLoop adjOf weighted target cutoff2 firstOnly withPaths fuel st = .ok st') : PI n st' :=
  dijkstraLoop_ok_inv (PI n) (fun _ _ hs => hs) (fun _ _ _ _ _ hs => ⟨(List.length_set ..).trans hs.1, hs.2⟩)
    (fun v _ _ a ha _ hs hr => relaxFull_PI (hadj v a ha) hs hr) fuel st st' hst h

end

theorem relaxBasic_dist (weighted : Bool) (d : Int) (st : DState) (a : Adj) :
    (relaxBasic weighted d st a).dist = st.dist := by
  unfold relaxBasic
  cases (if weighted then a.2 else some 1) with
  | none => rfl
  | some c => simp only [apply_ite DState.dist, ite_self]

theorem foldl_relaxBasic_dist (weighted : Bool) (d : Int) (row : List Adj) :
    ∀ st : DState, (row.foldl (relaxBasic weighted d) st).dist = st.dist := by
  induction row with
  | nil => intro st; rfl
  | cons a row ih => intro st; rw [List.foldl_cons, ih, relaxBasic_dist]

theorem basicLoop_len (adjOf : Nat → List Adj) (weighted : Bool) : ∀ (fuel : Nat) (st : DState),
    (basicLoop adjOf weighted fuel st).dist.length = st.dist.length := by
  intro fuel
  induction fuel with
  | zero => intro st; rfl
  | succ fuel ih =>
    intro st
    unfold basicLoop
    split
    · rfl
    · dsimp only
      split
      · exact ih _
      · rw [ih, foldl_relaxBasic_dist]
        exact List.length_set

theorem spInfos_valid (n : Nat) (dist : List (Option Int)) (paths : List (List (List Nat))) (wp : Bool)
    (hd : dist.length = n) (hp : PathsOk n paths) :
    ∀ p ∈ spInfos dist paths wp, p.1 < n ∧ ∀ path ∈ p.2.paths, ∀ i ∈ path, i < n := by
  intro p hpm
  obtain ⟨t, info⟩ := p
  obtain ⟨d, hdt, e⟩ := (mem_spInfos dist paths wp t info).1 hpm
  subst e
  constructor
  · unfold lk at hdt
    by_contra hge
    rw [List.getElem?_eq_none (by omega)] at hdt
    cases hdt
  · simp only
    cases wp
    · intro path hpath; cases hpath
    · exact pathsOk_getD hp t

/-- every position a result vector mentions is below `n` (for `n = nodesVec.length` on a well-formed store this is
    `C08A.valid` of every entry: `spToNames_ok_of_inRange`) -/
def InRange (n : Nat) (r : List (Nat × SPInfo)) : Prop :=
  ∀ p ∈ r, p.1 < n ∧ ∀ path ∈ p.2.paths, ∀ i ∈ path, i < n

namespace PI

theorem start {n source : Nat} (hsrc : source < n) (withPaths : Bool) : PI n (DState.start n source withPaths) := by
  refine ⟨List.length_replicate, ?_⟩
  cases withPaths
  · intro ps hps
    cases hps
  · refine pathsOk_set (fun ps hps p hp => ?_) _ _ (fun p hp i hi => ?_)
    · rw [(List.mem_replicate.1 hps).2] at hp
      cases hp
    · rw [List.mem_singleton.1 hp] at hi
      rw [List.mem_singleton.1 hi]
      exact hsrc

end PI

theorem dijkstra_np (s : Store) (h : s.wf = true) (weighted : Bool) (source : Nat) (target : Option Nat)
    (cutoff2 : Option Int) (firstOnly withPaths : Bool) (hsrc : source < s.nodesVec.length) :
    (s.dijkstra weighted source target cutoff2 firstOnly withPaths).isPanic = false ∧
    ∀ r, s.dijkstra weighted source target cutoff2 firstOnly withPaths = .ok r → InRange s.nodesVec.length r := by
  rw [dijkstra_eq s weighted target cutoff2 firstOnly withPaths hsrc]
  cases hl : dijkstraLoop (fun v => s.succVec[v]?.getD []) weighted target cutoff2 firstOnly withPaths
      (s.totalAdj + 2) (DState.start s.numberOfNodes source withPaths) with
  | error e => exact ⟨rfl, fun r hr => nomatch hr⟩
  | ok st =>
    refine ⟨rfl, fun r hr => ?_⟩
    cases hr
    have hPI := dijkstraLoop_PI (C08A.vecWf_of_wf s h).adj_lt _ (PI.start hsrc withPaths) hl
    exact spInfos_valid _ _ _ _ hPI.1 hPI.2

theorem dijkstraBasic_ok (s : Store) (weighted : Bool) (source : Nat) (hsrc : source < s.nodesVec.length) :
    ∃ r, s.dijkstraBasic weighted source = .ok r ∧ InRange s.nodesVec.length r := by
  unfold Store.dijkstraBasic
  have hge : ¬ source ≥ s.numberOfNodes := by show ¬ source ≥ s.nodesVec.length; omega
  simp only [if_neg hge]
  refine ⟨_, rfl, spInfos_valid _ _ _ _ ?_ (fun ps hps => by cases hps)⟩
  rw [basicLoop_len]
  simp [Store.numberOfNodes]

theorem runOne_np (s : Store) (h : s.wf = true) (weighted : Bool) (si : Nat) (ti tgt : Option Nat)
    (cutoff2 : Option Int) (firstOnly withPaths : Bool) (hsrc : si < s.nodesVec.length) :
    (s.runOne weighted si ti tgt cutoff2 firstOnly withPaths).isPanic = false ∧
    ∀ r, s.runOne weighted si ti tgt cutoff2 firstOnly withPaths = .ok r → InRange s.nodesVec.length r := by
  unfold Store.runOne
  split
  · obtain ⟨r, hr, hin⟩ := dijkstraBasic_ok s weighted si hsrc
    rw [hr]
    exact ⟨rfl, fun r' hr' => by cases hr'; exact hin⟩
  · exact dijkstra_np s h weighted si ti cutoff2 firstOnly withPaths hsrc

theorem spToNames_ok_of_inRange (s : Store) (h : s.wf = true) (r : List (Nat × SPInfo)) (hr : InRange s.nodesVec.length r) :
    ∃ out, s.spToNames r = .ok out := by
  apply C08A.spToNames_ok
  intro p hp
  obtain ⟨h1, h2⟩ := hr p hp
  exact ⟨(C08A.isIdx_of_names s h (C08A.names_of_lt s h1)).1,
    fun path hpath i hi => (C08A.isIdx_of_names s h (C08A.names_of_lt s (h2 path hpath i hi))).1⟩

theorem getNodeIndex_np (s : Store) (x : Nat) : (s.getNodeIndex x).isPanic = false := by
  unfold Store.getNodeIndex
  split <;> rfl

theorem tgtIndex_np (s : Store) (target : Option Nat) : (C08A.tgtIndex s target).isPanic = false := by
  cases target with
  | none => rfl
  | some t => exact np_map' _ (getNodeIndex_np s t)

theorem getNodeIndex_lt (s : Store) (h : s.wf = true) (x i : Nat) (hi : s.getNodeIndex x = .ok i) :
    i < s.nodesVec.length := by
  unfold Store.getNodeIndex at hi
  cases hl : alookup s.nodesMap x with
  | none => rw [hl] at hi; cases hi
  | some j =>
    rw [hl] at hi
    cases hi
    exact ((Store.wf_iff _).mp h).1.lookup_lt hl

/-- when every stored edge carries a non-negative weight, every weight in the traversal lists is non-negative
    (`C08A.idxArcs_nonneg` with the hypothesis named) -/
theorem idxArcs_nonneg_of_wf (s : Store) (h : s.wf = true) (weighted : Bool) (hc : s.costsOk weighted) :
    ∀ a ∈ s.idxArcs weighted, 0 ≤ a.2.2 :=
  C08A.idxArcs_nonneg s h weighted hc

end C20B

/-- **`single_source`** on ANY well-formed store - negative weights, NaN weights, any target (absent: NodeNotFound), any
    cutoff: a value, `NodeNotFound` or `ContradictoryPaths`; never a panic.
    (`C20_model_single_source_no_panic`, Props/C20Model.lean, is the case of non-negative weights, `entOk`, no target.) -/
theorem C20_model_single_source_any_no_panic (s : Store) (h : s.wf = true) (weighted : Bool) (src : Nat)
    (target : Option Nat) (cutoff2 : Option Int) (firstOnly withPaths : Bool) :
    (s.singleSource weighted src target cutoff2 firstOnly withPaths).isPanic = false := by
  rw [C08A.singleSource_eq]
  refine np_bind' (getNodeIndex_np s src) fun si hsi => np_bind' (tgtIndex_np s target) fun ti _ => ?_
  obtain ⟨h1, h2⟩ := runOne_np s h weighted si ti target cutoff2 firstOnly withPaths (getNodeIndex_lt s h src si hsi)
  exact np_bind' h1 fun r hr => np_of_ok (spToNames_ok_of_inRange s h r (h2 r hr))

/- `multi_source`, `all_pairs`, `get_all_shortest_paths_involving`: in the crate `all_pairs_iter` / `all_pairs_par_iter`
   yield `Result`s and `all_pairs`, `multi_source` propagate the first error of a per-source search with `?` (a search
   fails with `ContradictoryPaths` on a negative weight); the model mirrors that, and the statements below carry no
   hypothesis on the weights. (An `unwrap` of that `Result` - the crate before its commit "fix: all_pairs and multi_source
   return the error of a failing search" - panics on the store `C20_negw_store` below.) -/

namespace C20B

theorem runOne_ok (s : Store) (h : s.wf = true) (weighted : Bool) (hnn : ∀ a ∈ s.idxArcs weighted, 0 ≤ a.2.2)
    (si : Nat) (ti tgt : Option Nat) (cutoff2 : Option Int) (firstOnly withPaths : Bool) (hsrc : si < s.nodesVec.length) :
    ∃ r, s.runOne weighted si ti tgt cutoff2 firstOnly withPaths = .ok r ∧ ∃ out, s.spToNames r = .ok out := by
  obtain ⟨dist, paths, hrun, _⟩ :=
    C08A.runOne_run s weighted si ti tgt cutoff2 firstOnly withPaths (C08A.vecWf_of_wf s h) hsrc hnn
  refine ⟨_, hrun, spToNames_ok_of_inRange s h _ ?_⟩
  exact (runOne_np s h weighted si ti tgt cutoff2 firstOnly withPaths hsrc).2 _ hrun

/-- with non-negative traversal weights `single_source` on existing names returns a value -/
theorem singleSource_ok (s : Store) (h : s.wf = true) (weighted : Bool) (hnn : ∀ a ∈ s.idxArcs weighted, 0 ≤ a.2.2)
    (src : Nat) (hsrc : s.hasNode src = true) (target : Option Nat) (htgt : ∀ t, target = some t → s.hasNode t = true)
    (cutoff2 : Option Int) (firstOnly withPaths : Bool) :
    ∃ out, s.singleSource weighted src target cutoff2 firstOnly withPaths = .ok out := by
  obtain ⟨si, hsi, _, hlt⟩ := C08A.index_of_hasNode s h src hsrc
  obtain ⟨ti, hti⟩ : ∃ ti, C08A.tgtIndex s target = .ok ti := by
    cases target with
    | none => exact ⟨none, rfl⟩
    | some t =>
      obtain ⟨ti, hti, _, _⟩ := C08A.index_of_hasNode s h t (htgt t rfl)
      exact ⟨some ti, by rw [C08A.tgtIndex, hti]; rfl⟩
  obtain ⟨r, hr, out, hout⟩ := runOne_ok s h weighted hnn si ti target cutoff2 firstOnly withPaths hlt
  refine ⟨out, ?_⟩
  rw [C08A.singleSource_eq, hsi, hti]
  show (s.runOne weighted si ti target cutoff2 firstOnly withPaths).bind s.spToNames = .ok out
  rw [hr]
  exact hout

end C20B

/-- **`multi_source`** on ANY well-formed store: NodeNotFound for an absent source or target, otherwise a value or the
    first error of a per-source search (`ContradictoryPaths` on negative weights); never a panic -/
theorem C20_model_multi_source_no_panic (s : Store) (h : s.wf = true) (weighted : Bool) (sources : List Nat)
    (target : Option Nat) (cutoff2 : Option Int) (firstOnly withPaths : Bool) :
    (s.multiSource weighted sources target cutoff2 firstOnly withPaths).isPanic = false := by
  unfold Store.multiSource
  by_cases hsrc0 : (!s.hasNodes sources) = true
  · rw [if_pos hsrc0]; rfl
  rw [if_neg hsrc0]
  have hfold : (sources.foldl (fun acc src => do
        let out ← acc
        let r ← s.singleSource weighted src target cutoff2 firstOnly withPaths
        .ok (ainsert out src r)) (.ok [])).isPanic = false := by
    refine np_foldl' _ _ ?_ (fun _ _ => rfl) _
    intro out src _
    refine np_bind rfl (fun _ _ => ?_)
    exact np_bind (C20_model_single_source_any_no_panic s h weighted src target cutoff2 firstOnly withPaths)
      (fun _ _ => rfl)
  cases target with
  | none =>
    simp only [Bool.false_eq_true, if_false]
    exact hfold
  | some t =>
    cases ht : s.hasNode t
    · simp only [ht, Bool.not_false, if_true]; rfl
    · simp only [ht, Bool.not_true, Bool.false_eq_true, if_false]
      exact hfold

/-- **`all_pairs`** on ANY well-formed store: EdgeWeightNotSpecified (weighted mode, a NaN weight), NodeNotFound (absent
    target), otherwise a value or the first error of a per-source search; never a panic -/
theorem C20_model_all_pairs_no_panic (s : Store) (h : s.wf = true) (weighted : Bool) (target : Option Nat)
    (cutoff2 : Option Int) (firstOnly withPaths : Bool) :
    (s.allPairs weighted target cutoff2 firstOnly withPaths).isPanic = false := by
  rw [C08A.allPairs_eq]
  refine np_bind' ?_ fun _ _ => np_bind' (tgtIndex_np s target) fun ti _ => np_foldl' _ _ ?_ (fun _ _ => rfl) _
  · split
    · unfold Store.ensureWeighted; split <;> rfl
    · rfl
  intro out i hi
  have hlt : i < s.nodesVec.length := List.mem_range.1 hi
  obtain ⟨h1, h2⟩ := runOne_np s h weighted i ti target cutoff2 firstOnly withPaths hlt
  obtain ⟨nd, hnd⟩ := (C08A.isIdx_of_names s h (C08A.names_of_lt s hlt)).1
  refine np_bind' rfl fun _ _ => np_bind' h1 fun r hr => np_bind' (by rw [hnd]; rfl) fun _ _ => ?_
  exact np_bind' (np_of_ok (spToNames_ok_of_inRange s h r (h2 r hr))) fun _ _ => rfl

/-- **`get_all_shortest_paths_involving`** (no error channel; any name, present or absent: an absent name is simply on no
    path; an error of `all_pairs` becomes the empty list) on ANY well-formed store -/
theorem C20_model_paths_involving_no_panic (s : Store) (h : s.wf = true) (x : Nat) (weighted : Bool) :
    (s.pathsInvolving x weighted).isPanic = false := by
  unfold Store.pathsInvolving
  have := C20_model_all_pairs_no_panic s h weighted none none false true
  revert this
  cases s.allPairs weighted none none false true with
  | ok v => intro _; rfl
  | err k => intro _; rfl
  | panic site => intro hp; cases hp

/-- **the statement at full strength** - no hypothesis on the weights (negative and NaN weights included), both modes,
    absent names included -/
theorem C20_model_shortest_paths_no_panic_full :
    ∀ (s : Store), s.wf = true → ∀ (weighted : Bool) (sources : List Nat) (x : Nat) (target : Option Nat)
      (cutoff2 : Option Int) (firstOnly withPaths : Bool),
      (s.multiSource weighted sources target cutoff2 firstOnly withPaths).isPanic = false ∧
      (s.allPairs weighted target cutoff2 firstOnly withPaths).isPanic = false ∧
      (s.pathsInvolving x weighted).isPanic = false :=
  fun s h weighted sources x target cutoff2 firstOnly withPaths =>
    ⟨C20_model_multi_source_no_panic s h weighted sources target cutoff2 firstOnly withPaths,
     C20_model_all_pairs_no_panic s h weighted target cutoff2 firstOnly withPaths,
     C20_model_paths_involving_no_panic s h x weighted⟩

/-- the error channel of the shortest-path functions for names that are not in the graph (no hypothesis on weights):
    `single_source` / `multi_source` / `all_pairs(target)` answer `NodeNotFound` (`all_pairs` in weighted mode may answer
    `EdgeWeightNotSpecified` first, as the crate checks the weights before the target) -/
theorem C20_model_shortest_paths_absent_channel (s : Store) (h : s.wf = true) (weighted : Bool) (x : Nat)
    (hx : s.hasNode x = false) (sources : List Nat) (target : Option Nat) (cutoff2 : Option Int)
    (firstOnly withPaths : Bool) :
    s.singleSource weighted x target cutoff2 firstOnly withPaths = .err .NodeNotFound ∧
    (x ∈ sources → s.multiSource weighted sources target cutoff2 firstOnly withPaths = .err .NodeNotFound) ∧
    s.multiSource weighted sources (some x) cutoff2 firstOnly withPaths = .err .NodeNotFound ∧
    (s.allPairs weighted (some x) cutoff2 firstOnly withPaths = .err .NodeNotFound ∨
      (weighted = true ∧ s.allPairs weighted (some x) cutoff2 firstOnly withPaths = .err .EdgeWeightNotSpecified)) := by
  refine ⟨C04_model_singleSource_unknown_corrected s h weighted x hx target cutoff2 firstOnly withPaths,
    fun hm => C08_model_multiSource_unknown s weighted sources target cutoff2 firstOnly withPaths (.inl ⟨x, hm, hx⟩),
    C08_model_multiSource_unknown s weighted sources (some x) cutoff2 firstOnly withPaths (.inr ⟨x, rfl, hx⟩), ?_⟩
  have hidx : s.getNodeIndex x = .err .NodeNotFound := by
    rw [Store.getNodeIndex, nodesMap_unbound s h x hx]
  have htgt : C08A.tgtIndex s (some x) = .err .NodeNotFound := by
    rw [C08A.tgtIndex, hidx]
    rfl
  rw [C08A.allPairs_eq, htgt]
  cases weighted
  · exact Or.inl rfl
  · rw [if_pos rfl, Store.ensureWeighted]
    cases s.edgesHaveWeight
    · exact Or.inr ⟨rfl, rfl⟩
    · exact Or.inl rfl

/-- the directed graph 1 -5-> 2, 1 -6-> 3, 3 -(-10)-> 2 -/
def C20_negw_store : Store :=
  (Store.run ⟨true, false, false, .keepFirst, .create, .error⟩
    [Op.addEdge ⟨1, 2, some 5, none⟩, Op.addEdge ⟨1, 3, some 6, none⟩, Op.addEdge ⟨3, 2, some (-10), none⟩]).1

/-- on a store with ONE negative weight (all names exist) `all_pairs` and `multi_source` report the failing search
    through their `Result`, exactly as `single_source` does, and `get_all_shortest_paths_involving` (no error channel)
    maps the error to the empty list -/
theorem C20_negative_weights_repaired :
    C20_negw_store.wf = true ∧
    C20_negw_store.singleSource true 1 none none false true = .err .ContradictoryPaths ∧
    C20_negw_store.allPairs true none none false true = .err .ContradictoryPaths ∧
    C20_negw_store.multiSource true [1] none none false true = .err .ContradictoryPaths ∧
    C20_negw_store.pathsInvolving 2 true = .ok [] ∧
    (C20_negw_store.allPairs true none none false false).isOk = true := by
  decide +kernel

end Graphrs
