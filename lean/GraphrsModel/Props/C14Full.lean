/-
  C14 put together at model level: reading back what the writer emits for a well-formed store (string names, no
  attributes: the reader returns `Graph<String, ()>`) succeeds and yields a well-formed store of the same abstract graph -
  same nodes in the same order, same directedness, and per pair of endpoints the same stored edges with the same weights
  in the same order.
-/
import GraphrsModel.Props.Core
import GraphrsModel.Props.C14
namespace Graphrs
open Xml

theorem C14_roundtrip_abs (s : Store) (h : s.wf = true)
    (hn : ∀ n ∈ s.nodesVec, n.attr = none) (he : ∀ e ∈ s.allEdges, e.attr = none) :
    ∃ t, readEvents s.specs (writeEvents s) = .ok t ∧ t.wf = true ∧ t.specs.directed = s.specs.directed ∧
      AbsEq t.abs s.abs := by
  have hns : s.nodesVec.map (fun n => (⟨n.name, none⟩ : Node)) = s.nodesVec := by
    conv => rhs; rw [← List.map_id s.nodesVec]
    apply List.map_congr_left
    intro n hnm
    have := hn n hnm
    cases n; simp_all
  have hes : s.allEdges.map (fun e => (⟨e.u, e.v, e.w, none⟩ : Edge)) = s.allEdges := by
    conv => rhs; rw [← List.map_id s.allEdges]
    apply List.map_congr_left
    intro e hem
    have := he e hem
    cases e; simp_all
  obtain ⟨t, ht, hwf, habs⟩ := Core_rebuild s h
  refine ⟨t, ?_, hwf, ?_, habs⟩
  · rw [C14_roundtrip_is_rebuild, hns, hes]; exact ht
  · rw [Store.newFrom_specs ht]

end Graphrs
