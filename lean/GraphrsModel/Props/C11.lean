/-
  C11 — clustering, triangle and transitivity values equal their definitions.

  Spec/Cluster.lean holds the definitions the implementation's values are compared with on every run
  (`trianglesAt`, `clusteringAt`, `transitivitySpec`, `generalizedDegreeAt`, `squareAt`, `fagioloAt`, ...).
  Here: the structural facts the property states about them - self-loops never count, every coefficient lies in
  [0, 1] - and the counting identity that ties the code's way of counting (per neighbour, ordered) to the
  definition (per unordered pair of neighbours).  The list facts they rest on are in namespace `C11aux`.
-/
import GraphrsModel.Lemmas.ListSet
import GraphrsModel.ObsClu
import Mathlib.Algebra.Order.Field.Rat
import Mathlib.Tactic.Linarith
import Mathlib.Tactic.Positivity
import Mathlib.Tactic.NormNum
import Mathlib.Tactic.Ring
namespace Graphrs
open Abs

namespace C11aux

theorem sumNat_nil : sumNat [] = 0 := rfl

theorem sum_filter {α M} [AddCommMonoid M] (l : List α) (p : α → Bool) (f : α → M) :
    ((l.filter p).map f).sum = (l.map fun x => if p x then f x else 0).sum := by
  rw [List.sum_map_ite, List.sum_map_zero, add_zero]
  simp only [Bool.decide_eq_true]

theorem length_filter_eq_sum {α} (l : List α) (p : α → Bool) :
    (l.filter p).length = (l.map fun x => if p x then 1 else 0).sum := by
  rw [← sum_filter, List.map_const', List.sum_replicate_nat, Nat.mul_one]

theorem dsum_pairs {α R} [CommSemiring R] (G : α → α → R) (hs : ∀ a b, G a b = G b a) (h0 : ∀ a, G a a = 0)
    (L : List α) :
    (L.map fun u => (L.map fun w => G u w).sum).sum = 2 * ((Abs.pairs L).map fun p => G p.1 p.2).sum := by
  induction L with
  | nil => exact (mul_zero _).symm
  | cons a L ih =>
    -- row `a` and column `a` each contribute `Σ_w G a w` (symmetry), the diagonal entry nothing
    simp only [List.map_cons, List.sum_cons, Abs.pairs, List.map_append, List.sum_append, List.map_map,
      Function.comp_def, h0 a, List.sum_map_add, ih, hs _ a]
    ring

theorem count_identity {α} (r : α → α → Bool) (hirr : ∀ x, r x x = false)
    (hsymm : ∀ x y, r x y = r y x) (l : List α) :
    sumNat (l.map fun w => (l.filter (r w)).length)
      = 2 * ((Abs.pairs l).filter fun p => r p.1 p.2).length := by
  simp only [sumNat_eq_sum, length_filter_eq_sum]
  exact dsum_pairs (fun u w => if r u w then 1 else 0) (fun a b => by rw [hsymm]) (fun a => by rw [hirr]; rfl) l

theorem histogram {d : List Nat} (hd : d.Nodup) (f : Nat → Nat) (c : List Nat) (hc : ∀ x ∈ c, x ∈ d) :
    sumNat (d.map fun k => f k * (c.filter (· == k)).length) = sumNat (c.map f) := by
  simp only [sumNat_eq_sum]
  induction c with
  | nil => simp only [List.filter_nil, List.length_nil, Nat.mul_zero, List.sum_map_zero, List.map_nil, List.sum_nil]
  | cons y ys ih =>
    -- the summand at `y` gains `f y`, the others stay
    have hy : (d.map fun k => if k = y then f k else 0).sum = f y := by
      rw [List.sum_map_eq_nsmul_single y _ (fun k hk _ => if_neg hk), List.count_eq_one_of_mem hd (hc y List.mem_cons_self),
        one_nsmul, if_pos rfl]
    rw [List.map_cons, List.sum_cons, ← ih fun x hx => hc x (List.mem_cons_of_mem _ hx), ← hy, ← List.sum_map_add]
    apply congrArg
    apply List.map_congr_left
    intro k _
    rw [List.filter_cons]
    by_cases h : y = k
    · rw [h, if_pos rfl, if_pos (beq_self_eq_true k), List.length_cons, Nat.mul_add, Nat.mul_one, Nat.add_comm]
    · rw [if_neg (Ne.symm h), if_neg (mt beq_iff_eq.1 h), Nat.zero_add]

end C11aux
open C11aux

theorem C11_mem_succOf (a : Abs) (x y : Nat) : y ∈ a.succOf x ↔ ∃ e ∈ a.edges, e.u = x ∧ e.v = y := by
  simp only [Abs.succOf, mem_dedup, List.mem_map, List.mem_filter, beq_iff_eq, and_assoc]

theorem C11_mem_predOf (a : Abs) (x y : Nat) : y ∈ a.predOf x ↔ ∃ e ∈ a.edges, e.v = x ∧ e.u = y := by
  simp only [Abs.predOf, mem_dedup, List.mem_map, List.mem_filter, beq_iff_eq, and_assoc]

theorem C11_mem_bothOf (a : Abs) (u v : Nat) :
    u ∈ a.bothOf v ↔ (∃ e ∈ a.edges, e.u = v ∧ e.v = u) ∨ (∃ e ∈ a.edges, e.v = v ∧ e.u = u) := by
  rw [Abs.bothOf, mem_dedup, List.mem_append, C11_mem_succOf, C11_mem_predOf]

theorem C11_mem_N (a : Abs) (u v : Nat) : u ∈ a.N v ↔ u ∈ a.bothOf v ∧ u ≠ v := by
  rw [Abs.N, List.mem_filter, bne_iff_ne]

/-- self-loops never count: a node is never its own neighbour -/
theorem C11_N_irrefl (a : Abs) (v : Nat) : v ∉ a.N v :=
  fun h => ((C11_mem_N a v v).1 h).2 rfl

theorem C11_N_nodup (a : Abs) (v : Nat) : (a.N v).Nodup :=
  (nodup_dedup _).filter _

/-- neighbourhood is symmetric (edges are read in both directions) -/
theorem C11_N_symm (a : Abs) (u v : Nat) : u ∈ a.N v ↔ v ∈ a.N u := by
  rw [C11_mem_N, C11_mem_N, C11_mem_bothOf, C11_mem_bothOf, or_comm, ne_comm]
  simp only [and_comm]

theorem C11_adjacent_iff (a : Abs) (w k : Nat) : a.adjacent w k = true ↔ k ∈ a.N w := by
  rw [Abs.adjacent, Bool.and_eq_true, bne_iff_ne, List.contains_iff_mem]
  exact ⟨fun h => h.2, fun h => ⟨fun e => C11_N_irrefl a w (e ▸ h), h⟩⟩

theorem C11_adjacent_irrefl (a : Abs) (w : Nat) : a.adjacent w w = false :=
  Bool.eq_false_iff.2 fun h => C11_N_irrefl a w ((C11_adjacent_iff a w w).1 h)

theorem C11_adjacent_symm (a : Abs) (u w : Nat) : a.adjacent u w = a.adjacent w u := by
  rw [Bool.eq_iff_iff, C11_adjacent_iff, C11_adjacent_iff, C11_N_symm]

theorem C11_pairs_length {α} (l : List α) : (Abs.pairs l).length = l.length * (l.length - 1) / 2 := by
  induction l with
  | nil => exact (Nat.zero_div 2).symm
  | cons x xs ih => rw [Abs.pairs, List.length_append, List.length_map, ih, List.length_cons, Nat.triangle_succ, Nat.add_comm]

theorem C11_triangles_le_pairs (a : Abs) (v : Nat) :
    a.trianglesAt v ≤ (a.N v).length * ((a.N v).length - 1) / 2 := by
  rw [← C11_pairs_length]
  exact List.length_filter_le _ _

private theorem unit_of_le (t p : Nat) (h : t ≤ p) : 0 ≤ (t : Rat) / (p : Rat) ∧ (t : Rat) / (p : Rat) ≤ 1 :=
  ⟨div_nonneg (Nat.cast_nonneg t) (Nat.cast_nonneg p), div_le_one_of_le₀ (Nat.cast_le.mpr h) (Nat.cast_nonneg p)⟩

/-- **every clustering coefficient lies in [0, 1]** -/
theorem C11_clustering_unit_interval (a : Abs) (v : Nat) : 0 ≤ a.clusteringAt v ∧ a.clusteringAt v ≤ 1 := by
  unfold Abs.clusteringAt
  simp only
  split
  · exact ⟨le_refl _, zero_le_one⟩
  · exact unit_of_le _ _ (C11_triangles_le_pairs a v)

/-- **the code's count equals the definition**: summing, over the neighbours w of v, the number of neighbours of v adjacent to w
    counts every triangle through v twice (once per orientation) -/
theorem C11_triangle_count_identity (a : Abs) (v : Nat) :
    sumNat ((a.N v).map fun w => ((a.N v).filter fun k => a.adjacent w k).length) = 2 * a.trianglesAt v := by
  unfold Abs.trianglesAt
  exact count_identity (fun w k => a.adjacent w k) (C11_adjacent_irrefl a) (C11_adjacent_symm a) (a.N v)

/-- the generalized degree histogram accounts for every edge at v, and its weighted sum is twice the triangle count -/
theorem C11_generalized_degree_sums (a : Abs) (v : Nat) :
    sumNat ((a.generalizedDegreeAt v).map (·.2)) = (a.N v).length ∧
    sumNat ((a.generalizedDegreeAt v).map fun kv => kv.1 * kv.2) = 2 * a.trianglesAt v := by
  rw [← C11_triangle_count_identity]
  unfold Abs.generalizedDegreeAt
  simp only [List.map_map]
  generalize hc : ((a.N v).map fun w => ((a.N v).filter fun k => a.adjacent w k).length) = c
  have hmem : ∀ x ∈ c, x ∈ dedup c := fun x hx => (mem_dedup c x).mpr hx
  constructor
  · have h := histogram (nodup_dedup c) (fun _ => 1) c hmem
    simp only [Nat.one_mul] at h
    rw [← List.length_map (as := a.N v), hc, ← Nat.mul_one c.length, ← List.sum_replicate_nat, ← List.map_const',
      ← sumNat_eq_sum]
    exact h
  · exact (histogram (nodup_dedup c) (fun k => k) c hmem).trans (congrArg sumNat (List.map_id' c))

theorem C11_transitivity_unit_interval (a : Abs) : 0 ≤ a.transitivitySpec ∧ a.transitivitySpec ≤ 1 := by
  unfold Abs.transitivitySpec
  simp only
  split
  · exact ⟨le_refl _, zero_le_one⟩
  · rw [sumNat_eq_sum, sumNat_eq_sum]
    exact unit_of_le _ _ (List.sum_le_sum fun v _ => C11_triangles_le_pairs a v)

/-- non-vacuity: a triangle with a pendant node and a self-loop -/
example :
    let a : Abs := { nodes := [⟨1, none⟩, ⟨2, none⟩, ⟨3, none⟩, ⟨4, none⟩],
                     edges := [⟨1, 2, none, none⟩, ⟨2, 3, none, none⟩, ⟨1, 3, none, none⟩, ⟨3, 4, none, none⟩, ⟨3, 3, none, none⟩] }
    a.trianglesAt 3 = 1 ∧ a.clusteringAt 3 = 1 / 3 ∧ a.trianglesAt 4 = 0 := by
  decide +kernel

end Graphrs
