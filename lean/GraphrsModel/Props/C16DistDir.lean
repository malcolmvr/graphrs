/-
  C16, the *distribution* claim for the DIRECTED generator `fast_gnp_random_graph_directed` (model `gnpDirected`).

  Slots are the n*n positions of the n×n table in row-major order, slot (v, w) = v*n + w (`slotDir`); the diagonal
  slots — the multiples of n+1 — are not edges.  The skips are geometric, P(k) = (1-p)^k p (`geom`; PRNG and `ln` are
  outside the model and are the assumption of this file).  Proved here, for every n in 2 .. 2^31-1:

  * `C16_gnp_directed_is_redirect_process`: the model is the slot process WITH DIAGONAL REDIRECT (`redirRun`):
    from position `pos` a skip `k` lands on `pos + k`; a diagonal slot is bumped to the next slot (`redirect`); past the
    end the run stops, otherwise the slot is emitted and the run continues behind it (saturating `i64` additions included).
  * the law is a PRODUCT law (`outProb`): the slots are selected independently, a diagonal slot with probability
    0, the slot directly after a diagonal slot — the pairs (v, v+1) — with probability 1 - (1-p)^2, every other slot with
    probability p (`slotP`).
    - `C16_redirect_first_step`: `outProb` satisfies the one-step (Chapman–Kolmogorov) equation of the chain
      (`IsRedirectLaw`, a `HasSum` over the first skip) from every valid position and for every valid output;
    - `C16_redirect_law_unique`: that equation has no other solution;
    - `C16_redirect_process_law` / `C16_gnp_directed_law`: the probability that the process / the generator model outputs
      exactly `S`, written as the iterated sum over |S|+1 independent geometric skips (`skipsSum`), equals the product.
  * `C16_gnp_directed_mean`: the sum of the marginals is `dirMean = p (n² - n) + p (1-p) (n-1)`;
    `C16_gnp_directed_mean_excess`: the excess over the G(n,p) mean `p n (n-1)` is `p (1-p) (n-1)`, at most
    `p n (n-1) / (n-1)`.
  * `C16_gnp_directed_law_total`, `C16_gnp_directed_law_mean`: the product law has total mass 1 and its expected number
    of selected slots is `dirMean`.
-/
import GraphrsModel.Props.C16Dist
namespace Graphrs

/-- the slot process with diagonal redirect over the `n * n` slots of the table: position `pos`, slots emitted so far `acc` -/
def redirRun (n : Int) : List Int → Int → List Int → Option (List Int)
  | [], _, _ => none
  | k :: rest, pos, acc =>
    if n * n ≤ redirect n (pos + k) then some acc
    else redirRun n rest (redirect n (pos + k) + 1) (acc ++ [redirect n (pos + k)])

theorem redirRun_eq_landRun (n : Int) : redirRun n = landRun (redirect n) (n * n) := by
  funext ks
  induction ks with
  | nil => rfl
  | cons k rest ih => funext pos acc; rw [redirRun, landRun, ih]

/-- to land at or past `s` it suffices to reach `s - 1` if that slot is diagonal -/
theorem le_redirect_iff (n s t : Int) :
    s ≤ redirect n t ↔ (if (s - 1) % (n + 1) = 0 then s - 1 else s) ≤ t := by
  unfold redirect
  by_cases hs : (s - 1) % (n + 1) = 0 <;> by_cases ht : t % (n + 1) = 0 <;> simp only [hs, ht, if_true, if_false]
  · omega
  · have : t ≠ s - 1 := fun h => ht (h ▸ hs)
    omega
  · have : s - 1 ≠ t := fun h => hs (h ▸ ht)
    omega

/-- a redirected slot is never diagonal -/
theorem redirect_nondiag' (n s : Int) (hn : 1 ≤ n) : redirect n s % (n + 1) ≠ 0 := by
  by_cases h : s % (n + 1) = 0
  · rw [redirect_diag n s h]; exact succ_diag_nondiag n s hn h
  · rw [redirect_nondiag n s h]; exact h

/-- **the directed generator is the slot process with diagonal redirect** over the `n * n` row-major slots -/
theorem C16_gnp_directed_is_redirect_process (n : Int) (hn : 2 ≤ n) (hsmall : n ≤ 2147483647) (skips : List Int)
    (hs : ∀ k ∈ skips, 0 ≤ k) :
    (gnpDirected n (skips.length + 1) skips 0 (-1) []).map (List.map (slotDir n)) = redirRun n skips 0 [] := by
  rw [redirRun_eq_landRun]
  exact gnpDirected_landRun n hn hsmall skips hs

/-- n = 3 (slots 0, 4, 8 are diagonal): the skips 0, 1, 0, 5 select slots 1, 3, 5 (the first and the third
    skip land on a diagonal slot and are redirected) -/
example : gnpDirected 3 5 [0, 1, 0, 5] 0 (-1) [] = some [(0, 1), (1, 0), (1, 2)] ∧
    redirRun 3 [0, 1, 0, 5] 0 [] = some [1, 3, 5] := by
  refine ⟨by decide, by decide⟩

/-- marginal probability that slot `t` is selected: 0 on the diagonal, `1 - (1-p)^2` directly after a diagonal slot,
    `p` elsewhere -/
noncomputable def slotP (n : Int) (p : ℝ) (t : Int) : ℝ :=
  if t % (n + 1) = 0 then 0 else if (t - 1) % (n + 1) = 0 then 1 - (1 - p) ^ 2 else p

/-- Bernoulli factor of slot `t` for the outcome `S` -/
noncomputable def slotFactor (n : Int) (p : ℝ) (S : List Int) (t : Int) : ℝ :=
  if t ∈ S then slotP n p t else 1 - slotP n p t

/-- the closed form (product law): independent Bernoulli(`slotP t`) over the slots `pos, pos+1, …, n*n - 1` -/
noncomputable def outProb (n : Int) (p : ℝ) (pos : Int) (S : List Int) : ℝ :=
  ∏ i ∈ Finset.range (n * n - pos).toNat, slotFactor n p S (pos + (i : Int))

/-- a start position that does not directly follow a diagonal slot (0, or one past an emitted slot) and a strictly
    increasing list of non-diagonal slots in `[pos, n*n)` -/
def RedirOk (n pos : Int) (S : List Int) : Prop :=
  (pos - 1) % (n + 1) ≠ 0 ∧ SlotsOk (n * n) pos S ∧ ∀ s ∈ S, s % (n + 1) ≠ 0

theorem redirOk_zero (n : Int) (hn : 1 ≤ n) (S : List Int) (hok : SlotsOk (n * n) 0 S) (hnd : ∀ s ∈ S, s % (n + 1) ≠ 0) :
    RedirOk n 0 S := by
  refine ⟨?_, hok, hnd⟩
  rw [← Int.add_emod_right, Int.emod_eq_of_lt (by omega) (by omega)]; omega

/-- value of the chain after one step that lands on slot `s'` (`F` = law from the next position on) -/
noncomputable def stepVal (n : Int) (F : Int → List Int → ℝ) : List Int → Int → ℝ
  | [], s' => if n * n ≤ s' then 1 else 0
  | s0 :: T, s' => if s' < n * n ∧ s0 = s' then F (s' + 1) T else 0

/-- `F pos S` satisfies the one-step (Chapman–Kolmogorov) equation of the redirect process with geometric skips -/
def IsRedirectLaw (n : Int) (p : ℝ) (F : Int → List Int → ℝ) : Prop :=
  ∀ pos S, RedirOk n pos S →
    HasSum (fun k : ℕ => geom p k * stepVal n F S (redirect n (pos + (k : Int)))) (F pos S)

theorem slotP_diag {n : Int} {t : Int} (p : ℝ) (h : t % (n + 1) = 0) : slotP n p t = 0 := if_pos h

theorem slotP_succ_diag {n : Int} {t : Int} (p : ℝ) (h0 : t % (n + 1) ≠ 0) (h : (t - 1) % (n + 1) = 0) :
    slotP n p t = 1 - (1 - p) ^ 2 := by
  rw [slotP, if_neg h0, if_pos h]

theorem slotP_plain {n : Int} {t : Int} (p : ℝ) (h0 : t % (n + 1) ≠ 0) (h : (t - 1) % (n + 1) ≠ 0) : slotP n p t = p := by
  rw [slotP, if_neg h0, if_neg h]

theorem slotsOk_mem (N : Int) : ∀ (S : List Int) (pos : Int), SlotsOk N pos S → ∀ t ∈ S, pos ≤ t ∧ t < N := by
  intro S
  induction S with
  | nil => intro pos _ t ht; cases ht
  | cons s T ih =>
    intro pos ⟨h1, h2, h3⟩ t ht
    rcases List.mem_cons.mp ht with rfl | ht
    · exact ⟨h1, h2⟩
    · have := ih (s + 1) h3 t ht; omega

/-- probability that none of the `m` slots from `a` on is selected: a factor `1 - p` for each of them, with the one
    directly after a diagonal slot paying also for that diagonal slot — so `m` factors, or `m - 1` if the last slot is
    diagonal and nothing has paid for it yet -/
private theorem noSel_prod (n : Int) (hn : 1 ≤ n) (p : ℝ) (a : Int) (ha : (a - 1) % (n + 1) ≠ 0) : ∀ m : Nat,
    ∏ i ∈ Finset.range m, (1 - slotP n p (a + (i : Int))) =
      (1 - p) ^ (if (a + (m : Int) - 1) % (n + 1) = 0 then m - 1 else m) := by
  intro m
  induction m with
  | zero => rw [if_neg (by simpa using ha)]; rfl
  | succ m ih =>
    rw [Finset.prod_range_succ, ih, show a + ((m + 1 : Nat) : Int) - 1 = a + m by omega]
    by_cases h1 : (a + (m : Int) - 1) % (n + 1) = 0
    · have h2 : (a + (m : Int)) % (n + 1) ≠ 0 := by
        have := succ_diag_nondiag n _ hn h1
        rwa [Int.sub_add_cancel] at this
      obtain ⟨m', rfl⟩ : ∃ m', m = m' + 1 := ⟨m - 1, by
        rcases Nat.eq_zero_or_pos m with rfl | h
        · exact absurd (by simpa using h1) ha
        · omega⟩
      rw [if_pos h1, if_neg h2, slotP_succ_diag p h2 h1, Nat.add_sub_cancel]
      ring
    · rw [if_neg h1]
      by_cases h2 : (a + (m : Int)) % (n + 1) = 0
      · rw [if_pos h2, slotP_diag p h2, sub_zero, mul_one, Nat.add_sub_cancel]
      · rw [if_neg h2, slotP_plain p h2 h1, pow_succ]

private theorem geom_tail_from (p : ℝ) (hp0 : 0 < p) (hp1 : p < 1) (e : ℕ) :
    HasSum (fun k : ℕ => if e ≤ k then geom p k else 0) ((1 - p) ^ e) := by
  have h := geom_tail p hp0 hp1 e (Int.natCast_nonneg e)
  rw [Int.toNat_natCast] at h
  rw [← hasSum_nat_add_iff' e,
    Finset.sum_eq_zero fun i hi => if_neg (by have := Finset.mem_range.mp hi; omega), sub_zero]
  refine h.congr_fun fun j => ?_
  rw [if_pos (Nat.le_add_left e j), Nat.cast_add, add_comm]

/-- **where the first skip lands**: from a position that does not directly follow a diagonal slot, the first skip lands at
    or past slot `pos + m` with the probability that none of the `m` slots before it is selected -/
private theorem first_landing_ge (n : Int) (hn : 1 ≤ n) (p : ℝ) (hp0 : 0 < p) (hp1 : p < 1) (pos : Int)
    (hpos : (pos - 1) % (n + 1) ≠ 0) (m : ℕ) :
    HasSum (fun k : ℕ => if pos + m ≤ redirect n (pos + k) then geom p k else 0)
      (∏ i ∈ Finset.range m, (1 - slotP n p (pos + (i : Int)))) := by
  rw [noSel_prod n hn p pos hpos]
  refine (geom_tail_from p hp0 hp1 _).congr_fun fun k => if_congr ?_ rfl rfl
  rw [le_redirect_iff]
  by_cases hd : (pos + (m : Int) - 1) % (n + 1) = 0
  · have hm : m ≠ 0 := by rintro rfl; exact hpos (by simpa using hd)
    rw [if_pos hd, if_pos hd]
    omega
  · rw [if_neg hd, if_neg hd]
    omega

private theorem outProb_cons (n : Int) (p : ℝ) (pos : Int) (m : ℕ) (T : List Int)
    (hok : SlotsOk (n * n) pos ((pos + m) :: T)) :
    outProb n p pos ((pos + m) :: T) =
      (∏ i ∈ Finset.range m, (1 - slotP n p (pos + (i : Int)))) * slotP n p (pos + m) * outProb n p (pos + m + 1) T := by
  obtain ⟨_, h2, h3⟩ := hok
  have hmem := slotsOk_mem _ T _ h3
  unfold outProb
  rw [show (n * n - pos).toNat = m + ((n * n - (pos + m + 1)).toNat + 1) by omega, Finset.prod_range_add,
    Finset.prod_range_succ', mul_comm (Finset.prod _ _) (slotFactor _ _ _ _), ← mul_assoc]
  congr 1
  · congr 1
    · refine Finset.prod_congr rfl fun i hi => if_neg fun hm => ?_
      have := Finset.mem_range.mp hi
      rcases List.mem_cons.mp hm with h | h
      · omega
      · have := hmem _ h; omega
    · exact if_pos List.mem_cons_self
  · refine Finset.prod_congr rfl fun i _ => ?_
    rw [show pos + ((m + (i + 1) : Nat) : Int) = pos + m + 1 + i by omega]
    exact if_congr (List.mem_cons.trans (or_iff_right (by omega))) rfl rfl

/-- **first-step equation**: the product law `outProb` satisfies the one-step equation of the redirect process with
    independent geometric(p) skips, from every valid position and for every valid output -/
theorem C16_redirect_first_step (n : Int) (hn : 1 ≤ n) (p : ℝ) (hp0 : 0 < p) (hp1 : p < 1) :
    IsRedirectLaw n p (outProb n p) := by
  intro pos S ⟨hpos, hok, hnd⟩
  cases S with
  | nil =>
    -- the run ends at once: the first skip lands at or past `n * n`
    obtain ⟨m, hm⟩ := Int.le.dest (show pos ≤ n * n from hok)
    have h := first_landing_ge n hn p hp0 hp1 pos hpos m
    rw [hm] at h
    have e : outProb n p pos [] = ∏ i ∈ Finset.range m, (1 - slotP n p (pos + (i : Int))) := by
      rw [outProb, ← hm, add_sub_cancel_left, Int.toNat_natCast]
      exact Finset.prod_congr rfl fun i _ => if_neg List.not_mem_nil
    rw [e]
    refine h.congr_fun fun k => ?_
    rw [stepVal, mul_ite, mul_one, mul_zero]
  | cons s0 T =>
    -- the first skip lands on `s0`: at or past `s0`, but not at or past `s0 + 1`
    have ⟨h1, h2, _⟩ := hok
    obtain ⟨m, rfl⟩ := Int.le.dest h1
    have hA := first_landing_ge n hn p hp0 hp1 pos hpos m
    have hB := first_landing_ge n hn p hp0 hp1 pos hpos (m + 1)
    rw [Finset.prod_range_succ, Nat.cast_succ, ← Int.add_assoc] at hB
    rw [outProb_cons n p pos m T hok]
    generalize (∏ i ∈ Finset.range m, (1 - slotP n p (pos + (i : Int)))) = Q at hA hB ⊢
    generalize pos + (m : Int) = s0 at *
    rw [show Q * slotP n p s0 * outProb n p (s0 + 1) T = (Q - Q * (1 - slotP n p s0)) * outProb n p (s0 + 1) T by ring]
    refine ((hA.sub hB).mul_right _).congr_fun fun k => ?_
    rw [stepVal]
    rcases lt_trichotomy (redirect n (pos + k)) s0 with hl | hl | hl
    · rw [if_neg fun h => hl.ne h.2.symm, if_neg (Int.not_le.2 hl), if_neg (Int.not_le.2 (hl.trans (Int.lt_succ _))),
        sub_zero, zero_mul, mul_zero]
    · rw [hl, if_pos ⟨h2, rfl⟩, if_pos (Int.le_refl _), if_neg (Int.not_le.2 (Int.lt_succ _)), sub_zero]
    · rw [if_neg fun h => hl.ne h.2, if_pos hl.le, if_pos (Int.add_one_le_of_lt hl), sub_self, zero_mul, mul_zero]

theorem redirOk_tail (n pos s0 : Int) (T : List Int) (h : RedirOk n pos (s0 :: T)) : RedirOk n (s0 + 1) T := by
  obtain ⟨_, h2, h3⟩ := h
  refine ⟨?_, h2.2.2, fun s hs => h3 s (List.mem_cons_of_mem _ hs)⟩
  rw [Int.add_sub_cancel]; exact h3 s0 List.mem_cons_self

/-- the one-step equation, even read as an equation between numbers, determines the law: the position strictly increases,
    so the equations can be solved from the end -/
theorem redirect_law_unique_tsum (n : Int) (hn : 1 ≤ n) (p : ℝ) (hp0 : 0 < p) (hp1 : p < 1) (G : Int → List Int → ℝ)
    (hG : ∀ pos S, RedirOk n pos S → G pos S = ∑' k : ℕ, geom p k * stepVal n G S (redirect n (pos + (k : Int)))) :
    ∀ (S : List Int) (pos : Int), RedirOk n pos S → G pos S = outProb n p pos S := by
  intro S
  induction S with
  | nil =>
    intro pos hok
    rw [hG pos [] hok, ← (C16_redirect_first_step n hn p hp0 hp1 pos [] hok).tsum_eq]
    rfl
  | cons s0 T ih =>
    intro pos hok
    rw [hG pos _ hok, ← (C16_redirect_first_step n hn p hp0 hp1 pos _ hok).tsum_eq]
    refine tsum_congr fun k => ?_
    rw [stepVal, stepVal]
    by_cases hc : redirect n (pos + (k : Int)) < n * n ∧ s0 = redirect n (pos + (k : Int))
    · rw [if_pos hc, if_pos hc, ← hc.2, ih (s0 + 1) (redirOk_tail n pos s0 T hok)]
    · rw [if_neg hc, if_neg hc]

/-- **the one-step equation determines the law**: any `G` satisfying it agrees with the product law on all valid
    arguments -/
theorem C16_redirect_law_unique (n : Int) (hn : 1 ≤ n) (p : ℝ) (hp0 : 0 < p) (hp1 : p < 1)
    (G : Int → List Int → ℝ) (hG : IsRedirectLaw n p G) :
    ∀ (S : List Int) (pos : Int), RedirOk n pos S → G pos S = outProb n p pos S :=
  redirect_law_unique_tsum n hn p hp0 hp1 G fun pos S hok => (hG pos S hok).tsum_eq.symm

/-- expectation of `φ (k₁, …, k_m)` over `m` independent geometric(p) skips, as an iterated sum
    `Σ_{k₁} geom(k₁) Σ_{k₂} geom(k₂) … φ [k₁, …, k_m]` -/
noncomputable def skipsSum (p : ℝ) : Nat → (List Int → ℝ) → ℝ
  | 0, φ => φ []
  | m + 1, φ => ∑' k : ℕ, geom p k * skipsSum p m (fun ks => φ ((k : Int) :: ks))

theorem skipsSum_succ (p : ℝ) (m : Nat) (φ : List Int → ℝ) :
    skipsSum p (m + 1) φ = ∑' k : ℕ, geom p k * skipsSum p m (fun ks => φ ((k : Int) :: ks)) := rfl

private theorem skipsSum_zero (p : ℝ) : ∀ m : Nat, skipsSum p m (fun _ => 0) = 0 := by
  intro m
  induction m with
  | zero => rfl
  | succ m ih => rw [skipsSum_succ]; simp only [ih, mul_zero, tsum_zero]

theorem skipsSum_congr (p : ℝ) : ∀ (m : Nat) (φ ψ : List Int → ℝ),
    (∀ ks : List Int, ks.length = m → (∀ k ∈ ks, 0 ≤ k) → φ ks = ψ ks) → skipsSum p m φ = skipsSum p m ψ := by
  intro m
  induction m with
  | zero => intro φ ψ h; exact h [] rfl (fun _ hk => nomatch hk)
  | succ m ih =>
    intro φ ψ h
    rw [skipsSum_succ, skipsSum_succ]
    refine tsum_congr fun k => congrArg _ (ih _ _ fun ks hlen hnn => h _ (by rw [List.length_cons, hlen]) ?_)
    intro x hx
    rcases List.mem_cons.mp hx with rfl | hx
    · exact Int.natCast_nonneg k
    · exact hnn x hx

/-- **the law of the redirect process**: the probability — iterated sum over `|S| + 1` independent geometric(p) skips —
    that the process started at `pos` outputs exactly `S` is the product law `outProb`.  (Every level of the iterated
    sum is a genuine `HasSum`: `C16_redirect_first_step`.) -/
theorem C16_redirect_process_law (n : Int) (hn : 1 ≤ n) (p : ℝ) (hp0 : 0 < p) (hp1 : p < 1) :
    ∀ (S : List Int) (pos : Int), RedirOk n pos S →
      skipsSum p (S.length + 1) (fun ks => if redirRun n ks pos [] = some S then 1 else 0) = outProb n p pos S := by
  -- summing over the first skip is the one-step equation: what the run on `k :: ks` outputs is decided by where `k` lands
  refine redirect_law_unique_tsum n hn p hp0 hp1
    (fun pos S => skipsSum p (S.length + 1) (fun ks => if redirRun n ks pos [] = some S then 1 else 0)) ?_
  intro pos S _
  refine tsum_congr fun k => congrArg _ ?_
  rw [redirRun_eq_landRun]
  cases S with
  | nil => exact if_congr landRun_cons_nil rfl rfl
  | cons s0 T =>
    rw [stepVal]
    by_cases hc : redirect n (pos + (k : Int)) < n * n ∧ s0 = redirect n (pos + (k : Int))
    · rw [if_pos hc, ← hc.2]
      refine congrArg _ (funext fun ks => if_congr ?_ rfl rfl)
      rw [landRun_cons_cons, ← hc.2]
      exact ⟨fun h => h.2.2, fun h => ⟨hc.2 ▸ hc.1, rfl, h⟩⟩
    · rw [if_neg hc]
      refine Eq.trans (congrArg _ (funext fun ks => if_neg ?_)) (skipsSum_zero p _)
      rw [landRun_cons_cons]
      exact fun h => hc ⟨h.1, h.2.1.symm⟩

theorem outProb_zero (n : Int) (p : ℝ) (S : List Int) :
    outProb n p 0 S = ∏ t ∈ Finset.range (n * n).toNat, slotFactor n p S (t : Int) := by
  unfold outProb
  rw [show n * n - 0 = n * n by omega]
  apply Finset.prod_congr rfl
  intro i _
  rw [show (0 : Int) + i = i by omega]

/-- **the directed generator draws from the product law** (given independent geometric skips): for every strictly
    increasing list `S` of non-diagonal slots, the probability — iterated sum over `|S| + 1` independent geometric(p)
    skips — that the model of `fast_gnp_random_graph_directed` emits exactly the pairs of `S` is
    `Π_{slots t} (if t ∈ S then slotP t else 1 - slotP t)`: the ordered pairs are present independently, with probability
    `p`, except the pairs `(v, v+1)` (the slot directly after a diagonal slot), which have probability `1 - (1-p)²`. -/
theorem C16_gnp_directed_law (n : Int) (hn : 2 ≤ n) (hsmall : n ≤ 2147483647) (p : ℝ) (hp0 : 0 < p) (hp1 : p < 1)
    (S : List Int) (hok : RedirOk n 0 S) :
    skipsSum p (S.length + 1)
        (fun ks => if (gnpDirected n (ks.length + 1) ks 0 (-1) []).map (List.map (slotDir n)) = some S then 1 else 0) =
      ∏ t ∈ Finset.range (n * n).toNat, slotFactor n p S (t : Int) := by
  rw [← outProb_zero, ← C16_redirect_process_law n (by omega) p hp0 hp1 S 0 hok]
  apply skipsSum_congr
  intro ks _ hnn
  rw [C16_gnp_directed_is_redirect_process n hn hsmall ks hnn]

/-- the mean number of selected slots (edges) under the product law: the sum of the marginal probabilities -/
noncomputable def dirMean (n : Int) (p : ℝ) : ℝ := ∑ t ∈ Finset.range (n * n).toNat, slotP n p (t : Int)

theorem slotP_add_mul (n : Int) (p : ℝ) (t j : Int) : slotP n p (t + j * (n + 1)) = slotP n p t := by
  rw [slotP, slotP, add_sub_right_comm, Int.add_mul_emod_self_right, Int.add_mul_emod_self_right]

/-- one period from a diagonal slot on: `0`, `1 - (1-p)²`, then `n - 1` times `p` -/
private theorem period_sum (M : ℕ) (p : ℝ) :
    ∑ i ∈ Finset.range (M + 2), slotP ((M + 1 : ℕ) : Int) p (i : Int) = (1 - (1 - p) ^ 2) + M * p := by
  have hm : ∀ i : ℕ, i < M + 2 → (i : Int) % (((M + 1 : ℕ) : Int) + 1) = i :=
    fun i hi => Int.emod_eq_of_lt (Int.natCast_nonneg i) (by omega)
  have e : ∀ i : ℕ, ((i + 1 : ℕ) : Int) - 1 = i := fun i => by omega
  rw [Finset.sum_range_succ', Finset.sum_range_succ', slotP_diag p (hm 0 (by omega)),
    slotP_succ_diag p (by rw [hm 1 (by omega)]; decide) (by rw [e 0]; exact hm 0 (by omega)),
    Finset.sum_congr rfl fun i hi => slotP_plain p
      (by rw [hm (i + 1 + 1) (by have := Finset.mem_range.mp hi; omega)]; omega)
      (by rw [e (i + 1), hm (i + 1) (by have := Finset.mem_range.mp hi; omega)]; omega),
    Finset.sum_const, Finset.card_range, nsmul_eq_mul, add_zero, add_comm]

private theorem periods_sum (M : ℕ) (p : ℝ) : ∀ m : ℕ,
    ∑ t ∈ Finset.range (m * (M + 2)), slotP ((M + 1 : ℕ) : Int) p (t : Int) = m * ((1 - (1 - p) ^ 2) + M * p) := by
  intro m
  induction m with
  | zero => simp
  | succ m ih =>
    rw [Nat.succ_mul, Finset.sum_range_add, ih, ← period_sum M p, (Nat.cast_succ m : ((m + 1 : ℕ) : ℝ) = m + 1), add_mul,
      one_mul]
    refine congrArg _ (Finset.sum_congr rfl fun i _ => ?_)
    rw [show ((m * (M + 2) + i : ℕ) : Int) = i + m * (((M + 1 : ℕ) : Int) + 1) by push_cast; ring, slotP_add_mul]

/-- **mean number of edges of the directed generator**: `p (n² - n) + p (1 - p) (n - 1)` — the `n - 1` slots that
    directly follow a diagonal slot are selected with probability `p + (1-p) p` -/
theorem C16_gnp_directed_mean (n : Int) (hn : 2 ≤ n) (p : ℝ) :
    dirMean n p = p * ((n : ℝ) * n - n) + p * (1 - p) * ((n : ℝ) - 1) := by
  -- `n - 1` periods of `n + 1` slots, and the last diagonal slot
  obtain ⟨M, rfl⟩ : ∃ M : ℕ, n = (M + 1 : ℕ) := ⟨(n - 1).toNat, by omega⟩
  have hlast : slotP ((M + 1 : ℕ) : Int) p ((M * (M + 2) : ℕ) : Int) = 0 := by
    have := slotP_add_mul ((M + 1 : ℕ) : Int) p 0 M
    rw [slotP_diag p (Int.zero_emod _)] at this
    rw [← this]
    congr 1
    push_cast; ring
  rw [dirMean, ← Nat.cast_mul, Int.toNat_natCast, show (M + 1) * (M + 1) = M * (M + 2) + 1 by ring,
    Finset.sum_range_succ, periods_sum M p, hlast]
  push_cast
  ring

/-- **the allowance**: the mean exceeds the G(n,p) mean `p n (n-1)` by `p (1-p) (n-1)`, a relative excess of
    `(1-p)/n ≤ 1/(n-1)` -/
theorem C16_gnp_directed_mean_excess (n : Int) (hn : 2 ≤ n) (p : ℝ) (hp0 : 0 ≤ p) (hp1 : p ≤ 1) :
    dirMean n p - p * ((n : ℝ) * n - n) = p * (1 - p) * ((n : ℝ) - 1) ∧
    p * ((n : ℝ) * n - n) ≤ dirMean n p ∧
    |dirMean n p - p * ((n : ℝ) * n - n)| ≤ p * ((n : ℝ) * n - n) / ((n : ℝ) - 1) := by
  have hpos : 0 < (n : ℝ) - 1 := sub_pos.2 (lt_of_lt_of_le one_lt_two (by exact_mod_cast hn))
  have hex : 0 ≤ p * (1 - p) * ((n : ℝ) - 1) := mul_nonneg (mul_nonneg hp0 (sub_nonneg.2 hp1)) hpos.le
  have hsub : dirMean n p - p * ((n : ℝ) * n - n) = p * (1 - p) * ((n : ℝ) - 1) := by
    rw [C16_gnp_directed_mean n hn p, add_sub_cancel_left]
  refine ⟨hsub, sub_nonneg.1 (hsub ▸ hex), ?_⟩
  -- the bound is `p n`, and `p (1-p) ≤ p`, `n - 1 ≤ n`
  rw [hsub, abs_of_nonneg hex, show p * ((n : ℝ) * n - n) = p * n * ((n : ℝ) - 1) by ring, mul_div_cancel_right₀ _ hpos.ne']
  exact mul_le_mul (mul_le_of_le_one_right hp0 (sub_le_self 1 hp0)) (sub_le_self _ zero_le_one) hpos.le hp0

/-- the product law over all sets `A` of slots has total mass one -/
theorem C16_gnp_directed_law_total (n : Int) (p : ℝ) :
    ∑ A ∈ (Finset.range (n * n).toNat).powerset,
      ∏ t ∈ Finset.range (n * n).toNat, (if t ∈ A then slotP n p (t : Int) else 1 - slotP n p (t : Int)) = 1 :=
  (bernoulli_total_mean (fun t => slotP n p (t : Int)) _).1

/-- the expected number of selected slots under the product law is `dirMean`, the sum of the marginals -/
theorem C16_gnp_directed_law_mean (n : Int) (p : ℝ) :
    ∑ A ∈ (Finset.range (n * n).toNat).powerset,
      (A.card : ℝ) *
        ∏ t ∈ Finset.range (n * n).toNat, (if t ∈ A then slotP n p (t : Int) else 1 - slotP n p (t : Int)) =
      dirMean n p :=
  (bernoulli_total_mean (fun t => slotP n p (t : Int)) _).2

/-- n = 3: the output `[1, 3, 5]` is valid from position 0; slot 1 = (0,1) and slot 5 = (1,2) directly
    follow a diagonal slot, slot 3 = (1,0) does not; the hypotheses of `C16_gnp_directed_law` hold and its right-hand
    side is the explicit product below -/
example (p : ℝ) : RedirOk 3 0 [1, 3, 5] ∧
    slotP 3 p 0 = 0 ∧ slotP 3 p 1 = 1 - (1 - p) ^ 2 ∧ slotP 3 p 3 = p ∧ slotP 3 p 5 = 1 - (1 - p) ^ 2 ∧
    outProb 3 p 0 [1, 3, 5] =
      1 * (1 - (1 - p) ^ 2) * (1 - p) * p * 1 * (1 - (1 - p) ^ 2) * (1 - p) * (1 - p) * 1 := by
  refine ⟨⟨by decide, by simp only [SlotsOk]; decide, by decide⟩, slotP_diag p (by decide),
    slotP_succ_diag p (by decide) (by decide), slotP_plain p (by decide) (by decide),
    slotP_succ_diag p (by decide) (by decide), ?_⟩
  rw [outProb_zero]
  show ∏ t ∈ Finset.range 9, slotFactor 3 p [1, 3, 5] (t : Int) = _
  simp only [Finset.prod_range_succ, Finset.prod_range_zero, slotFactor]
  simp [slotP]

end Graphrs
