/-
  Source tie for C11 (translator `tools/formulas.py`): the quotients of `clustering`, `transitivity` and `triangles` in
  src/algorithms/cluster/mod.rs, regenerated into `Generated/FormulasC11.lean`, are the ones the models use: each model
  function is restated with the regenerated expressions in place of its own and proved equal.  All three proofs are `rfl`:
  the tie is syntactic (up to unfolding the generated definitions), so a reordering of a quotient in the source breaks it
  even where the value is the same.
-/
import GraphrsModel.Generated.FormulasC11
import GraphrsModel.Model.Cluster
namespace Graphrs

theorem C11_src_clusteringUnweighted (s : Store) (names : Option (List Nat)) :
    s.clusteringUnweighted names = (do
      s.ensureNotMulti
      s.ensureHasNodes names
      if s.specs.directed then do
        let t ← s.directedTrianglesAndDegrees names
        .ok (t.foldl (fun m x => ainsert m x.name
          (if x.tri == 0 then (0 : Rat) else Src.C11.clusteringDirected x.tri x.total x.recip)) [])
      else do
        let t ← s.trianglesAndDegrees names
        .ok (t.foldl (fun m x => ainsert m x.name
          (if x.ntri == 0 then (0 : Rat) else Src.C11.clusteringUndirected x.ntri x.degree)) [])) := by
  rfl

theorem C11_src_triangles (s : Store) (names : Option (List Nat)) :
    s.triangles names = (do
      s.ensureUndirected
      s.ensureHasNodes names
      let t ← s.trianglesAndDegrees names
      .ok (t.foldl (fun m x => ainsert m x.name (Src.C11.trianglesValue x.ntri)) [])) := by
  rfl

theorem C11_src_transitivity (s : Store) :
    s.transitivity = (do
      s.ensureUndirected
      if s.getAllNodes.isEmpty then .ok 0
      else do
        let t ← s.trianglesAndDegrees none
        let tri := sumNat (t.map (·.ntri))
        let contri := sumNat (t.map fun x => Src.C11.transitivityTerm x.degree)
        .ok (if tri == 0 then 0 else Src.C11.transitivityValue (tri : Rat) (contri : Rat))) := by
  rfl

end Graphrs
