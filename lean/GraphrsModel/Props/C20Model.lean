/-
  C20 at model level, collected: on *every* well-formed store - hence on the empty graph, a single node, edgeless and
  disconnected graphs of every GraphSpecs record - the models of the algorithms return a value or a documented error,
  never a panic. Each line is a corollary of the model-level theorem of the property that owns the algorithm.
  (Queries and degree maps: Props/C20.lean; strong components, Louvain index sites: C10Model, C13Model.)
-/
import GraphrsModel.Props.C05Full
import GraphrsModel.Props.C06Model
import GraphrsModel.Props.C08Api
import GraphrsModel.Props.C10Model
import GraphrsModel.Props.C12Weighted
import GraphrsModel.Props.C13Model
import GraphrsModel.Lemmas.NoPanicCalculus
namespace Graphrs
open LouvainFull

theorem C20_model_betweenness_no_panic (s : Store) (h : s.wf = true) (weighted normalized : Bool) :
    (s.betweenness weighted normalized).isPanic = false :=
  C20B.np_of_ok (C05_model_ok s h weighted normalized)

/-- `closeness_centrality`, hop-count and weighted mode: the `reverse().unwrap()` and `get_node_by_index().unwrap()`
    sites are never reached -/
theorem C20_model_closeness_any_no_panic (s : Store) (h : s.wf = true) (weighted wfFlag : Bool) :
    (s.closeness weighted wfFlag).isPanic = false :=
  C20B.np_of_ok (C06C.closeness_ok s h weighted wfFlag)

theorem C20_model_closeness_no_panic (s : Store) (h : s.wf = true) (wfFlag : Bool) :
    (s.closeness false wfFlag).isPanic = false :=
  C20_model_closeness_any_no_panic s h false wfFlag

theorem C20_model_strong_components_no_panic (s : Store) (h : s.wf = true) :
    s.stronglyConnectedComponents.isPanic = false :=
  C10_model_strong_no_panic s h

theorem C20_model_louvain_no_panic (s : Store) (h : s.wf = true) (weighted : Bool) (res threshold : Rat) (perms : List (List Nat)) :
    (louvainPartitions s weighted res threshold perms).isPanic = false :=
  C20B.np_of_ok (C13_model_always_ok s h weighted res threshold perms)

/-- `single_source`: a value for a known source, `NodeNotFound` for an unknown one -/
theorem C20_model_single_source_no_panic (s : Store) (h : s.wf = true) (hent : s.entOk = true) (weighted : Bool)
    (hc : s.costsOk weighted) (src : Nat) (cutoff2 : Option Int) (firstOnly withPaths : Bool) :
    (s.singleSource weighted src none cutoff2 firstOnly withPaths).isPanic = false := by
  cases hs : s.hasNode src
  · rw [C04_model_singleSource_unknown_corrected s h weighted src hs none cutoff2 firstOnly withPaths]; rfl
  · exact C20B.np_of_ok (C04_model_singleSource_ok s h hent weighted hc src hs cutoff2 firstOnly withPaths)

/-- `modularity`: a value for a true partition (sets as duplicate-free lists), `NotAPartition` otherwise -/
theorem C20_model_modularity_no_panic (s : Store) (h : s.wf = true) (comms : List (List Nat)) (weighted : Bool) (res : Rat)
    (hsets : ∀ c ∈ comms, c.Nodup) : (s.modularity comms weighted res).isPanic = false := by
  cases hp : s.isPartition comms
  · have := C12_not_a_partition s comms weighted res hp
    revert this
    cases s.modularity comms weighted res with
    | ok v => intro h; exact absurd h (by simp)
    | err k => intro _; rfl
    | panic site => intro h; exact absurd h (by simp)
  · rw [C12W.model_eq s h comms weighted res hp hsets]; rfl

/-- in particular on the empty graph of every kind: every GraphSpecs record -/
theorem C20_model_empty_graph (sp : Specs) (weighted normalized : Bool) (res threshold : Rat) (perms : List (List Nat)) :
    ((Store.new sp).betweenness weighted normalized).isPanic = false ∧
    ((Store.new sp).closeness false normalized).isPanic = false ∧
    (Store.new sp).stronglyConnectedComponents.isPanic = false ∧
    (louvainPartitions (Store.new sp) weighted res threshold perms).isPanic = false ∧
    ((Store.new sp).modularity [] weighted res).isPanic = false :=
  ⟨C20_model_betweenness_no_panic _ (C01_new_wf sp) _ _, C20_model_closeness_no_panic _ (C01_new_wf sp) _,
   C20_model_strong_components_no_panic _ (C01_new_wf sp), C20_model_louvain_no_panic _ (C01_new_wf sp) _ _ _ _,
   C20_model_modularity_no_panic _ (C01_new_wf sp) [] _ _ (by simp)⟩

end Graphrs
