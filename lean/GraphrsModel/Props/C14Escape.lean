/-
  C14, the escaping layer: for *every* byte string, the attribute value the writer emits for a node name cannot end the
  attribute early and is unescaped by the reader to the original name. (Model: Model/Escape.lean, quick-xml's `escape`
  and `unescape`, tied to the library by the `esc` correspondence family.)
-/
import GraphrsModel.Model.Escape
namespace Graphrs
open Esc

private theorem escByte_of_not_special {b : Nat} (h : b ∉ [60, 62, 39, 38, 34]) : escByte b = [b] := by
  simp only [List.mem_cons, List.not_mem_nil, or_false, not_or] at h
  simp only [escByte, beq_iff_eq, h, if_false]

private theorem step_escByte (b : Nat) (rest : List Nat) :
    unescapeGo none (escByte b ++ rest) = (unescapeGo none rest).map (b :: ·) := by
  by_cases h : b ∈ [60, 62, 39, 38, 34]
  · -- a special byte: the reader runs over the entity written for it
    simp only [List.mem_cons, List.not_mem_nil, or_false] at h
    rcases h with rfl | rfl | rfl | rfl | rfl <;> rfl
  · have h38 : (b == 38) = false := beq_false_of_ne fun e => h (by simp [e])
    rw [escByte_of_not_special h, List.singleton_append, unescapeGo, h38]
    rfl

/-- **unescape ∘ escape = id**, for every byte string (XML-special characters, whitespace, text that looks like an
    entity, any UTF-8) -/
theorem C14_unescape_escape (bs : List Nat) : unescape (escape bs) = some bs := by
  unfold unescape escape
  induction bs with
  | nil => simp [unescapeGo]
  | cons b bs ih => simp [List.flatMap_cons, step_escByte, ih]

/-- the escaped value contains no quote and no angle bracket -/
theorem C14_escape_no_markup (bs : List Nat) :
    ∀ b ∈ escape bs, b ≠ 34 ∧ b ≠ 39 ∧ b ≠ 60 ∧ b ≠ 62 := by
  intro x hx
  obtain ⟨b, _, hxb⟩ := List.mem_flatMap.mp hx
  by_cases h : b ∈ [60, 62, 39, 38, 34]
  · exact (by decide : ∀ b ∈ [60, 62, 39, 38, 34], ∀ x ∈ escByte b, x ≠ 34 ∧ x ≠ 39 ∧ x ≠ 60 ∧ x ≠ 62) b h x hxb
  · rw [escByte_of_not_special h, List.mem_singleton] at hxb
    subst hxb
    simp only [List.mem_cons, List.not_mem_nil, or_false, not_or] at h
    exact ⟨h.2.2.2.2, h.2.2.1, h.1, h.2.1⟩

/-- hence the reader's attribute tokenizer (the value ends at the first `"`) returns the whole escaped value, whatever
    follows the closing quote -/
theorem C14_quoted_value_whole (bs rest : List Nat) : quotedValue (escape bs ++ 34 :: rest) = escape bs := by
  unfold quotedValue
  rw [List.takeWhile_append_of_pos]
  · simp
  · intro b hb
    have := (C14_escape_no_markup bs b hb).1
    simpa using this

/-- **a node name survives the write/read of its attribute**: written as `id="<escape name>"...`, tokenized and unescaped -/
theorem C14_name_roundtrip (name rest : List Nat) :
    unescape (quotedValue (escape name ++ 34 :: rest)) = some name := by
  rw [C14_quoted_value_whole, C14_unescape_escape]

theorem C14_escape_injective (a b : List Nat) (h : escape a = escape b) : a = b := by
  have := C14_unescape_escape a
  rw [h, C14_unescape_escape] at this
  exact (Option.some.inj this).symm

/-- non-vacuity / examples: `R&D <"é">` and text that already looks like an entity -/
example : escape [82, 38, 68] = [82, 38, 97, 109, 112, 59, 68] ∧ unescape [38, 35, 120, 52, 49, 59] = some [65] ∧
    unescape [38, 97, 109, 112] = none ∧ unescape (escape [38, 108, 116, 59]) = some [38, 108, 116, 59] := by decide

end Graphrs
