/-
  C11, weighted forms, model level — the executable weighted clustering model IS the definition, over ℝ.

  Model/Cluster.lean writes the inline `max_weight` (`maxWeightG`), `get_normalized_edge_weight`, `get_weighted_triangles_and_degrees`,
  `get_all_directed_triangles` and the weighted `clustering` of src/algorithms/cluster/*.rs ONCE, generically over a
  record of scalar operations (`CScalar α`); Spec/Cluster.lean writes the definitions (`weightedClusteringAtG`: geometric
  mean of the max-normalised weights over the ordered pairs of adjacent neighbours; `weightedFagioloAtG`: the directed
  form `[(Ŵ^[1/3] + (Ŵᵀ)^[1/3])³]_vv`) over the same record.  The driver runs both at `Float` (`floatCScalar`).
  This file reads THE SAME definitions at `ℝ` (`realCScalar`, cube root = the odd real cube root `rcbrt`) and proves,
  for every well-formed single-edge store all of whose edges carry a positive weight:

    (a) undirected: the model returns `.ok m` (no `unwrap` site is reached) and `m` binds every requested node to
        `weightedClusteringAtG` of the abstract graph;
    (b) directed: the same against `weightedFagioloAtG`;
    (c) the undirected weighted coefficient lies in [0, 1].

  The mathematical content of (a)/(b): the code takes ONE cube root of the product of three normalised weights, the
  definition multiplies THREE cube roots (`rcbrt_mul`), the undirected code visits every triangle once and doubles,
  the definition sums over ordered pairs (`dsum_pairs`), and the directed code's eight intersection sums are the
  expansion of the product of the three symmetrised entries.
-/
import GraphrsModel.Lemmas.C11WUndir
import GraphrsModel.Lemmas.C11WDir
namespace Graphrs
open C02 C11aux C11M C11W

/-- every stored edge carries a positive weight -/
def Store.positiveWeights (s : Store) : Prop := ∀ e ∈ s.allEdges, ∃ c : Int, e.w = some c ∧ 0 < c

private theorem ensureWeighted_pass (s : Store) (hw : s.positiveWeights) : s.ensureWeighted = .ok () := by
  refine if_pos (List.all_eq_true.2 fun e he => ?_)
  obtain ⟨c, hc, _⟩ := hw e he
  rw [hc]
  rfl

private theorem wclu_eq (a : Abs) (v : Nat) :
    a.weightedClusteringAtG realCScalar v =
      if ((a.N v).map fun u => ((a.N v).map fun w => adjTerm a v u w).sum).sum = 0 then 0
      else ((a.N v).map fun u => ((a.N v).map fun w => adjTerm a v u w).sum).sum
        / (((a.N v).length : ℝ) * (((a.N v).length : ℝ) - 1)) := by
  unfold Abs.weightedClusteringAtG
  simp only [ssumG_real, sum_flatMap, sum_filter]
  exact if_congr decide_eq_true_iff rfl rfl

/-- **(a) undirected weighted clustering = the definition**, for every requested subset; in particular the model does not
    panic: none of its `unwrap` sites is reachable on a well-formed store -/
theorem C11_weighted_undirected (s : Store) (h : s.wf = true) (hd : s.specs.directed = false) (hmul : s.specs.multi = false)
    (hw : s.positiveWeights) (names : Option (List Nat)) (hn : ∀ x ∈ requestedU s names, s.hasNode x = true) :
    ∃ m, s.clusteringWeightedG realCScalar names = .ok m ∧
      ∀ x ∈ requestedU s names, alookup m x = some (s.abs.weightedClusteringAtG realCScalar x) := by
  unfold Store.clusteringWeightedG
  simp only [ensureNotMulti_pass s hmul, ensureHasNodes_requestedU s names hn, ensureWeighted_pass s hw,
    wtd_ok s h hd names hn, bind, Outcome.bind, hd, Bool.false_eq_true, if_false]
  refine ⟨_, rfl, ?_⟩
  intro x hx
  rw [alookup_foldl_ainsert (fun t : Nat × Nat × ℝ => t.1) _ (fun v => s.abs.weightedClusteringAtG realCScalar v)]
  · rw [if_pos]
    rw [List.map_map]
    exact List.mem_map.2 ⟨x, (mem_dedup _ _).2 hx, rfl⟩
  · intro t ht
    obtain ⟨v, hv, rfl⟩ := List.mem_map.1 ht
    have hv' := hn v ((mem_dedup _ _).1 hv)
    show _ = s.abs.weightedClusteringAtG realCScalar v
    rw [wclu_eq, ← inner_total s h hd hmul hw v hv', ← mN_length s h hd v hv']
    exact if_congr decide_eq_true_iff rfl rfl

/-- **(b) directed weighted clustering = the Fagiolo form of the definition**, for every requested list of nodes; the
    model does not panic -/
theorem C11_weighted_directed (s : Store) (h : s.wf = true) (hd : s.specs.directed = true) (hmul : s.specs.multi = false)
    (hw : s.positiveWeights) (names : Option (List Nat)) (hn : ∀ x ∈ names.getD s.getAllNodeNames, s.hasNode x = true) :
    ∃ m, s.clusteringWeightedG realCScalar names = .ok m ∧
      ∀ x ∈ names.getD s.getAllNodeNames, alookup m x = some (s.abs.weightedFagioloAtG realCScalar x) := by
  rw [show s.clusteringWeightedG realCScalar names = List.foldl _ (.ok []) (names.getD s.getAllNodeNames) by
    unfold Store.clusteringWeightedG
    simp only [ensureNotMulti_pass s hmul, ensureHasNodes_pass s names (fun l e x hx => hn x (e ▸ hx)),
      ensureWeighted_pass s hw, bind, Outcome.bind, hd, if_true]
    cases names <;> rfl]
  rw [Outcome.foldl_ok_pure _ (fun out i => ainsert out i (s.abs.weightedFagioloAtG realCScalar i))]
  · refine ⟨_, rfl, fun x hx => ?_⟩
    rw [alookup_foldl_ainsert (fun i : Nat => i) _ (fun v => s.abs.weightedFagioloAtG realCScalar v) _ (fun _ _ => rfl),
      List.map_id', if_pos hx]
  · intro out i hi
    have hi' := hn i hi
    simp only [adjWithout_pred s h hd i hi', adjWithout_succ s h hd i hi', allDir_ok s h hd i hi' true,
      allDir_ok s h hd i hi' false, if_true, Bool.false_eq_true, if_false]
    -- both sides are `.ok (ainsert out i _)`: compare the inserted values
    congr 2
    unfold Abs.weightedFagioloAtG
    simp only [ssumG_real]
    show (if decide (_ + _ = (0 : ℝ)) = true then (0 : ℝ) else (_ + _) /
        (((((mP s i).length + (mS s i).length : Nat) : ℝ) * ((((mP s i).length + (mS s i).length : Nat) : ℝ) - 1)
          - 2 * (((sinter (mP s i) (mS s i)).length : Nat) : ℝ)) * 2)) = _
    rw [dir_total s h hd hmul hw i hi', total_eq s h hd i hi', recip_eq s h hd i hi', abs_nodeNames]
    show _ = (if decide (_ = (0 : ℝ)) = true then (0 : ℝ) else _ / (2 * (_ * (_ - 1) - 2 * _)))
    -- the code writes the denominator `(…) * 2`, the definition `2 * (…)`
    rw [mul_comm _ (2 : ℝ)]
    rfl

/-- **(c) the undirected weighted coefficient lies in [0, 1]** (every normalised weight is in (0, 1], so every term is at
    most 1, and there are at most `d (d - 1)` ordered pairs of distinct neighbours) -/
theorem C11_weighted_unit_interval (a : Abs) (hw : ∀ e ∈ a.edges, ∃ c : Int, e.w = some c ∧ 0 < c) (v : Nat) :
    0 ≤ a.weightedClusteringAtG realCScalar v ∧ a.weightedClusteringAtG realCScalar v ≤ 1 := by
  rw [wclu_eq]
  obtain ⟨h0, h1⟩ := dsum_bounds a hw v
  generalize ((a.N v).map fun u => ((a.N v).map fun w => adjTerm a v u w).sum).sum = t at h0 h1 ⊢
  by_cases ht : t = 0
  · rw [if_pos ht]
    exact ⟨le_rfl, zero_le_one⟩
  · have hden : 0 < ((a.N v).length : ℝ) * (((a.N v).length : ℝ) - 1) :=
      lt_of_lt_of_le (lt_of_le_of_ne h0 (Ne.symm ht)) h1
    rw [if_neg ht]
    exact ⟨div_nonneg h0 hden.le, (div_le_one hden).2 h1⟩

theorem C11_weighted_undirected_unit (s : Store) (h : s.wf = true) (hd : s.specs.directed = false)
    (hmul : s.specs.multi = false) (hw : s.positiveWeights) (names : Option (List Nat))
    (hn : ∀ x ∈ requestedU s names, s.hasNode x = true) (m : List (Nat × ℝ))
    (hm : s.clusteringWeightedG realCScalar names = .ok m) :
    ∀ x ∈ requestedU s names, ∃ c, alookup m x = some c ∧ 0 ≤ c ∧ c ≤ 1 := by
  obtain ⟨m', hm', hval⟩ := C11_weighted_undirected s h hd hmul hw names hn
  rw [hm] at hm'
  cases hm'
  intro x hx
  exact ⟨_, hval x hx, C11_weighted_unit_interval s.abs hw x⟩

theorem clusteringWeighted_is_float_instance (s : Store) (names : Option (List Nat)) :
    s.clusteringWeighted names = s.clusteringWeightedG floatCScalar names := rfl
theorem weightedClusteringAt_is_float_instance (a : Abs) (v : Nat) :
    a.weightedClusteringAt v = a.weightedClusteringAtG floatCScalar v := rfl
theorem weightedFagioloAt_is_float_instance (a : Abs) (v : Nat) :
    a.weightedFagioloAt v = a.weightedFagioloAtG floatCScalar v := rfl

end Graphrs
