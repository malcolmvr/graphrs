/-
  C09 at model level, the remaining functions: sizes, density, degree centrality and the adjacency-matrix triplets of the
  model equal the abstract values (the fields of `Abs.api`, the specification record the correspondence runs compare the
  implementation with) on every well-formed store.
-/
import GraphrsModel.Props.C09Model
import GraphrsModel.Props.C12Weighted
import GraphrsModel.Lemmas.C09RestAux
namespace Graphrs


theorem C09_model_sizes (s : Store) (h : s.wf = true) :
    s.numberOfNodes = s.abs.nodes.length ∧ s.sizeUnweighted = s.abs.edges.length ∧ s.sizeWeighted = Abs.sumW s.abs.edges ∧
    s.numberOfEdges = s.abs.edges.length := by
  exact ⟨rfl, rfl, rfl, (C09_model_numberOfEdges s h).1⟩

namespace C09R

theorem edges_isEmpty_iff {s : Store} (he : s.EdgesInv) : s.edges.isEmpty = s.abs.edges.isEmpty := by
  cases hE : s.edges with
  | nil => simp [Store.abs, Store.allEdges, hE]
  | cons kv m =>
    obtain ⟨k, l⟩ := kv
    have hl : alookup s.edges k = some l := by rw [hE]; simp [alookup]
    obtain ⟨a1, _⟩ := he.edges_ok k l hl
    cases l with
    | nil => exact absurd rfl a1
    | cons e l => simp [Store.abs, Store.allEdges, hE]

theorem ratd_eq_zero_iff (n : Nat) : ((n : Rat) * ((n : Rat) - 1) == 0) = (n * (n - 1) == 0) := by
  have h : (n : Rat) * ((n : Rat) - 1) = ((n * (n - 1) : Nat) : Rat) := by
    cases n with
    | zero => rw [Nat.zero_mul, Nat.cast_zero, zero_mul]
    | succ k => rw [Nat.add_sub_cancel, Nat.cast_mul, Nat.cast_succ, add_sub_cancel_right]
  rw [h, Bool.eq_iff_iff, beq_iff_eq, beq_iff_eq, Nat.cast_eq_zero]

end C09R

/-- `get_density`: distinct stored pairs over possible pairs (undirected: 2m / n(n-1)); `none` is the f64 division by zero -/
theorem C09_model_density (s : Store) (h : s.wf = true) :
    s.getDensity = (Abs.api s.specs s.abs).density := by
  obtain ⟨hn, he⟩ := Store.wf_inv h
  simp only [Store.getDensity, C09R.edges_isEmpty_iff he, C09R.ratd_eq_zero_iff,
    show s.edges.length = s.abs.keys.length by rw [Store.abs_keys he, List.length_map]]
  rfl


/-- `degree_centrality`: degree / (n - 1), and 1 for graphs with at most one node; never a panic -/
theorem C09_model_degree_centrality (s : Store) (h : s.wf = true) :
    ∃ m, s.degreeCentrality = .ok m ∧
      ∀ x, alookup m x = (if s.hasNode x then
        some (if s.nodesVec.length ≤ 1 then (1 : Rat)
              else ((s.abs.degree s.specs.directed x : Nat) : Rat) / ((s.nodesVec.length : Rat) - 1)) else none) := by
  by_cases hle : s.nodesVec.length ≤ 1
  · refine ⟨s.names.map fun x => (x, (1 : Rat)), ?_, fun x => ?_⟩
    · simp only [Store.degreeCentrality, hle, if_true]
      exact congrArg Outcome.ok (C09M.foldl_ainsert_names s (fun _ => (1 : Rat)) (Store.names_nodup _ h))
    · simp only [C09M.lookup_names_map s h, hle, if_true]
  · refine ⟨s.names.map fun x => (x, ((s.abs.degree s.specs.directed x : Nat) : Rat) / ((s.nodesVec.length : Rat) - 1)),
      ?_, fun x => ?_⟩
    · simp only [Store.degreeCentrality, hle, if_false]
      exact C09M.forAllNodes_wf s h _ _ _ fun x hx => by rw [C09_model_degree s h x, hx]; rfl
    · simp only [C09M.lookup_names_map s h, hle, if_false]

private theorem indexOf_eq (s : Store) (h : s.wf = true) (x : Nat) : s.abs.indexOf x = alookup s.nodesMap x := by
  have := C02_getNodeIndex s h x
  unfold Store.getNodeIndex at this
  cases h1 : alookup s.nodesMap x <;> cases h2 : s.abs.indexOf x <;> simp [h1, h2] at this ⊢
  exact this.symm

/-- the triplets handed to `sprs::TriMat` : one entry (position of u, position of v, weight or 1) per stored edge, mirrored
    for an undirected edge between different nodes; `WrongMethod` for a multigraph; no panic (`edges[0]` exists) -/
theorem C09_model_triplets (s : Store) (h : s.wf = true) :
    (s.specs.multi = true → s.getAdjacencyTriplets = .err .WrongMethod) ∧
    (s.specs.multi = false → ∃ l, s.getAdjacencyTriplets = .ok l ∧
      l.Perm (s.abs.edges.flatMap fun e =>
        let w : Int := match e.w with | none => 1 | some x => x
        let i := (s.abs.indexOf e.u).getD 0
        let j := (s.abs.indexOf e.v).getD 0
        if !s.specs.directed && i != j then [(i, j, w), (j, i, w)] else [(i, j, w)])) := by
  obtain ⟨hn, he⟩ := Store.wf_inv h
  refine ⟨fun hm => by simp [Store.getAdjacencyTriplets, hm], fun hm => ?_⟩
  refine ⟨_, C09R.triplets_eq s hm (C09R.emap_nonempty he), ?_⟩
  -- from `edges_map` to `edges` (`emap_perm`), then binding by binding: each holds one edge
  refine ((C09R.emap_perm hn he).flatMap_right _).trans ?_
  rw [List.flatMap_map]
  show (s.edges.flatMap _).Perm ((s.edges.flatMap (·.2)).flatMap _)
  rw [List.flatMap_assoc]
  apply List.Perm.flatMap_left
  rintro ⟨k, l⟩ hkl
  obtain ⟨_, a2, a3, _, _, a6, _⟩ := he.edges_ok k l (AL.mem_lookup he.edges_nodup hkl)
  rcases a6 with a6 | a6
  · rw [hm] at a6; cases a6
  match l, a6 with
  | [e], _ =>
    have hk := a2 e (by simp)
    subst hk
    obtain ⟨eu, ev, ew, ea⟩ := e
    simp only [List.flatMap_cons, List.flatMap_nil, List.append_nil, indexOf_eq s h, C09R.toIdx, C09R.trip, C09R.headW]
    cases ew <;> exact C09R.entries_idxKey_perm _ _ _ _

/-- the matrix is symmetric for an undirected graph and has no repeated position: every (row, column) occurs at most once -/
theorem C09_model_triplets_positions_nodup (s : Store) (h : s.wf = true) (hm : s.specs.multi = false) (l : List (Nat × Nat × Int))
    (hl : s.getAdjacencyTriplets = .ok l) :
    (l.map fun t => (t.1, t.2.1)).Nodup ∧ (s.specs.directed = false → ∀ t ∈ l, (t.2.1, t.1, t.2.2) ∈ l) := by
  obtain ⟨hn, he⟩ := Store.wf_inv h
  rw [C09R.triplets_eq s hm (C09R.emap_nonempty he)] at hl
  cases hl
  refine ⟨C09R.positions_nodup he, ?_⟩
  intro hd t ht
  rw [hd] at ht ⊢
  obtain ⟨kv, hkv, hmem⟩ := List.mem_flatMap.mp ht
  exact List.mem_flatMap.mpr ⟨kv, hkv, C09R.entries_swap_mem _ _ _ t hmem⟩

end Graphrs
