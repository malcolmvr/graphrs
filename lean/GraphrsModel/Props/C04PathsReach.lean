/-
  C04, path lists, on the stores the mutation API can build: the traversal lists name each neighbour at most once
  (`Store.rowsNodup`, an invariant of every reachable store: `C03_rows_reachable`), so there are no two parallel
  arcs `v → u` (`v ≠ u`) at all and `C04_dijkstra_model_all_paths_corrected` applies: all shortest paths, each once.
-/
import GraphrsModel.Props.C04Paths
import GraphrsModel.Props.C03Rows
namespace Graphrs

theorem rowArcs_count_le (weighted dir : Bool) (v u : Nat) (m : Int) (hvu : v ≠ u) (row : List Adj) :
    (rowArcs weighted v row).count (v, u, m) ≤ ((row.filter (fun a => dir || a.1 != v)).map (·.1)).count u := by
  rw [rowArcs, List.count_filterMap, List.count_eq_countP, List.countP_map, List.countP_filter]
  refine List.countP_mono_left fun a _ ha => ?_
  obtain ⟨c, _, hc⟩ := Option.map_eq_some_iff.1 (beq_iff_eq.1 ha)
  have hau : a.1 = u := congrArg (·.2.1) hc
  have hav : (a.1 != v) = true := bne_iff_ne.2 (hau ▸ Ne.symm hvu)
  show (a.1 == u && (dir || a.1 != v)) = true
  rw [hav, Bool.or_true, Bool.and_true, beq_iff_eq]
  exact hau

theorem flatMap_rowArcs_count_le (weighted : Bool) (a : Nat × Nat × Int) :
    ∀ (L : List (List Adj × Nat)), (L.map (·.2)).Nodup →
      (∀ r ∈ L, (rowArcs weighted r.2 r.1).count a ≤ 1) →
      (L.flatMap fun r => rowArcs weighted r.2 r.1).count a ≤ 1 := by
  intro L
  induction L with
  | nil => intro _ _; exact Nat.zero_le 1
  | cons r L ih =>
    intro hnd hrow
    obtain ⟨hr, hnd⟩ := List.nodup_cons.1 hnd
    rw [List.flatMap_cons, List.count_append]
    by_cases hm : a ∈ rowArcs weighted r.2 r.1
    · -- the arcs out of one node all sit in one row
      have h2 : (L.flatMap fun r => rowArcs weighted r.2 r.1).count a = 0 := by
        refine List.count_eq_zero.2 fun hm' => hr ?_
        obtain ⟨r', hr', hm'⟩ := List.mem_flatMap.1 hm'
        exact List.mem_map.2 ⟨r', hr', (rowArcs_src _ hm').symm.trans (rowArcs_src _ hm)⟩
      rw [h2]
      exact hrow r (List.mem_cons_self ..)
    · rw [List.count_eq_zero.2 hm, Nat.zero_add]
      exact ih hnd fun r' hr' => hrow r' (List.mem_cons_of_mem _ hr')

theorem idxArcs_count_le_one (s : Store) (weighted : Bool) (hr : s.rowsNodup = true) (v u : Nat) (m : Int)
    (hvu : v ≠ u) : (s.idxArcs weighted).count (v, u, m) ≤ 1 := by
  rw [idxArcs_eq]
  unfold Store.rowsNodup at hr
  simp only [Bool.and_eq_true, List.all_eq_true, decide_eq_true_eq] at hr
  refine flatMap_rowArcs_count_le weighted _ _ ?_ fun r hrm => ?_
  · rw [List.zipIdx_map_snd]
    exact List.nodup_range' 1 Nat.one_pos
  · by_cases e : r.2 = v
    · rw [e]
      exact Nat.le_trans (rowArcs_count_le weighted s.specs.directed v u m hvu r.1)
        (List.nodup_iff_count.1 (e ▸ hr.1 r hrm) u)
    · rw [List.count_eq_zero.2 fun hm => e (rowArcs_src _ hm).symm]
      exact Nat.zero_le 1

theorem C04_dijkstra_model_all_paths_rows (s : Store) (weighted : Bool) (source : Nat)
    (hwf : s.vecWf) (hrows : s.rowsNodup = true)
    (hsrc : source < s.nodesVec.length) (hpos : ∀ a ∈ s.idxArcs weighted, 0 < a.2.2)
    (out : List (Nat × SPInfo)) (h : s.dijkstra weighted source none none false true = .ok out) :
    ∀ t i, (t, i) ∈ out → i.paths.Nodup ∧ ∀ p, p ∈ i.paths ↔ IsShortestPath (s.idxArcs weighted) source t p :=
  C04_dijkstra_model_all_paths_corrected s weighted source hwf hsrc hpos
    (fun v u m hvu _ => idxArcs_count_le_one s weighted hrows v u m hvu) out h

/-- in particular on every store reachable through the mutation API (`hwf` follows from `Core_reachable_wf` and
    `C08A.vecWf_of_wf`) -/
theorem C04_dijkstra_model_all_paths_reachable (sp : Specs) (ops : List Op) (weighted : Bool) (source : Nat)
    (hwf : (Store.run sp ops).1.vecWf)
    (hsrc : source < (Store.run sp ops).1.nodesVec.length)
    (hpos : ∀ a ∈ (Store.run sp ops).1.idxArcs weighted, 0 < a.2.2)
    (out : List (Nat × SPInfo)) (h : (Store.run sp ops).1.dijkstra weighted source none none false true = .ok out) :
    ∀ t i, (t, i) ∈ out → i.paths.Nodup ∧
      ∀ p, p ∈ i.paths ↔ IsShortestPath ((Store.run sp ops).1.idxArcs weighted) source t p := by
  have := C03_rows_reachable sp ops
  unfold Store.entOk at this
  rw [Bool.and_eq_true] at this
  exact C04_dijkstra_model_all_paths_rows _ weighted source hwf this.1 hsrc hpos out h

end Graphrs
