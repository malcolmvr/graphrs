/-
  C09 — counts, degrees and the handshake identities, on the abstract graph (node list + edge
  list) that every read API answers from (C02) and that the store refines (C01).
  `Abs.api` (Obs.lean) is the specification the implementation's count / degree / density /
  matrix functions are compared with on every run; here the identities the property states are
  proved of that specification for every graph.
-/
import GraphrsModel.Obs
import GraphrsModel.Lemmas.OptionSums
namespace Graphrs

/-- endpoints are nodes and node names are pairwise distinct (holds on every reachable store) -/
def Abs.Valid (a : Abs) : Prop := a.nodeNames.Nodup ∧ ∀ e ∈ a.edges, e.u ∈ a.nodeNames ∧ e.v ∈ a.nodeNames


private theorem sumNat_cons (a : Nat) (l : List Nat) : sumNat (a :: l) = a + sumNat l := by
  simp only [sumNat_eq_sum, List.sum_cons]

private theorem count_by_key (l : List Nat) (es : List Edge) (f : Edge → Nat)
    (hl : l.Nodup) (hf : ∀ e ∈ es, f e ∈ l) :
    sumNat (l.map fun x => (es.filter fun e => f e == x).length) = es.length := by
  have h := C09M.sum_by_key es f (fun _ => 1) l hl hf
  simp only [C09M.sum_map_one] at h
  rw [sumNat_eq_sum, h]

/-- undirected: touching edges + self-loops = incoming + outgoing (inclusion–exclusion over the two ends) -/
theorem C09_degree_eq_in_add_out (dir : Bool) (a : Abs) (x : Nat) :
    a.degree dir x = (a.inEdges x).length + (a.outEdges x).length := by
  cases dir
  · have h := C09M.sum_filter_or_and (fun e : Edge => e.u == x) (fun e => e.v == x) (fun _ => 1) a.edges
    simp only [C09M.sum_map_one] at h
    exact h
  · rfl

/-- directed: the in-degrees sum to the number of edges (parallel edges counted individually) -/
theorem C09_in_degrees_sum (a : Abs) (h : a.Valid) :
    sumNat (a.nodeNames.map fun x => (a.inEdges x).length) = a.edges.length :=
  count_by_key a.nodeNames a.edges (·.v) h.1 (fun e he => (h.2 e he).2)

theorem C09_out_degrees_sum (a : Abs) (h : a.Valid) :
    sumNat (a.nodeNames.map fun x => (a.outEdges x).length) = a.edges.length :=
  count_by_key a.nodeNames a.edges (·.u) h.1 (fun e he => (h.2 e he).1)

/-- directed: degree = in-degree + out-degree for every node (a self-loop counts in both) -/
theorem C09_directed_degree_split (a : Abs) (x : Nat) :
    a.degree true x = (a.inEdges x).length + (a.outEdges x).length :=
  rfl

/-- **handshake**: the degrees of all nodes sum to twice the number of edges, on directed and undirected
    graphs alike; a self-loop adds two to its node -/
theorem C09_handshake (dir : Bool) (a : Abs) (h : a.Valid) :
    sumNat (a.nodeNames.map fun x => a.degree dir x) = 2 * a.edges.length := by
  have hi := C09_in_degrees_sum a h
  have ho := C09_out_degrees_sum a h
  rw [sumNat_eq_sum] at hi ho ⊢
  simp only [C09_degree_eq_in_add_out, List.sum_map_add, hi, ho, Nat.two_mul]

theorem C09_self_loop_counts_twice (dir : Bool) (x : Nat) (w : W) :
    Abs.degree dir { nodes := [⟨x, none⟩], edges := [⟨x, x, w, none⟩] } x = 2 := by
  rw [C09_degree_eq_in_add_out]
  simp [Abs.inEdges, Abs.outEdges]

/-- the weight of an edge list as an integer, a missing weight counting 0 (used where every edge has a weight) -/
def Abs.wsum (es : List Edge) : Int := sumInt (es.map fun e => e.w.getD 0)

theorem C09_sumW_weighted (es : List Edge) (hw : ∀ e ∈ es, e.w.isSome = true) : Abs.sumW es = some (Abs.wsum es) := by
  rw [Abs.wsum, sumInt_eq_sum]
  induction es with
  | nil => rfl
  | cons e es ih =>
    obtain ⟨we, hwe⟩ := Option.isSome_iff_exists.mp (hw e (by simp))
    rw [C12W.sumW_cons, ih fun e' he' => hw e' (by simp [he']), List.map_cons, List.sum_cons, hwe]
    rfl

private theorem wsum_eq (es : List Edge) : Abs.wsum es = (es.map fun e => e.w.getD 0).sum :=
  sumInt_eq_sum _

theorem C09_weightedDegree_eq (dir : Bool) (a : Abs) (x : Nat) :
    a.weightedDegree dir x = W.add (Abs.sumW (a.inEdges x)) (Abs.sumW (a.outEdges x)) := by
  cases dir
  · exact C12W.sumW_filter_or_and (fun e => e.u == x) (fun e => e.v == x) a.edges
  · rfl

theorem C09_weighted_handshake (dir : Bool) (a : Abs) (h : a.Valid) (hw : ∀ e ∈ a.edges, e.w.isSome = true) :
    sumInt (a.nodeNames.map fun x => (a.weightedDegree dir x).getD 0) = 2 * Abs.wsum a.edges := by
  have hf : ∀ p : Edge → Bool, Abs.sumW (a.edges.filter p) = some ((a.edges.filter p).map fun e => e.w.getD 0).sum :=
    fun p => (C09_sumW_weighted _ fun e he => hw e (List.mem_filter.mp he).1).trans (congrArg some (wsum_eq _))
  simp only [C09_weightedDegree_eq, Abs.inEdges, Abs.outEdges, hf, W.add, Option.getD_some, sumInt_eq_sum, wsum_eq,
    List.sum_map_add]
  rw [C09M.sum_by_key a.edges (·.v) _ a.nodeNames h.1 fun e he => (h.2 e he).2,
    C09M.sum_by_key a.edges (·.u) _ a.nodeNames h.1 fun e he => (h.2 e he).1, Int.two_mul]

/-- number_of_edges = size(false) = number of stored edges; size(true) = the sum of the weights -/
theorem C09_counts (sp : Specs) (a : Abs) :
    (Abs.api sp a).numEdges = a.edges.length ∧ (Abs.api sp a).sizeU = a.edges.length ∧
    (Abs.api sp a).numNodes = a.nodes.length ∧ (Abs.api sp a).sizeW = Abs.sumW a.edges :=
  ⟨rfl, rfl, rfl, rfl⟩

/-- non-vacuity: a directed multigraph with a self-loop -/
example :
    let a : Abs := { nodes := [⟨3, none⟩, ⟨1, none⟩], edges := [⟨3, 1, some 2, none⟩, ⟨3, 1, some 5, none⟩, ⟨3, 3, some 1, none⟩] }
    a.Valid ∧ sumNat (a.nodeNames.map fun x => a.degree true x) = 6 := by
  refine ⟨⟨by decide, by decide⟩, by decide⟩

end Graphrs
