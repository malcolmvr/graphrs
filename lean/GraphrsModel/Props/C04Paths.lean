/-
  C04 / C08 at model level, the path lists: with strictly positive costs and `first_only = false` the model of `dijkstra`
  returns, for every reported node, *exactly the set of all shortest paths, each once*; with `first_only = true` exactly one
  of them; a target restricts the answer without changing it.
  (Distances, cutoff and validity of every returned path: Props/C04Model.lean.)

  "Each once" (`Nodup`) needs a hypothesis: it is false on a store whose traversal list carries two parallel entries
  `v → u` of equal minimal cost (`C04_dijkstra_model_all_paths_counterexample`): the tie branch `vu_dist == seen[u]`
  appends the paths through `v` once per copy. `C04_dijkstra_model_all_paths_corrected` assumes there are no such
  entries; the membership half needs no such hypothesis (`C04_dijkstra_model_all_paths_set`); stores built through the
  mutation API have no such entries (Props/C04PathsReach.lean).
-/
import GraphrsModel.Props.C04Model
import GraphrsModel.Lemmas.DijkstraSim
import GraphrsModel.Lemmas.DijkstraComplete
import GraphrsModel.Lemmas.DijkstraUnique
import GraphrsModel.Lemmas.DijkstraExact
namespace Graphrs

/-- `p` is a shortest path from `src` to `t`: a node sequence along arcs whose cost (cheapest parallel arc at every
    step) is the shortest distance -/
def IsShortestPath (A : Arcs) (src t : Nat) (p : List Nat) : Prop :=
  p.head? = some src ∧ p.getLast? = some t ∧ ∃ d, Arcs.walkCost A p = some d ∧ IsDist A src t d

/-- `IsShortestPath` is `Bc.ShortestPath` (Lemmas/BcPaths.lean) with the three parts of `PathOk` written out -/
theorem isShortestPath_iff {A : Arcs} {src t : Nat} {p : List Nat} :
    IsShortestPath A src t p ↔ ∃ c, PathOk A src t p c ∧ IsDist A src t c :=
  ⟨fun ⟨h1, h2, d, h3, h4⟩ => ⟨d, ⟨h1, h2, h3⟩, h4⟩, fun ⟨d, ⟨h1, h2, h3⟩, h4⟩ => ⟨h1, h2, d, h3, h4⟩⟩

theorem dijkstra_ok_state {s : Store} {weighted : Bool} {source : Nat} {target : Option Nat} {cutoff2 : Option Int}
    {firstOnly withPaths : Bool} {out : List (Nat × SPInfo)} (hwf : s.vecWf) (hnn : ∀ a ∈ s.idxArcs weighted, 0 ≤ a.2.2)
    (h : s.dijkstra weighted source target cutoff2 firstOnly withPaths = .ok out) :
    ∃ (st : DState) (pend : Arcs),
      dijkstraLoop (fun v => s.succVec[v]?.getD []) weighted target cutoff2 firstOnly withPaths (s.totalAdj + 2)
        (DState.start s.numberOfNodes source withPaths) = .ok st ∧
      out = spInfos st.dist st.paths withPaths ∧
      Inv (s.idxArcs weighted) source s.nodesVec.length cutoff2 pend st.dist st.seen st.fringe ∧
      (target = none → pend = [] ∧ st.fringe = []) ∧
      (withPaths = true → PInvB (s.idxArcs weighted) source st.seen st.paths) := by
  obtain ⟨hsrc, st, hl, e⟩ := dijkstra_ok_loop h
  obtain ⟨st', pend, hl', _, I, hfin, P⟩ := dijkstra_run s weighted source target cutoff2 firstOnly withPaths hwf hsrc hnn
  cases hl'.symm.trans hl
  exact ⟨st, pend, hl, e, I, hfin, P⟩

theorem dijkstra_run_all (s : Store) (weighted : Bool) (source : Nat)
    (hwf : s.vecWf) (hpos : ∀ a ∈ s.idxArcs weighted, 0 < a.2.2)
    (out : List (Nat × SPInfo)) (h : s.dijkstra weighted source none none false true = .ok out) :
    ∃ st : DState, out = spInfos st.dist st.paths true ∧
      dijkstraLoop (fun v => s.succVec[v]?.getD []) weighted none none false true (s.totalAdj + 2)
        (DState.start s.numberOfNodes source true) = .ok st ∧
      Inv (s.idxArcs weighted) source s.nodesVec.length none [] st.dist st.seen [] ∧
      PInvB (s.idxArcs weighted) source st.seen st.paths ∧
      CInvB (s.idxArcs weighted) source s.nodesVec.length st.dist st.seen st.paths := by
  have hnn : ∀ a ∈ s.idxArcs weighted, 0 ≤ a.2.2 := fun a ha => Int.le_of_lt (hpos a ha)
  have hsrc := (dijkstra_ok_loop h).1
  obtain ⟨st, pend, hl, e, I, hfin, P⟩ := dijkstra_ok_state hwf hnn h
  obtain ⟨e1, e2⟩ := hfin rfl
  subst e1
  rw [e2] at I
  exact ⟨st, e, hl, I, P rfl,
    dijkstraLoop_complete s.succVec (idxArcs_wf s weighted hwf hnn) hpos (idxArcs_rowsOk s weighted) _
      (DState.start s.numberOfNodes source true) st
      (Inv.init _ _ _ _ hsrc) (CInvB.init _ _ _ hsrc _) (init_fuel s _ _) hl⟩

set_option linter.unusedVariables false in
/-- **the set of returned paths is exactly the set of all shortest paths** (strictly positive costs, no target, no
    cutoff, `first_only = false`) - on every store with well-formed traversal lists, multigraph rows included -/
theorem C04_dijkstra_model_all_paths_set (s : Store) (weighted : Bool) (source : Nat)
    (hwf : s.vecWf) (hsrc : source < s.nodesVec.length) (hpos : ∀ a ∈ s.idxArcs weighted, 0 < a.2.2)
    (out : List (Nat × SPInfo)) (h : s.dijkstra weighted source none none false true = .ok out) :
    ∀ t i, (t, i) ∈ out → ∀ p, p ∈ i.paths ↔ IsShortestPath (s.idxArcs weighted) source t p := by
  intro t i hm p
  have hnn : ∀ a ∈ s.idxArcs weighted, 0 ≤ a.2.2 := fun a ha => Int.le_of_lt (hpos a ha)
  have hA : ArcsWf (s.idxArcs weighted) s.nodesVec.length := idxArcs_wf s weighted hwf hnn
  obtain ⟨st, e, _, I, P, C⟩ := dijkstra_run_all s weighted source hwf hpos out h
  subst e
  obtain ⟨d, hd, hi⟩ := (mem_spInfos ..).1 hm
  subst hi
  simp only [if_true]
  constructor
  · intro hp
    obtain ⟨k, hk, h1, h2, h3⟩ := P t p hp
    have := I.distSeen t d hd
    rw [hk] at this; cases this
    exact ⟨h1, h2, d, h3, ((I.final_exact hA rfl t d).1 hd).1⟩
  · rintro ⟨h1, h2, d', h3, h4⟩
    exact complete_final hA I C h1 h2 h3 h4

theorem idxArcs_row_count (s : Store) (weighted : Bool) (v : Nat) (x : Nat × Nat × Int) :
    (rowArcs weighted v (s.succVec[v]?.getD [])).count x ≤ (s.idxArcs weighted).count x := by
  cases hr : s.succVec[v]? with
  | none => simp [rowArcs]
  | some row =>
    simp only [Option.getD_some]
    apply List.Sublist.count_le
    rw [idxArcs_eq, List.flatMap_def]
    apply List.sublist_flatten_of_mem
    rw [List.mem_map]
    exact ⟨(row, v), List.mem_zipIdx_iff_getElem?.2 hr, rfl⟩

/-- without a hypothesis on parallel arcs the path lists may repeat a path: two nodes, the row of node 0 is
    `[(1, 1), (1, 1)]`; `relaxFull` - like the Rust loop `for adj in graph.get_successor_nodes_by_index(&v)` - treats the
    second copy as a tie `vu_dist == seen[u]` and appends the paths through node 0 a second time, so the model returns
    the path `[0, 1]` twice for node 1. Such a row is not reachable through `add_edge` (on a multigraph
    `add_to_adjacency_vec` keeps one entry per neighbour, `AdjUpd.keepMin`; see `C04_dijkstra_model_all_paths_rows`). -/
theorem C04_dijkstra_model_all_paths_counterexample :
    let s : Store := { specs := ⟨true, true, false, .keepFirst, .create, .error⟩,
                       nodesVec := [⟨0, none⟩, ⟨1, none⟩], succVec := [[(1, some 1), (1, some 1)], []] }
    s.vecWf ∧ 0 < s.nodesVec.length ∧ (∀ a ∈ s.idxArcs true, 0 < a.2.2) ∧
    (s.dijkstra true 0 none none false true).toOption = some [(0, ⟨0, [[0]]⟩), (1, ⟨1, [[0, 1], [0, 1]]⟩)] ∧
    ¬ ([[0, 1], [0, 1]] : List (List Nat)).Nodup := by
  intro s
  refine ⟨?_, ?_, ?_, ?_, ?_⟩
  · unfold Store.vecWf; decide +kernel
  · decide
  · decide +kernel
  · decide +kernel
  · decide

/-- **all shortest paths, each once** (strictly positive costs, no target, no cutoff, `first_only = false`, and no two
    parallel arcs `v → u`, `v ≠ u`, share the minimal cost) -/
theorem C04_dijkstra_model_all_paths_corrected (s : Store) (weighted : Bool) (source : Nat)
    (hwf : s.vecWf) (hsrc : source < s.nodesVec.length) (hpos : ∀ a ∈ s.idxArcs weighted, 0 < a.2.2)
    (hpar : ∀ v u m, v ≠ u → minArc (s.idxArcs weighted) v u = some m → (s.idxArcs weighted).count (v, u, m) ≤ 1)
    (out : List (Nat × SPInfo)) (h : s.dijkstra weighted source none none false true = .ok out) :
    ∀ t i, (t, i) ∈ out → i.paths.Nodup ∧ ∀ p, p ∈ i.paths ↔ IsShortestPath (s.idxArcs weighted) source t p := by
  intro t i hm
  refine ⟨?_, C04_dijkstra_model_all_paths_set s weighted source hwf hsrc hpos out h t i hm⟩
  have hnn : ∀ a ∈ s.idxArcs weighted, 0 ≤ a.2.2 := fun a ha => Int.le_of_lt (hpos a ha)
  have hA : ArcsWf (s.idxArcs weighted) s.nodesVec.length := idxArcs_wf s weighted hwf hnn
  obtain ⟨st, e, hl, I, P, C⟩ := dijkstra_run_all s weighted source hwf hpos out h
  have U := dijkstraLoop_unique s.succVec hA hpos hpar (idxArcs_rowsOk s weighted) (idxArcs_row_count s weighted) _
    (DState.start s.numberOfNodes source true) st
    (Inv.init (s.idxArcs weighted) source s.numberOfNodes none hsrc) (PInvB.init _ _ _) (UInvB.init _ hsrc _ _) (init_fuel s _ _) hl
  subst e
  obtain ⟨d, hd, hi⟩ := (mem_spInfos ..).1 hm
  subst hi
  simp only [if_true]
  exact (U.good t).1

/-- **`first_only = true` returns exactly one path, and it is one of the shortest paths** (non-negative costs suffice) -/
theorem C04_dijkstra_model_first_only (s : Store) (weighted : Bool) (source : Nat) (target : Option Nat) (cutoff2 : Option Int)
    (hwf : s.vecWf) (hsrc : source < s.nodesVec.length) (hnn : ∀ a ∈ s.idxArcs weighted, 0 ≤ a.2.2)
    (out : List (Nat × SPInfo)) (h : s.dijkstra weighted source target cutoff2 true true = .ok out) :
    ∀ t i, (t, i) ∈ out → ∃ p, i.paths = [p] ∧ IsShortestPath (s.idxArcs weighted) source t p := by
  intro t i hm
  have hA : ArcsWf (s.idxArcs weighted) s.numberOfNodes := idxArcs_wf s weighted hwf hnn
  have I0 := Inv.init (s.idxArcs weighted) source s.numberOfNodes cutoff2 hsrc
  obtain ⟨st, pend, hl, e, I, _, P⟩ := dijkstra_ok_state hwf hnn h
  have E := dijkstraLoop_exact s.succVec hA (idxArcs_rowsOk s weighted) _ (DState.start s.numberOfNodes source true) _ I0
    (EInv.init _ _ _ _ _) (init_fuel s _ _) hl
  have F := dijkstraLoop_first s.succVec hA (idxArcs_rowsOk s weighted) _ (DState.start s.numberOfNodes source true) _ I0
    (FInv.init hsrc) (init_fuel s _ _) hl
  subst e
  obtain ⟨d, hd, hi⟩ := (mem_spInfos ..).1 hm
  subst hi
  have hs := I.distSeen t d hd
  obtain ⟨p, hp⟩ := F.2 t d hs
  refine ⟨p, hp, ?_⟩
  obtain ⟨k, hk, h1, h2, h3⟩ := P rfl t p (hp.symm ▸ List.mem_singleton_self p : p ∈ pth st.paths t)
  rw [hs] at hk
  cases hk
  exact ⟨h1, h2, d, h3, E.1 t d hd⟩

/-- each node is reported at most once -/
theorem C04_dijkstra_model_keys_nodup (s : Store) (weighted : Bool) (source : Nat) (target : Option Nat) (cutoff2 : Option Int)
    (firstOnly withPaths : Bool) (out : List (Nat × SPInfo))
    (h : s.dijkstra weighted source target cutoff2 firstOnly withPaths = .ok out) : (out.map (·.1)).Nodup := by
  obtain ⟨_, st, _, e⟩ := dijkstra_ok_loop h
  subst e
  exact spInfos_keys_nodup _ _ _

/-- the search that stops at a target answers with a part of the unrestricted answer (same cutoff, `first_only`,
    `with_paths`): every entry it reports is an entry of the unrestricted answer, and the target's entry of the
    unrestricted answer, if there is one, is reported -/
theorem dijkstra_target_restricts (s : Store) (weighted : Bool) (source tgt : Nat) (cutoff2 : Option Int)
    (firstOnly withPaths : Bool) (hwf : s.vecWf) (full out : List (Nat × SPInfo))
    (hfull : s.dijkstra weighted source none cutoff2 firstOnly withPaths = .ok full)
    (h : s.dijkstra weighted source (some tgt) cutoff2 firstOnly withPaths = .ok out) :
    (∀ t i, (t, i) ∈ out → (t, i) ∈ full) ∧ (∀ i, (tgt, i) ∈ full → (tgt, i) ∈ out) := by
  obtain ⟨hsrc, st2, h2, e2⟩ := dijkstra_ok_loop hfull
  obtain ⟨_, st1, h1, e1⟩ := dijkstra_ok_loop h
  obtain ⟨F, hcase⟩ := dijkstraLoop_target_prefix _ weighted tgt cutoff2 firstOnly withPaths s.numberOfNodes hwf.adj_lt
    (s.totalAdj + 2) (DState.start s.numberOfNodes source withPaths) st1 st2
    List.length_replicate (fun e he => by rw [List.mem_singleton.1 he]; exact hsrc) h1 h2
  subst e1 e2
  refine ⟨fun t i hm => ?_, fun i hm => ?_⟩
  · obtain ⟨d, hd, hi⟩ := (mem_spInfos ..).1 hm
    obtain ⟨f1, f2⟩ := F t d hd
    exact (mem_spInfos ..).2 ⟨d, f1, by rw [hi, f2]⟩
  · rcases hcase with e | ⟨d, hd⟩
    · rw [e]; exact hm
    · obtain ⟨d', hd', hi⟩ := (mem_spInfos ..).1 hm
      obtain ⟨f1, f2⟩ := F tgt d hd
      cases hd'.symm.trans f1
      exact (mem_spInfos ..).2 ⟨d, hd, by rw [hi, f2]⟩

set_option linter.unusedVariables false in
/-- **C08, target** (no cutoff, `first_only = false`): the search that stops at a target reports the target with exactly
    the entry - distance and path list - it has in the unrestricted answer, or not at all if that answer does not list it;
    every other node it reports is reported by the unrestricted search with the same distance - in fact with the same
    entry, and for every cutoff and `first_only`: `dijkstra_target_restricts`. (`firstOnly`, `hsrc`, `htgt` and `hpos`
    are not used.) -/
theorem C08_dijkstra_model_target (s : Store) (weighted : Bool) (source tgt : Nat) (firstOnly withPaths : Bool)
    (hwf : s.vecWf) (hsrc : source < s.nodesVec.length) (htgt : tgt < s.nodesVec.length)
    (hpos : ∀ a ∈ s.idxArcs weighted, 0 < a.2.2)
    (full out : List (Nat × SPInfo))
    (hfull : s.dijkstra weighted source none none false withPaths = .ok full)
    (h : s.dijkstra weighted source (some tgt) none false withPaths = .ok out) :
    (∀ i, (tgt, i) ∈ out ↔ (tgt, i) ∈ full) ∧ (∀ t i, (t, i) ∈ out → ∃ j, (t, j) ∈ full ∧ j.dist = i.dist) :=
  have ⟨h1, h2⟩ := dijkstra_target_restricts s weighted source tgt none false withPaths hwf full out hfull h
  ⟨fun i => ⟨h1 tgt i, h2 i⟩, fun t i hm => ⟨i, h1 t i hm, rfl⟩⟩

set_option linter.unusedVariables false in
/-- **C08, with_paths**: `with_paths = false` changes nothing but leaves the path lists empty -/
theorem C08_dijkstra_model_without_paths (s : Store) (weighted : Bool) (source : Nat) (target : Option Nat) (cutoff2 : Option Int)
    (firstOnly : Bool) (hwf : s.vecWf) (hsrc : source < s.nodesVec.length) (hnn : ∀ a ∈ s.idxArcs weighted, 0 ≤ a.2.2)
    (a b : List (Nat × SPInfo))
    (ha : s.dijkstra weighted source target cutoff2 firstOnly true = .ok a)
    (hb : s.dijkstra weighted source target cutoff2 firstOnly false = .ok b) :
    b = a.map (fun p => (p.1, ({ p.2 with paths := [] } : SPInfo))) := by
  obtain ⟨_, stA, hA, eA⟩ := dijkstra_ok_loop ha
  obtain ⟨_, stB, hB, eB⟩ := dijkstra_ok_loop hb
  have h : dijkstraLoop (fun v => s.succVec[v]?.getD []) weighted target cutoff2 firstOnly false (s.totalAdj + 2)
      (DState.start s.numberOfNodes source false) = _ :=
    dijkstraLoop_ctl _ weighted target cutoff2 firstOnly (s.totalAdj + 2) (DState.start s.numberOfNodes source true)
  rw [hA, hB] at h
  cases h
  rw [eA, eB]
  exact spInfos_without _ _ _

/-- non-vacuity: two tied routes 1-2-4 / 1-3-4 and a heavier direct arc; the model returns both shortest paths -/
example :
    let sp : Specs := ⟨true, false, false, .keepFirst, .create, .error⟩
    let s := (Store.run sp [Op.addEdge ⟨1, 2, some 1, none⟩, Op.addEdge ⟨1, 3, some 1, none⟩, Op.addEdge ⟨2, 4, some 1, none⟩,
                            Op.addEdge ⟨3, 4, some 1, none⟩, Op.addEdge ⟨1, 4, some 5, none⟩]).1
    (match s.dijkstra true 0 none none false true with
     | .ok out => (out.filter (·.1 == 3)).map (fun p => (p.2.dist, p.2.paths)) == [(2, [[0, 2, 3], [0, 1, 3]])]
     | _ => false) = true := by
  decide +kernel

end Graphrs
