/-
  C07 — parallel execution is unobservable (the part a theorem can carry).

  The four parallel call sites (`into_par_iter` in betweenness.rs, in closeness.rs, and in dijkstra.rs for
  `all_pairs_par_iter` and `multi_source`) are `into_par_iter().map(f).collect::<Vec<_>>()` followed by a
  sequential fold in index order (re-checked syntactically against the current source on every
  run by tools/extract.py `parallel_sites`).  For that shape the collected vector, hence the
  folded result -- including every floating-point operation and its order -- is the same for
  every schedule and every thread count.
-/
import GraphrsModel.Model.Par
namespace Graphrs

private theorem getElem?_complete {α β} (f : α → β) (xs : List α) (slots : List (Option β)) (i j : Nat)
    (hl : slots.length = xs.length) (hj : j < xs.length) :
    (match xs[i]? with | some x => slots.set i (some (f x)) | none => slots)[j]? =
      if i = j then some (some (f xs[j])) else slots[j]? := by
  by_cases hij : i = j
  · subst hij
    rw [if_pos rfl, List.getElem?_eq_getElem hj]
    exact List.getElem?_set_self (hl ▸ hj)
  · rw [if_neg hij]
    cases xs[i]? with
    | none => rfl
    | some x => exact List.getElem?_set_ne hij

/-- Whatever the slots hold at the start: once every item that is not yet in its slot has been completed, the slots
    hold the mapped list.  (A slot written twice receives the same value twice.) -/
private theorem foldl_complete {α β} (f : α → β) (xs : List α) (sched : List Nat) (slots : List (Option β))
    (hl : slots.length = xs.length)
    (h : ∀ j (hj : j < xs.length), j ∈ sched ∨ slots[j]? = some (some (f xs[j]))) :
    sched.foldl (fun slots i => match xs[i]? with | some x => slots.set i (some (f x)) | none => slots) slots =
      (xs.map f).map some := by
  induction sched generalizing slots with
  | nil =>
    apply List.ext_getElem?
    intro j
    by_cases hj : j < xs.length
    · rcases h j hj with hm | hw
      · cases hm
      · rw [List.foldl_nil, hw, List.getElem?_map, List.getElem?_map, List.getElem?_eq_getElem hj]
        rfl
    · have hj' := Nat.le_of_not_lt hj
      rw [List.foldl_nil, List.getElem?_eq_none (hl ▸ hj'),
        List.getElem?_eq_none (by rw [List.length_map, List.length_map]; exact hj')]
  | cons i rest ih =>
    rw [List.foldl_cons]
    apply ih
    · cases xs[i]? with
      | none => exact hl
      | some x => rw [List.length_set]; exact hl
    · intro j hj
      rw [getElem?_complete f xs slots i j hl hj]
      by_cases hij : i = j
      · right; rw [if_pos hij]
      · rw [if_neg hij]
        rcases h j hj with hm | hw
        · left; exact (List.mem_cons.1 hm).resolve_left (Ne.symm hij)
        · right; exact hw

private theorem allSome_map_some {β} (ys : List β) : allSome (ys.map some) = some ys := by
  induction ys with
  | nil => rfl
  | cons y ys ih => rw [List.map_cons, allSome, ih]; rfl

/-- **Indexed collect = sequential map, for every schedule that completes every item.** -/
theorem C07_parCollect_eq_map {α β} (f : α → β) (xs : List α) (sched : List Nat)
    (hcover : ∀ i, i < xs.length → i ∈ sched) :
    parCollect f xs sched = some (xs.map f) := by
  have h := foldl_complete f xs sched (List.replicate xs.length none) List.length_replicate
    (fun j hj => Or.inl (hcover j hj))
  exact (congrArg allSome h).trans (allSome_map_some _)

theorem C07_schedule_independent {α β γ} (threshold threads : Nat) (f : α → β) (xs : List α)
    (fold : List β → γ) (s1 s2 : List Nat)
    (h1 : ∀ i, i < xs.length → i ∈ s1) (h2 : ∀ i, i < xs.length → i ∈ s2) :
    dispatch threshold threads f xs s1 fold = dispatch threshold threads f xs s2 fold := by
  unfold dispatch
  rw [C07_parCollect_eq_map f xs s1 h1, C07_parCollect_eq_map f xs s2 h2]

/-- The result does not depend on the number of worker threads: it is the serial result. -/
theorem C07_threads_independent {α β γ} (threshold threads : Nat) (f : α → β) (xs : List α)
    (fold : List β → γ) (sched : List Nat) (h : ∀ i, i < xs.length → i ∈ sched) :
    dispatch threshold threads f xs sched fold = some (fold (xs.map f)) := by
  unfold dispatch
  rw [C07_parCollect_eq_map f xs sched h]
  split <;> rfl

/-- non-vacuity: a reversed schedule on three items -/
example : parCollect (fun x : Nat => x * x) [1, 2, 3] [2, 0, 1] = some [1, 4, 9] := by decide

end Graphrs
