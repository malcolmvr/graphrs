/-
  The store development put together: the four clauses of the coupling invariant are
  re-established by every call of the mutation API (C01: nodesOk, edgesOk; C02: adjOk; C03: vecOk),
  so the hypothesis `hrest` / `RestPreserved` of the C01 and C15 theorems is discharged and their
  conclusions hold unconditionally - for every GraphSpecs record and every history.
-/
import GraphrsModel.Props.C01
import GraphrsModel.Props.C02
import GraphrsModel.Props.C03
import GraphrsModel.Props.C15
namespace Graphrs

theorem wf_of_parts {s : Store} (h1 : s.nodesOk = true) (h2 : s.edgesOk = true) (h3 : s.adjOk = true) (h4 : s.vecOk = true) :
    s.wf = true := by
  simp [Store.wf, h1, h2, h3, h4]

theorem Core_addNode_wf (s : Store) (n : Node) (h : s.wf = true) : (s.addNode n).wf = true := by
  obtain ⟨h1, h2⟩ := C01_addNode_nodesOk_edgesOk s n h
  have h3 := C02_addNode_adjOk s n h h1 h2
  exact wf_of_parts h1 h2 h3 (C03_addNode_vecOk s n h h1 h2 h3)

theorem Core_addEdge_wf (s : Store) (e : Edge) (h : s.wf = true) : (s.addEdge e).1.wf = true := by
  obtain ⟨h1, h2⟩ := C01_addEdge_nodesOk_edgesOk s e h
  have h3 := C02_addEdge_adjOk s e h h1 h2
  exact wf_of_parts h1 h2 h3 (C03_addEdge_vecOk s e h h1 h2 h3)

theorem Core_addNodes_wf (ns : List Node) : ∀ (s : Store), s.wf = true → (s.addNodes ns).wf = true :=
  Store.addNodes_ind Core_addNode_wf ns

theorem Core_addEdges_wf (es : List Edge) : ∀ (s : Store), s.wf = true → (s.addEdges es).1.wf = true :=
  Store.addEdges_ind es fun s e _ => Core_addEdge_wf s e

/-- **every call of the mutation API preserves the coupling invariant** -/
theorem Core_step_wf (s : Store) (op : Op) (h : s.wf = true) : (s.step op).1.wf = true :=
  Store.step_ind C01_new_wf Core_addNode_wf Core_addEdge_wf s op h

theorem Core_rest_preserved : RestPreserved := by
  intro t o h _ _
  have := Core_step_wf t o h
  simp only [Store.wf, Bool.and_eq_true] at this
  exact ⟨this.1.2, this.2⟩

/-- **C01, unconditionally**: for every GraphSpecs record and every history, the results of all calls and the final graph
    are those of the abstract machine, and the coupling invariant holds -/
theorem Core_run_refines (sp : Specs) (ops : List Op) :
    (Store.run sp ops).2 = (Abs.run sp ops).2 ∧ (Store.run sp ops).1.wf = true ∧
    AbsEq (Store.run sp ops).1.abs (Abs.run sp ops).1 :=
  C01_run_refines sp ops Core_rest_preserved

theorem Core_reachable_wf (sp : Specs) (ops : List Op) : (Store.run sp ops).1.wf = true :=
  (Core_run_refines sp ops).2.1

/-- **C03 on every reachable state**: after any history, a node is a traversal neighbour iff an edge is stored,
    with the minimum stored weight -/
theorem Core_C03_reachable (sp : Specs) (ops : List Op) (i j x y : Nat)
    (hx : (Store.run sp ops).1.names[i]? = some x) (hy : (Store.run sp ops).1.names[j]? = some y) :
    let s := (Store.run sp ops).1
    ((∃ w, (j, w) ∈ (s.succVec[i]?).getD []) ↔ s.hasEdge x y = true) ∧
    ((∃ w, (j, w) ∈ (s.succVec[i]?).getD []) →
      Abs.minW ((((s.succVec[i]?).getD []).filter (·.1 == j)).map (·.2)) =
        Abs.minW ((s.abs.between s.specs.directed x y).map (·.w))) :=
  C03_successors_match_store _ (Core_reachable_wf sp ops) i j x y hx hy

/-- **C15, unconditionally** -/
theorem Core_subgraph (s : Store) (h : s.wf = true) (S : List Nat) :
    ∃ t, s.getSubgraph S = .ok t ∧ t.wf = true ∧ t.specs = s.specs ∧ AbsEq t.abs (s.abs.subgraph S) :=
  C15_subgraph Core_rest_preserved s h S

theorem Core_reverse (s : Store) (h : s.wf = true) (hd : s.specs.directed = true) :
    ∃ t, s.reverse = .ok t ∧ t.wf = true ∧ t.specs = s.specs ∧ AbsEq t.abs s.abs.reverse :=
  C15_reverse Core_rest_preserved s h hd

theorem Core_setWeights (s : Store) (h : s.wf = true) (w : W) :
    ∃ t, s.setAllEdgeWeights w = .ok t ∧ t.wf = true ∧ t.specs = s.specs ∧ AbsEq t.abs (s.abs.setWeights w) :=
  C15_setWeights Core_rest_preserved s h w

theorem Core_toSingle (s : Store) (h : s.wf = true) (hm : s.specs.multi = true) :
    ∃ t, s.toSingleEdges = .ok t ∧ t.wf = true ∧ t.specs = { s.specs with multi := false } ∧ AbsEq t.abs s.abs.toSingle :=
  C15_toSingle Core_rest_preserved s h hm

/-- `new_from_nodes_and_edges` on a store's own nodes and stored edges rebuilds the same abstract graph -/
theorem Core_rebuild (s : Store) (h : s.wf = true) :
    ∃ t, Store.newFrom s.specs s.nodesVec s.allEdges = .ok t ∧ t.wf = true ∧ AbsEq t.abs s.abs :=
  C15_rebuild Core_rest_preserved s h

end Graphrs
