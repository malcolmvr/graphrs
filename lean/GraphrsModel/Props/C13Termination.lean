/-
  C13 — Louvain: the local-moving loop of the step-level model terminates (in exact arithmetic).

  `LouvainFull.sweeps` is `while nb_moves > 0 { for u in shuffled { visit u } }` with a fuel argument; it returns
  `.ok none` when the fuel runs out.  This file proves that on every good level graph (single-edge; no
  negative weight, which enters only through the non-negative degree maps), for every `m > 0`, every resolution `res ≥ 0` and every visiting order over the node names, the fuel
  `k^k + 1` (k = number of nodes of the level) always suffices: every accepted move makes the assignment of nodes to
  communities strictly better in the lexicographic order (potential, then smaller community ids), where the potential

      Φ(a) = Σ_c termUndirected m res L_c D_c        (resp. Σ_c termDirected m res L_c Out_c In_c)

  is the modularity-shaped sum of `Props/C13.lean` (`C13_Phi_is_sum_of_terms` below), and there are only `k^k`
  assignments.  The tie-break component is necessary: the candidate scan visits communities in increasing id and starts
  from `(cur, 0)`, so a community with a smaller id than the current one and exactly the same gain is chosen - a move
  that leaves the potential unchanged.

  Nothing is assumed about `m` beyond `m > 0` (the code passes the total edge weight), and nothing relates the degree
  maps to the edge weights: the argument only needs the `stot*` bookkeeping to be the per-community sums of whatever
  non-negative degree maps the state carries (`LT.TInv`), which `get_degree_information` establishes.
-/
import GraphrsModel.Lemmas.LouvainTermLoop
namespace Graphrs
open LouvainFull
open _root_.Graphrs.LT

/-- **C13 (termination of the local-moving loop).**  On a good level graph `lv` with `k` nodes (well-formed,
    single-edge), for `m > 0`, `res ≥ 0`, every visiting order over the node names and every
    state `st` satisfying the structural invariant `SInv`, the shape invariant `DegOK` and the bookkeeping invariant
    `TInv` (non-negative degree maps `deg0 / in0 / out0`; `stot*` = per-community degree sums), `sweeps` returns
    `some _` for every fuel `≥ k^k + 1`. -/
theorem C13_sweeps_terminate {lv : Level} {n k : Nat} (hg : LF.GoodLevel lv n k) (hwf : lv.g.wf = true)
    (hmulti : lv.g.specs.multi = false) {m res : Rat} (hm : 0 < m) (hres : 0 ≤ res)
    {deg0 in0 out0 : List (Nat × Rat)}
    (hnn : ∀ x, 0 ≤ dgOf deg0 x ∧ 0 ≤ dgOf in0 x ∧ 0 ≤ dgOf out0 x)
    (order : List Nat) (ho : ∀ u ∈ order, u ∈ lv.g.names)
    (st : LState) (hs : LF.SInv lv k st) (hdeg : LF.DegOK lv.g k st.di) (ht : TInv lv k deg0 in0 out0 st) :
    ∀ fuel, k ^ k + 1 ≤ fuel → ∃ st', sweeps lv m res order fuel st = .ok (some st') :=
  sweeps_terminate_aux hg hwf hmulti hm hres hnn order ho (k ^ k + 1) st hs hdeg ht
    (Nat.lt_succ_of_le (mu_le _ k _))


/-- **C13 (termination, `compute_one_level`).**  On a good level graph without negative weights, with the fuel
    `k^k + 1` the loop started from the all-singletons state always finishes, so `computeOneLevel` returns `none` only
    for the other reason it has (`risky`: two candidate gains too close for the `f64` code to be predictable), never
    because the fuel ran out. -/
theorem C13_computeOneLevel_terminates {lv : Level} {n k : Nat} (hg : LF.GoodLevel lv n k) (hwf : lv.g.wf = true)
    (hmulti : lv.g.specs.multi = false) (hw : ∀ e ∈ lv.g.allEdges, ∀ w, e.w = some w → 0 ≤ w)
    {partition : List (List Nat)} (hin : LF.InputOK lv k partition)
    {m res : Rat} (hm : 0 < m) (hres : 0 ≤ res) (perm : List Nat) :
    ∃ di, degreeInformation lv.g k = .ok di ∧
      ∀ fuel, k ^ k + 1 ≤ fuel →
        ∃ st, sweeps lv m res (perm.filterMap fun i => lv.g.getAllNodeNames[i]?) fuel (initState partition k di) = .ok (some st) ∧
          computeOneLevel lv m res partition perm fuel =
            .ok (if st.risky then none
                 else some (st.part.filter (!·.isEmpty), st.inner.filter (!·.isEmpty), st.improvement)) := by
  obtain ⟨di, hdi, hdeg, hU, hD, hnn⟩ := degreeInformation_spec lv.g hwf k (fun x hx => (hg.names_iff x).2 hx) hw
  refine ⟨di, hdi, fun fuel hfuel => ?_⟩
  obtain ⟨st, hst⟩ := C13_sweeps_terminate hg hwf hmulti hm hres hnn _ (fun _ => LF.mem_order) (initState partition k di)
    (LF.SInv.init hin di) hdeg (TInv_init lv partition k di hU hD) fuel hfuel
  refine ⟨st, hst, ?_⟩
  rw [LF.computeOneLevel_eq hg hin.len, hdi, Outcome.bind_ok]
  exact congrArg (Outcome.bind · _) hst

/-- in particular: with that fuel, a `none` result means the final state was flagged `risky` -/
theorem C13_computeOneLevel_none_only_if_risky {lv : Level} {n k : Nat} (hg : LF.GoodLevel lv n k) (hwf : lv.g.wf = true)
    (hmulti : lv.g.specs.multi = false) (hw : ∀ e ∈ lv.g.allEdges, ∀ w, e.w = some w → 0 ≤ w)
    {partition : List (List Nat)} (hin : LF.InputOK lv k partition)
    {m res : Rat} (hm : 0 < m) (hres : 0 ≤ res) (perm : List Nat) (fuel : Nat) (hfuel : k ^ k + 1 ≤ fuel)
    (hnone : computeOneLevel lv m res partition perm fuel = .ok none) :
    ∃ di st, degreeInformation lv.g k = .ok di ∧
      sweeps lv m res (perm.filterMap fun i => lv.g.getAllNodeNames[i]?) fuel (initState partition k di) = .ok (some st) ∧
      st.risky = true := by
  obtain ⟨di, hdi, hall⟩ := C13_computeOneLevel_terminates hg hwf hmulti hw hin hm hres perm
  obtain ⟨st, hst, hc⟩ := hall fuel hfuel
  refine ⟨di, st, hdi, hst, ?_⟩
  rw [hnone] at hc
  by_cases hr : st.risky = true
  · exact hr
  · rw [if_neg hr] at hc; cases hc


/-! ### the potential is the modularity-shaped sum of `Props/C13.lean`, and every move improves it -/

/-- the potential of a level (`LT.Phi`, the quantity the termination proof uses) at an assignment with community ids
    `< k` is the sum over the community ids of the per-community modularity terms -/
theorem C13_Phi_is_sum_of_terms {lv : Level} {n k : Nat} (hg : LF.GoodLevel lv n k) (hwf : lv.g.wf = true) (m res : Rat)
    (deg0 in0 out0 : List (Nat × Rat)) (a : Nat → Nat) (ha : ∀ x, x < k → a x < k) :
    (lv.g.specs.directed = false → Phi lv k m res deg0 in0 out0 a
      = ∑ c ∈ Finset.range k, Louvain.termUndirected m res (Lc lv.g.allEdges a c) (csum k a (dgOf deg0) c)) ∧
    (lv.g.specs.directed = true → Phi lv k m res deg0 in0 out0 a
      = ∑ c ∈ Finset.range k, Louvain.termDirected m res (Lc lv.g.allEdges a c) (csum k a (dgOf out0) c) (csum k a (dgOf in0) c)) := by
  have h : ∀ e ∈ lv.g.allEdges, a e.u < k := fun e he => ha _ (edges_lt hg hwf e he).1
  constructor
  · intro hd
    rw [Phi_undir hd, potU, pot_eq_sum _ _ _ _ _ _ _ _ h]
    refine Finset.sum_congr rfl fun c _ => ?_
    unfold Louvain.termUndirected
    ring
  · intro hd
    rw [Phi_dir hd, potD, pot_eq_sum _ _ _ _ _ _ _ _ h]
    refine Finset.sum_congr rfl fun c _ => ?_
    unfold Louvain.termDirected
    ring

/-- **every accepted move is a strict improvement**: a `visit` that moves its node either strictly increases the
    potential, or leaves it unchanged and strictly decreases the sum of the community ids (a tie between the current
    community and a candidate with a smaller id) -/
theorem C13_move_strictly_improves {lv : Level} {n k : Nat} (hg : LF.GoodLevel lv n k) (hwf : lv.g.wf = true)
    (hmulti : lv.g.specs.multi = false) {m res : Rat} (hm : 0 < m) (hres : 0 ≤ res)
    {deg0 in0 out0 : List (Nat × Rat)}
    (hnn : ∀ x, 0 ≤ dgOf deg0 x ∧ 0 ≤ dgOf in0 x ∧ 0 ≤ dgOf out0 x)
    {st st' : LState} {u : Nat} (hs : LF.SInv lv k st) (ht : TInv lv k deg0 in0 out0 st)
    (hv : visit lv m res st u = .ok st') (hmv : st'.moves ≠ st.moves) :
    Phi lv k m res deg0 in0 out0 (asg st) < Phi lv k m res deg0 in0 out0 (asg st') ∨
    (Phi lv k m res deg0 in0 out0 (asg st) = Phi lv k m res deg0 in0 out0 (asg st') ∧
      idsum k (asg st') < idsum k (asg st)) := by
  obtain ⟨_, hq⟩ := visit_step hg hwf hmulti hm hres hnn hs ht hv
  rcases hq with ⟨h, _⟩ | ⟨_, h⟩
  · exact absurd h hmv
  · exact h

theorem C13_sweeps_terminate_exists {lv : Level} {n k : Nat} (hg : LF.GoodLevel lv n k) (hwf : lv.g.wf = true)
    (hmulti : lv.g.specs.multi = false) {m res : Rat} (hm : 0 < m) (hres : 0 ≤ res)
    {deg0 in0 out0 : List (Nat × Rat)}
    (hnn : ∀ x, 0 ≤ dgOf deg0 x ∧ 0 ≤ dgOf in0 x ∧ 0 ≤ dgOf out0 x)
    (order : List Nat) (ho : ∀ u ∈ order, u ∈ lv.g.names)
    (st : LState) (hs : LF.SInv lv k st) (hdeg : LF.DegOK lv.g k st.di) (ht : TInv lv k deg0 in0 out0 st) :
    ∃ F, ∀ fuel, F ≤ fuel → ∃ st', sweeps lv m res order fuel st = .ok (some st') :=
  ⟨k ^ k + 1, C13_sweeps_terminate hg hwf hmulti hm hres hnn order ho st hs hdeg ht⟩

/-- a triangle with a pendant node, weights 2, 1, 1, 1 (undirected, single-edge) as a level graph -/
def C13T.exSpecs : Specs := ⟨false, false, true, .keepLast, .create, .error⟩
def C13T.exStore : Store := (Store.run C13T.exSpecs [Op.addEdge ⟨0, 1, some 2, none⟩, Op.addEdge ⟨1, 2, some 1, none⟩, Op.addEdge ⟨0, 2, some 1, none⟩,
   Op.addEdge ⟨2, 3, some 1, none⟩]).1
def C13T.exLevel : Level := ⟨C13T.exStore, []⟩

theorem C13T.exLevel_ok : LF.GoodLevel C13T.exLevel 4 4 ∧ C13T.exLevel.g.wf = true ∧ C13T.exLevel.g.specs.multi = false ∧
    (∀ e ∈ C13T.exLevel.g.allEdges, ∀ w, e.w = some w → 0 ≤ w) ∧ LF.InputOK C13T.exLevel 4 [[0], [1], [2], [3]] := by
  obtain ⟨h1, h2, h3⟩ := exCheck_ok (g := C13T.exStore) (k := 4) (by decide +kernel)
  exact ⟨h1, Core_reachable_wf _ _, rfl, h2, h3⟩

example : ∃ di, degreeInformation C13T.exLevel.g 4 = .ok di ∧ ∀ fuel, 4 ^ 4 + 1 ≤ fuel →
    ∃ st, sweeps C13T.exLevel 5 1 ([2, 0, 3, 1].filterMap fun i => C13T.exLevel.g.getAllNodeNames[i]?) fuel
      (initState [[0], [1], [2], [3]] 4 di) = .ok (some st) := by
  obtain ⟨hg, hwf, hmulti, hw, hin⟩ := C13T.exLevel_ok
  obtain ⟨di, hdi, h⟩ := C13_computeOneLevel_terminates hg hwf hmulti hw hin (m := 5) (res := 1) (by decide) (by decide)
    [2, 0, 3, 1]
  exact ⟨di, hdi, fun fuel hf => by obtain ⟨st, hst, _⟩ := h fuel hf; exact ⟨st, hst⟩⟩

/-- a directed example: 0 → 1 (2), 1 → 0 (1), 1 → 2 (1), 2 → 0 (1) -/
def C13T.exStoreD : Store := (Store.run ⟨true, false, true, .keepLast, .create, .error⟩
  [Op.addEdge ⟨0, 1, some 2, none⟩, Op.addEdge ⟨1, 0, some 1, none⟩, Op.addEdge ⟨1, 2, some 1, none⟩,
   Op.addEdge ⟨2, 0, some 1, none⟩]).1
def C13T.exLevelD : Level := ⟨C13T.exStoreD, []⟩

theorem C13T.exLevelD_ok : LF.GoodLevel C13T.exLevelD 3 3 ∧ C13T.exLevelD.g.wf = true ∧ C13T.exLevelD.g.specs.multi = false ∧
    C13T.exLevelD.g.specs.directed = true ∧
    (∀ e ∈ C13T.exLevelD.g.allEdges, ∀ w, e.w = some w → 0 ≤ w) ∧ LF.InputOK C13T.exLevelD 3 [[0], [1], [2]] := by
  obtain ⟨h1, h2, h3⟩ := exCheck_ok (g := C13T.exStoreD) (k := 3) (by decide +kernel)
  exact ⟨h1, Core_reachable_wf _ _, rfl, rfl, h2, h3⟩

example : ∃ di, degreeInformation C13T.exLevelD.g 3 = .ok di ∧ ∀ fuel, 3 ^ 3 + 1 ≤ fuel →
    ∃ st, sweeps C13T.exLevelD 5 1 ([1, 2, 0].filterMap fun i => C13T.exLevelD.g.getAllNodeNames[i]?) fuel
      (initState [[0], [1], [2]] 3 di) = .ok (some st) := by
  obtain ⟨hg, hwf, hmulti, _, hw, hin⟩ := C13T.exLevelD_ok
  obtain ⟨di, hdi, h⟩ := C13_computeOneLevel_terminates hg hwf hmulti hw hin (m := 5) (res := 1) (by decide) (by decide)
    [1, 2, 0]
  exact ⟨di, hdi, fun fuel hf => by obtain ⟨st, hst, _⟩ := h fuel hf; exact ⟨st, hst⟩⟩

end Graphrs
