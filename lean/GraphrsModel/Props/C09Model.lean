/-
  C09 (model level) — under the coupling invariant the model of the count / degree functions
  (each following the Rust lookup path through `get_edges_for_node` etc.) returns the abstract
  quantities of Spec/Abs.lean.
-/
import GraphrsModel.Props.Core
import GraphrsModel.Props.C09
import GraphrsModel.Model.Community
import GraphrsModel.Lemmas.C09ModelAux
namespace Graphrs


-- `h` is not needed
set_option linter.unusedVariables false in
theorem C09_model_numberOfEdges (s : Store) (h : s.wf = true) :
    s.numberOfEdges = s.abs.edges.length ∧ s.sizeUnweighted = s.abs.edges.length ∧ s.numberOfNodes = s.abs.nodes.length := by
  refine ⟨?_, rfl, rfl⟩
  simp only [Store.numberOfEdges, Store.abs, Store.allEdges, sumNat_eq_sum, List.length_flatMap]

private theorem getNode_isNone_of' (s : Store) (x : Nat) (hx : s.hasNode x = true) : (s.getNode x).isNone = false := by
  rw [Option.isNone_eq_false_iff]
  exact hx

namespace C09M

theorem edgesForNode_abs (s : Store) (h : s.wf = true) (x : Nat) (hx : s.hasNode x = true) :
    ∃ l, s.getEdgesForNode x = .ok l ∧
      (s.specs.directed = true → l.Perm (s.abs.inEdges x ++ s.abs.outEdges x)) ∧
      (s.specs.directed = false → l.Perm (s.abs.touching x) ∧
        (l.filter fun e => e.u == x && e.v == x).Perm (s.abs.edges.filter fun e => e.u == x && e.v == x)) := by
  obtain ⟨l, hl, hp⟩ := C02_edgesForNode s h x hx
  refine ⟨l, hl, fun hd => ?_, fun hd => ?_⟩
  · rwa [hd] at hp
  · rw [hd] at hp
    refine ⟨hp, (hp.filter _).trans (List.Perm.of_eq ?_)⟩
    rw [Abs.edgesForNode, if_neg Bool.false_ne_true, Abs.touching, List.filter_filter]
    refine List.filter_congr fun e _ => ?_
    cases e.u == x <;> cases e.v == x <;> rfl

theorem edgesForNode_absent (s : Store) (x : Nat) (hx : s.hasNode x = false) : s.getEdgesForNode x = .err .NodeNotFound :=
  (C02_node_errors s x).2 (getNode_isNone_of s x hx)

theorem inOutEdges_err (s : Store) (x : Nat) (hc : (s.specs.directed && s.hasNode x) = false) :
    (∃ k, s.getInEdgesForNode x = .err k) ∧ (∃ k, s.getOutEdgesForNode x = .err k) := by
  cases hd : s.specs.directed
  · exact ⟨⟨_, ((C02_node_errors s x).1 hd).1⟩, ⟨_, ((C02_node_errors s x).1 hd).2.1⟩⟩
  · have hx := getNode_isNone_of s x (by simpa [hd] using hc)
    simp only [Store.getInEdgesForNode, Store.getOutEdgesForNode, hd, hx, Bool.not_true, Bool.false_eq_true, if_false, if_true]
    exact ⟨⟨_, rfl⟩, ⟨_, rfl⟩⟩

end C09M

theorem C09_model_degree (s : Store) (h : s.wf = true) (x : Nat) :
    s.getNodeDegree x = (if s.hasNode x then some (s.abs.degree s.specs.directed x) else none) := by
  cases hx : s.hasNode x
  · simp only [Store.getNodeDegree, C09M.edgesForNode_absent s x hx]
    rfl
  · obtain ⟨l, hl, hdir, hundir⟩ := C09M.edgesForNode_abs s h x hx
    simp only [Store.getNodeDegree, hl, if_true]
    cases hd : s.specs.directed
    · rw [(hundir hd).1.length_eq, (hundir hd).2.length_eq]
      rfl
    · rw [(hdir hd).length_eq, List.length_append]
      rfl

theorem C09_model_in_out_degree (s : Store) (h : s.wf = true) (x : Nat) :
    s.getNodeInDegree x = (if s.specs.directed && s.hasNode x then some (s.abs.inEdges x).length else none) ∧
    s.getNodeOutDegree x = (if s.specs.directed && s.hasNode x then some (s.abs.outEdges x).length else none) := by
  cases hc : s.specs.directed && s.hasNode x
  · obtain ⟨⟨k1, h1⟩, ⟨k2, h2⟩⟩ := C09M.inOutEdges_err s x hc
    simp only [Store.getNodeInDegree, Store.getNodeOutDegree, h1, h2]
    exact ⟨rfl, rfl⟩
  · rw [Bool.and_eq_true] at hc
    obtain ⟨l1, hl1, hp1⟩ := C02_inEdges s h hc.1 x hc.2
    obtain ⟨l2, hl2, hp2⟩ := C02_outEdges s h hc.1 x hc.2
    simp only [Store.getNodeInDegree, Store.getNodeOutDegree, hl1, hl2, hp1.length_eq, hp2.length_eq]
    exact ⟨rfl, rfl⟩

/-- the abstract graph of a well-formed store is valid (so the handshake identities of Props/C09.lean apply to it) -/
theorem C09_model_abs_valid (s : Store) (h : s.wf = true) : s.abs.Valid := by
  obtain ⟨hn, he⟩ := Store.wf_inv h
  exact ⟨hn.names_nodup, fun e hm => ⟨(Store.allEdges_valid he hm).1, (Store.allEdges_valid he hm).2.1⟩⟩

/-- **handshake on every reachable store**: the degrees the model reports sum to twice the number of stored edges -/
theorem C09_model_handshake (s : Store) (h : s.wf = true) :
    sumNat (s.getAllNodeNames.map fun x => (s.getNodeDegree x).getD 0) = 2 * s.numberOfEdges := by
  rw [(C09_model_numberOfEdges s h).1, ← C09_handshake s.specs.directed s.abs (C09_model_abs_valid s h)]
  congr 1
  apply List.map_congr_left
  intro x hx
  rw [C09_model_degree s h x, (s.hasNode_names h x).2 hx]
  rfl

namespace C09M

theorem degMap (s : Store) (h : s.wf = true) :
    s.getDegreeForAllNodes = .ok (s.names.map fun x => (x, s.abs.degree s.specs.directed x)) :=
  forAllNodes_wf s h _ _ _ fun x hx => by rw [C09_model_degree s h x, hx]; rfl

theorem inDegMap (s : Store) (h : s.wf = true) (hd : s.specs.directed = true) :
    s.getInDegreeForAllNodes = .ok (s.names.map fun x => (x, (s.abs.inEdges x).length)) := by
  rw [Store.getInDegreeForAllNodes, hd]
  exact forAllNodes_wf s h _ _ _ fun x hx => by rw [(C09_model_in_out_degree s h x).1, hd, hx]; rfl

theorem outDegMap (s : Store) (h : s.wf = true) (hd : s.specs.directed = true) :
    s.getOutDegreeForAllNodes = .ok (s.names.map fun x => (x, (s.abs.outEdges x).length)) := by
  rw [Store.getOutDegreeForAllNodes, hd]
  exact forAllNodes_wf s h _ _ _ fun x hx => by rw [(C09_model_in_out_degree s h x).2, hd, hx]; rfl

end C09M

/-- the degree map has one entry per node with that node's degree -/
theorem C09_model_degree_map (s : Store) (h : s.wf = true) :
    ∃ m, s.getDegreeForAllNodes = .ok m ∧ ∀ x, alookup m x = (if s.hasNode x then some (s.abs.degree s.specs.directed x) else none) :=
  ⟨_, C09M.degMap s h, C09M.lookup_names_map s h _⟩

end Graphrs
