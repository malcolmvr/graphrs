/-
  C16 at the level of the generated *graph*: for every skip sequence the model of `fast_gnp_random_graph` never fails
  (the store is built with `EdgeDedupeStrategy::Error` and `self_loops = false`, so a repeated pair or a self-loop would be
  an `Err`), the graph has exactly the nodes 0..n-1 and exactly the emitted pairs as edges; and the skipping scheme can
  produce every possible pair - undirected: every subset of the n(n-1)/2 slots is produced by some skip sequence, and the
  slot numbering is a bijection onto the unordered pairs.
  (Structure of the emitted pair list: Props/C16.lean.)
-/
import GraphrsModel.Props.C16
import GraphrsModel.Props.Core
namespace Graphrs

private def gnpNodes (n : Int) : List Node := (List.range n.toNat).map fun i => (⟨i, none⟩ : Node)
private def gnpEdge (p : Int × Int) : Edge := Edge.tuple p.1.toNat p.2.toNat
private def natPair (p : Int × Int) : Nat × Nat := (p.1.toNat, p.2.toNat)

/-- how the graph stores an emitted pair: as it is when directed, smaller endpoint first when undirected (the
    undirected generator emits `(v, w)` with `w < v`) -/
private def stored (directed : Bool) (p : Nat × Nat) : Edge :=
  if directed then Edge.tuple p.1 p.2 else Edge.tuple p.2 p.1

/-- what the structure theorems give, in one shape for both kinds, on the node names -/
private def GnpPairs (m : Nat) (directed : Bool) (ps : List (Nat × Nat)) : Prop :=
  (∀ p ∈ ps, p.1 < m ∧ p.2 < m ∧ p.1 ≠ p.2 ∧ (directed = false → p.2 < p.1)) ∧ ps.Nodup

private def gnpGen (n : Int) (directed : Bool) (skips : List Int) : Option (List (Int × Int)) :=
  if directed then gnpDirected n (skips.length + 1) skips 0 (-1) [] else gnpUndirected n (skips.length + 1) skips 1 (-1) []

private theorem toNat_inj {a b : Int} (ha : 0 ≤ a) (hb : 0 ≤ b) (h : a.toNat = b.toNat) : a = b := by
  rw [← Int.toNat_of_nonneg ha, ← Int.toNat_of_nonneg hb, h]

private theorem gnpPairs_of_gen (n : Int) (directed : Bool) (skips : List Int) (hs : ∀ k ∈ skips, 0 ≤ k) (es : List (Int × Int))
    (h : gnpGen n directed skips = some es) :
    GnpPairs n.toNat directed (es.map natPair) := by
  have hval : es.Nodup ∧
      ∀ p ∈ es, 0 ≤ p.1 ∧ p.1 < n ∧ 0 ≤ p.2 ∧ p.2 < n ∧ p.1 ≠ p.2 ∧ (directed = false → p.2 < p.1) := by
    cases directed
    · refine ⟨(C16_gnp_no_repeats n skips es hs).1 h, fun p hp => ?_⟩
      obtain ⟨h1, h2, h3⟩ := (C16_gnp_undirected_structure n skips es hs h).1 p hp
      exact ⟨Int.le_trans h1 (Int.le_of_lt h2), h3, h1, Int.lt_trans h2 h3, Int.ne_of_gt h2, fun _ => h2⟩
    · refine ⟨(C16_gnp_no_repeats n skips es hs).2 h, fun p hp => ?_⟩
      obtain ⟨h1, h2, h3, h4, h5⟩ := (C16_gnp_directed_structure n skips es hs h).1 p hp
      exact ⟨h1, h2, h3, h4, h5, fun hd => nomatch hd⟩
  constructor
  · intro q hq
    obtain ⟨p, hp, rfl⟩ := List.mem_map.mp hq
    obtain ⟨h1, h2, h3, h4, h5, h6⟩ := hval.2 p hp
    have hn := Int.lt_of_le_of_lt h1 h2
    exact ⟨(Int.toNat_lt_toNat hn).mpr h2, (Int.toNat_lt_toNat hn).mpr h4, fun he => h5 (toNat_inj h1 h3 he),
      fun hd => (Int.toNat_lt_toNat (Int.lt_of_le_of_lt h3 (h6 hd))).mpr (h6 hd)⟩
  · rw [List.Nodup, List.pairwise_map]
    refine List.Pairwise.imp_of_mem ?_ hval.1
    intro p q hp hq hne heq
    obtain ⟨h1, -, h3, -⟩ := hval.2 p hp
    obtain ⟨h1', -, h3', -⟩ := hval.2 q hq
    exact hne (Prod.ext (toNat_inj h1 h1' (congrArg Prod.fst heq)) (toNat_inj h3 h3' (congrArg Prod.snd heq)))

private theorem gnp_abs (m : Nat) (directed : Bool) (ps : List (Nat × Nat)) (h : GnpPairs m directed ps) :
    Abs.addEdges (gnpSpecs directed) (({} : Abs).addNodes ((List.range m).map fun i => ⟨i, none⟩))
        (ps.map fun p => Edge.tuple p.1 p.2) =
      (⟨(List.range m).map fun i => ⟨i, none⟩, ps.map (stored directed)⟩, none) := by
  rw [addEdges_pairs (gnpSpecs directed) m ps h.2 (fun p hp => ⟨(h.1 p hp).1, (h.1 p hp).2.1, (h.1 p hp).2.2.1⟩)
    fun hd => Or.inr fun p hp => (h.1 p hp).2.2.2 hd]
  congr 2
  refine List.map_congr_left fun p hp => ?_
  cases directed
  · exact if_pos ((h.1 p hp).2.2.2 rfl)
  · rfl

private theorem fastGnp_spec (n : Int) (directed : Bool) (skips : List Int) (hs : ∀ k ∈ skips, 0 ≤ k) :
    (gnpGen n directed skips = none ∧ fastGnp n directed skips = .ok none) ∨
    ∃ es t, gnpGen n directed skips = some es ∧ fastGnp n directed skips = .ok (some t) ∧ t.wf = true ∧
      t.nodesVec = gnpNodes n ∧ t.abs.edges.Perm ((es.map natPair).map (stored directed)) := by
  cases h : gnpGen n directed skips with
  | none =>
    unfold gnpGen at h
    exact Or.inl ⟨rfl, by simp only [fastGnp, h]⟩
  | some es =>
    have habs := gnp_abs n.toNat directed _ (gnpPairs_of_gen n directed skips hs es h)
    rw [List.map_map] at habs
    obtain ⟨t, h1, h2, _, h4⟩ :=
      newFrom_sim Core_rest_preserved (gnpSpecs directed) (gnpNodes n) (es.map gnpEdge) _ habs
    refine Or.inr ⟨es, t, rfl, ?_, h2, h4.1, h4.edges_perm⟩
    unfold gnpGen at h
    unfold Store.newFrom at h1
    simp only [fastGnp, h]
    show (match ((Store.new (gnpSpecs directed)).addNodes (gnpNodes n)).addEdges (es.map gnpEdge) with
      | (s, none) => Outcome.ok (some s)
      | (_, some k) => Outcome.err k) = _
    generalize ((Store.new (gnpSpecs directed)).addNodes (gnpNodes n)).addEdges (es.map gnpEdge) = r at h1 ⊢
    obtain ⟨s, _ | k⟩ := r
    · cases h1; rfl
    · cases h1

private theorem fastGnp_inv (n : Int) (directed : Bool) (skips : List Int) (hs : ∀ k ∈ skips, 0 ≤ k) (s : Store)
    (h : fastGnp n directed skips = .ok (some s)) :
    ∃ es, gnpGen n directed skips = some es ∧ s.wf = true ∧ s.nodesVec = gnpNodes n ∧
      s.abs.edges.Perm ((es.map natPair).map (stored directed)) := by
  rcases fastGnp_spec n directed skips hs with ⟨_, h'⟩ | ⟨es, t, hg, h', hrest⟩
  · rw [h'] at h; cases h
  · rw [h'] at h; cases h
    exact ⟨es, hg, hrest⟩

/-- **never an error, never a panic**, for every n ≥ 0, both kinds and every sequence of non-negative skips -/
theorem C16_gnp_never_fails (n : Int) (hn : 0 ≤ n) (directed : Bool) (skips : List Int) (hs : ∀ k ∈ skips, 0 ≤ k) :
    ∃ r, fastGnp n directed skips = .ok r := by
  have _ := hn
  rcases fastGnp_spec n directed skips hs with ⟨_, h⟩ | ⟨_, t, _, h, _⟩
  · exact ⟨none, h⟩
  · exact ⟨some t, h⟩

/-- **the generated graph**: well-formed, nodes exactly 0..n-1 in order, and its stored edges are exactly the emitted
    pairs (as unweighted edges, in emission order) -/
theorem C16_gnp_store (n : Int) (hn : 0 ≤ n) (directed : Bool) (skips : List Int) (hs : ∀ k ∈ skips, 0 ≤ k) (s : Store)
    (h : fastGnp n directed skips = .ok (some s)) :
    s.wf = true ∧ s.names = List.range n.toNat ∧
    ∃ es, (if directed then gnpDirected n (skips.length + 1) skips 0 (-1) [] else gnpUndirected n (skips.length + 1) skips 1 (-1) []) = some es ∧
      s.abs.edges.Perm (es.map fun p => if directed then Edge.tuple p.1.toNat p.2.toNat else (Edge.tuple p.1.toNat p.2.toNat).ordered) := by
  have _ := hn
  obtain ⟨es, hg, hw, hnodes, hperm⟩ := fastGnp_inv n directed skips hs s h
  refine ⟨hw, ?_, es, hg, ?_⟩
  · rw [Store.names, hnodes, gnpNodes, List.map_map]
    exact List.map_id _
  · rw [List.map_map] at hperm
    refine hperm.trans (List.Perm.of_eq (List.map_congr_left fun p hp => ?_))
    have := (gnpPairs_of_gen n directed skips hs es hg).1 _ (List.mem_map_of_mem hp)
    cases directed
    · exact (if_pos (this.2.2.2 rfl)).symm
    · rfl

/-- hence: no self-loop and no repeated (unordered, when undirected) pair among the stored edges -/
theorem C16_gnp_store_simple (n : Int) (hn : 0 ≤ n) (directed : Bool) (skips : List Int) (hs : ∀ k ∈ skips, 0 ≤ k) (s : Store)
    (h : fastGnp n directed skips = .ok (some s)) :
    (∀ e ∈ s.abs.edges, e.u ≠ e.v ∧ e.u < n.toNat ∧ e.v < n.toNat) ∧ (s.abs.edges.map fun e => (e.u, e.v)).Nodup ∧
    (directed = false → ∀ e ∈ s.abs.edges, ∀ f ∈ s.abs.edges, ¬ (e.u = f.v ∧ e.v = f.u)) := by
  have _ := hn
  obtain ⟨es, hg, _, _, hperm⟩ := fastGnp_inv n directed skips hs s h
  obtain ⟨hP, hnd⟩ := gnpPairs_of_gen n directed skips hs es hg
  generalize es.map natPair = ps at hperm hP hnd
  have hmem : ∀ e ∈ s.abs.edges, ∃ p ∈ ps, e = stored directed p := fun e he => by
    obtain ⟨p, hp, rfl⟩ := List.mem_map.mp (hperm.mem_iff.mp he)
    exact ⟨p, hp, rfl⟩
  rw [(hperm.map _).nodup_iff, List.map_map, List.Nodup, List.pairwise_map]
  cases directed
  · refine ⟨fun e he => ?_, hnd.imp fun hne heq => hne (Prod.ext (congrArg Prod.snd heq) (congrArg Prod.fst heq)),
      fun _ e he f hf => ?_⟩
    · obtain ⟨p, hp, rfl⟩ := hmem e he
      exact ⟨Nat.ne_of_lt ((hP p hp).2.2.2 rfl), (hP p hp).2.1, (hP p hp).1⟩
    · obtain ⟨p, hp, rfl⟩ := hmem e he
      obtain ⟨q, hq, rfl⟩ := hmem f hf
      have h1 : p.2 < p.1 := (hP p hp).2.2.2 rfl
      have h2 : q.2 < q.1 := (hP q hq).2.2.2 rfl
      show ¬ (p.2 = q.1 ∧ p.1 = q.2)
      omega
  · refine ⟨fun e he => ?_, hnd, fun hd => nomatch hd⟩
    obtain ⟨p, hp, rfl⟩ := hmem e he
    exact ⟨(hP p hp).2.2.1, (hP p hp).1, (hP p hp).2.1⟩

private theorem tri_row {k n : Int} (hk : 0 ≤ k) (hn : 0 ≤ n) :
    k < tri n → ∃ v : Int, 1 ≤ v ∧ v < n ∧ tri v ≤ k ∧ k < tri (v + 1) := by
  induction n, hn using Int.leInduction with
  | base => intro h; exact absurd h (Int.not_lt.mpr hk)
  | succ m hm ih =>
    intro h
    by_cases hlt : k < tri m
    · obtain ⟨v, h1, h2, h3⟩ := ih hlt
      exact ⟨v, h1, Int.lt_trans h2 (Int.lt_succ m), h3⟩
    · refine ⟨m, ?_, Int.lt_succ m, Int.not_lt.mp hlt, h⟩
      by_contra h0
      obtain rfl : m = 0 := by omega
      exact absurd h (Int.not_lt.mpr hk)

/-- the undirected slot numbering is a bijection between the pairs 0 ≤ w < v < n and the slots 0 .. n(n-1)/2 - 1 -/
theorem C16_slotUnd_bijective (n : Int) (hn : 0 ≤ n) :
    (∀ p q : Int × Int, 0 ≤ p.2 → p.2 < p.1 → 0 ≤ q.2 → q.2 < q.1 → slotUnd p = slotUnd q → p = q) ∧
    (∀ k, 0 ≤ k → k < n * (n - 1) / 2 → ∃ p : Int × Int, 0 ≤ p.2 ∧ p.2 < p.1 ∧ p.1 < n ∧ slotUnd p = k) ∧
    (∀ p : Int × Int, 0 ≤ p.2 → p.2 < p.1 → p.1 < n → 0 ≤ slotUnd p ∧ slotUnd p < n * (n - 1) / 2) := by
  refine ⟨?_, ?_, ?_⟩
  · -- pairs in different rows have different slots
    intro p q hp0 hp hq0 hq h
    rw [slotUnd_eq, slotUnd_eq] at h
    have e : p.1 = q.1 := by
      rcases Int.lt_trichotomy p.1 q.1 with hlt | heq | hgt
      · exact (Int.ne_of_lt (tri_add_lt (Int.le_trans hp0 (Int.le_of_lt hp)) hp hlt hq0) h).elim
      · exact heq
      · exact (Int.ne_of_lt (tri_add_lt (Int.le_trans hq0 (Int.le_of_lt hq)) hq hgt hp0) h.symm).elim
    rw [e] at h
    exact Prod.ext e (Int.add_left_cancel h)
  · intro k hk0 hk
    obtain ⟨v, h1, h2, h3, h4⟩ := tri_row hk0 hn hk
    rw [tri_succ] at h4
    exact ⟨(v, k - tri v), Int.sub_nonneg_of_le h3, Int.sub_left_lt_of_lt_add h4, h2, add_sub_cancel _ _⟩
  · intro p hp0 hp hpn
    have h0 := Int.le_trans hp0 (Int.le_of_lt hp)
    have h2 := tri_add_lt h0 hp hpn (Int.le_refl 0)
    rw [Int.add_zero] at h2
    exact ⟨Int.add_nonneg (tri_nonneg h0) hp0, h2⟩

/-- **every subset of the possible undirected pairs can occur**: for every strictly increasing list of slots there is a
    skip sequence (the gaps, then one skip past the end) for which exactly the pairs of those slots are emitted.
    (n below 2^31 keeps the final skip inside i64.) -/
theorem C16_gnp_undirected_onto (n : Int) (hn : 2 ≤ n) (hsmall : n ≤ 2147483647) (slots : List Int)
    (hsorted : slots.Pairwise (· < ·)) (hrange : ∀ k ∈ slots, 0 ≤ k ∧ k < n * (n - 1) / 2) :
    ∃ skips es, (∀ k ∈ skips, 0 ≤ k) ∧ gnpUndirected n (skips.length + 1) skips 1 (-1) [] = some es ∧ es.map slotUnd = slots := by
  obtain ⟨skips, hs, hrun⟩ := landRun_id_onto (tri n) slots 0 (tri_nonneg (Int.le_trans (by decide) hn)) hsorted hrange
  have h := gnpUndirected_landRun n hn hsmall skips hs
  rw [hrun] at h
  obtain ⟨es, h1, h2⟩ := Option.map_eq_some_iff.mp h
  exact ⟨skips, es, hs, h1, h2⟩

/-- **every possible directed pair can occur** (alone): for every ordered pair of distinct nodes some skip sequence emits it -/
theorem C16_gnp_directed_every_pair (n : Int) (hn : 2 ≤ n) (hsmall : n ≤ 2147483647) (v w : Int)
    (hv : 0 ≤ v ∧ v < n) (hw : 0 ≤ w ∧ w < n) (hne : v ≠ w) :
    ∃ skips es, (∀ k ∈ skips, 0 ≤ k) ∧ gnpDirected n (skips.length + 1) skips 0 (-1) [] = some es ∧ (v, w) ∈ es := by
  have hn0 : 0 ≤ n := Int.le_trans (by decide) hn
  have hsq : 0 ≤ n * n := Int.mul_nonneg hn0 hn0
  have hslot : 0 ≤ v * n + w := Int.add_nonneg (Int.mul_nonneg hv.1 hn0) hw.1
  have hs : ∀ k ∈ [v * n + w, n * n], 0 ≤ k := by
    intro k hk
    rcases List.mem_cons.mp hk with rfl | hk
    · exact hslot
    · rw [List.mem_singleton.mp hk]; exact hsq
  -- the first skip lands on the slot of `(v, w)`, which is not diagonal; the second runs past the last slot
  have hland : redirect n (0 + (v * n + w)) = v * n + w := by
    rw [Int.zero_add]
    exact redirect_nondiag n _ fun hz => hne ((diag_iff n v w hv.1 (Int.le_of_lt hv.2) hw.1 hw.2).mp hz)
  have hrun : landRun (redirect n) (n * n) [v * n + w, n * n] 0 [] = some [v * n + w] :=
    landRun_cons_cons.mpr ⟨by rw [hland]; exact slotDir_lt_sq hv.1 hv.2 hw.2, hland, landRun_cons_nil.mpr
      (Int.le_trans (Int.le_add_of_nonneg_left (Int.add_nonneg hslot (by decide))) (redirect_ge n _).1)⟩
  have h := gnpDirected_landRun n hn hsmall _ hs
  rw [hrun] at h
  obtain ⟨es, h1, h2⟩ := Option.map_eq_some_iff.mp h
  refine ⟨_, es, hs, h1, ?_⟩
  -- the one emitted pair has the slot of `(v, w)` and lies in the table, so it is `(v, w)`
  obtain ⟨p, rfl, hp⟩ := List.map_eq_singleton_iff.mp h2
  obtain ⟨-, -, hp3, hp4, -⟩ := (C16_gnp_directed_structure n _ _ hs h1).1 p List.mem_cons_self
  have hdiv : ∀ a b : Int, 0 ≤ b → b < n → (a * n + b) / n = a := fun a b h0 h1 => by
    rw [Int.add_comm, Int.add_mul_ediv_right _ _ (by omega), Int.ediv_eq_zero_of_lt h0 h1, Int.zero_add]
  have e1 : p.1 = v := by rw [← hdiv p.1 p.2 hp3 hp4, ← hdiv v w hw.1 hw.2]; exact congrArg (· / n) hp
  have e2 : p.2 = w := by
    have : p.1 * n + p.2 = v * n + w := hp
    rw [e1] at this
    exact Int.add_left_cancel this
  exact List.mem_singleton.mpr (Prod.ext e1 e2).symm

example : (match fastGnp 4 false [0, 1, 2, 100] with
    | .ok (some s) => s.wf && s.names == [0, 1, 2, 3] && (s.allEdges.map fun e => (e.u, e.v)) == [(0, 1), (1, 2), (2, 3)]
    | _ => false) = true := by
  decide +kernel

end Graphrs
