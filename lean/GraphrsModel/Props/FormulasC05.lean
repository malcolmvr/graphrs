/-
  Source ties for C05 (translator `tools/formulas.py`; expressions of src/algorithms/centrality/betweenness.rs
  regenerated into `Generated/FormulasC05.lean`).  Tied to model terms: `get_scale` is `bcScale` (`C05_src_scale`) and
  `accumulate_betweenness` is `accumulate` (`C05_src_accumulate`).  The tests of the weighted search stage
  (`C05_src_stage*`) are tied to the expressions that `bcDijkstraLoop` (Model/Centrality.lean) writes in its loop body,
  copied here with `Option` labels; these theorems do not mention the loop itself.
-/
import GraphrsModel.Generated.FormulasC05
import GraphrsModel.Model.Centrality
import Mathlib.Tactic.Ring
import Mathlib.Algebra.Order.Field.Rat
import Mathlib.Data.Rat.Cast.Order
namespace Graphrs

theorem C05_src_scale (n : Nat) (normalized directed : Bool) :
    bcScale n normalized directed =
      (if normalized then (if Src.C05.scaleTrivial n = true then none else some (Src.C05.scaleNormalized n))
       else if directed then none else some Src.C05.scaleUndirected) := by
  unfold bcScale Src.C05.scaleTrivial Src.C05.scaleNormalized Src.C05.scaleUndirected
  simp only [decide_eq_true_eq]

/-- `accumulate_betweenness` with the coefficient, the dependency increment and the endpoint test taken from the source -/
def accumulateSrc (bc : List Rat) (r : SSR) : List Rat :=
  let (bc, _) := r.S.reverse.foldl (fun (acc : List Rat × List Rat) w =>
    let (bc, delta) := acc
    let coeff := Src.C05.accCoeff (getD0 delta w) (getD0 r.sigma w)
    let delta := (r.P[w]?.getD []).foldl (fun delta v => delta.set v (getD0 delta v + Src.C05.accDelta (getD0 r.sigma v) coeff)) delta
    let bc := if Src.C05.accSkipSource w r.source then bc.set w (getD0 bc w + getD0 delta w) else bc
    (bc, delta)) (bc, List.replicate bc.length (0 : Rat))
  bc

/-- **Brandes' accumulation in the model is the source's**: `coeff = (1 + δ[w]) / σ[w]`, `δ[v] += σ[v]·coeff`, and the
    source is never credited -/
theorem C05_src_accumulate (bc : List Rat) (r : SSR) : accumulate bc r = accumulateSrc bc r := by
  unfold accumulate accumulateSrc Src.C05.accCoeff Src.C05.accDelta Src.C05.accSkipSource
  simp only [bne_iff_ne, ne_eq, decide_not, Bool.not_eq_eq_eq_not, Bool.not_true, decide_eq_false_iff_not]


/-- how the model's `Option` reads as the f64 of the code: `none` is the sentinel `f64::MAX` -/
def C05emb (fmax : Rat) : Option Int → Rat
  | none => fmax
  | some x => (x : Rat)

/-- the tentative distance `dist + cost` of the loop body (integer labels) is the source's `dist + cost` -/
theorem C05_src_stageDist (dist cost : Int) : ((dist + cost : Int) : Rat) = Src.C05.stageDist dist cost := by
  unfold Src.C05.stageDist; push_cast; ring

/-- the improvement test as `bcDijkstraLoop` writes it over `Option` labels (left side, copied from the loop body) equals the
    source's `D[w] == f64::MAX && (seen[w] == f64::MAX || vw_dist < seen[w])` under the embedding `C05emb`, for every value
    `fmax` of the sentinel that no stored label takes -/
theorem C05_src_stageImproves (fmax : Rat) (dW seenW : Option Int) (vw : Int)
    (hd : ∀ x, dW = some x → (x : Rat) ≠ fmax) (hs : ∀ x, seenW = some x → (x : Rat) ≠ fmax) :
    (dW.isNone && (match seenW with | none => true | some sw => decide (vw < sw)))
      = Src.C05.stageImproves (C05emb fmax dW) (C05emb fmax seenW) (vw : Rat) fmax := by
  unfold Src.C05.stageImproves
  cases dW with
  | some x =>
    show false = (decide ((x : Rat) = fmax) && _)
    rw [decide_eq_false (hd x rfl)]
    rfl
  | none =>
    show (true && _) = (decide (fmax = fmax) && _)
    rw [decide_eq_true rfl, Bool.true_and, Bool.true_and]
    cases seenW with
    | none => exact (Bool.or_eq_true_iff.2 (Or.inl (decide_eq_true rfl))).symm
    | some sw =>
      show decide (vw < sw) = (decide ((sw : Rat) = fmax) || decide ((vw : Rat) < (sw : Rat)))
      rw [decide_eq_false (hs sw rfl), Bool.false_or, decide_eq_decide.2 Int.cast_lt]

/-- the tie test `seenW == some vw` of the loop body (copied) equals the source's `vw_dist == seen[w]` under `C05emb`
    (a tentative distance is never the sentinel) -/
theorem C05_src_stageTie (fmax : Rat) (seenW : Option Int) (vw : Int) (hv : (vw : Rat) ≠ fmax) :
    (seenW == some vw) = Src.C05.stageTie (vw : Rat) (C05emb fmax seenW) := by
  unfold Src.C05.stageTie
  cases seenW with
  | none => simp [C05emb, hv]
  | some sw =>
    rw [Bool.eq_iff_iff]
    simp only [C05emb, beq_iff_eq, Option.some.injEq, decide_eq_true_eq, Int.cast_inj]
    exact eq_comm

/-- the path-count bookkeeping of the loop body (the values `0` and `sigma[w] + sigma[v]`, copied) against the source: reset to `0.0` when a strictly shorter route is found (dropping this reset is the defect class
    of seeds S07 / S106 / S211), `sigma[w] += sigma[v]` on a tie -/
theorem C05_src_stageSigma (sw sv : Rat) : (0 : Rat) = Src.C05.stageSigmaReset ∧ sw + sv = sw + Src.C05.stageSigmaTie sv := by
  unfold Src.C05.stageSigmaReset Src.C05.stageSigmaTie; exact ⟨rfl, rfl⟩

end Graphrs
