/-
  C20 over the whole crate: `eigenvector_centrality` over EVERY scalar record `Scalar α` (`Float`: what the driver runs; `ℝ`:
  C18Model).  The two `unwrap`s of the inner loop (`get_edge(..).unwrap()`, `x.get_mut(..).unwrap()`) and the one of
  `get_successors_or_neighbors` are never reached on a well-formed store: the key set of the iterate is the node set
  throughout, every neighbour is joined by a stored edge, and multi-edge graphs are turned away with `WrongMethod`
  before the loop.  No hypothesis on weights, tolerance or iteration count.
-/
import GraphrsModel.Props.C20BreadthBase
namespace Graphrs
open C20B

namespace C20B

/-- the key set of the iterate is the node set -/
def KeysAre {α : Type} (s : Store) (x : List (Nat × α)) : Prop := ∀ k, k ∈ x.map (·.1) ↔ k ∈ s.names

theorem keysAre_ainsert {α : Type} (s : Store) (x : List (Nat × α)) (k : Nat) (v : α) (hx : KeysAre s x) (hk : k ∈ s.names) :
    KeysAre s (ainsert x k v) := by
  intro k'
  rw [AL.keys_insert, if_pos ((hx k).2 hk)]
  exact hx k'

theorem eigInner_np {α} (S : Scalar α) (s : Store) (h : s.wf = true) (hm : s.specs.multi = false) (weighted : Bool)
    (kv : Nat × α) (x : List (Nat × α)) (hx : KeysAre s x) (nbr : Node) (hnbr : s.hasEdge kv.1 nbr.name = true) :
    (s.eigInnerG S weighted kv (.ok x) nbr).isPanic = false ∧
    ∀ x', s.eigInnerG S weighted kv (.ok x) nbr = .ok x' → KeysAre s x' := by
  obtain ⟨e, he, _⟩ := arcWeight_of_edge s h hm weighted kv.1 nbr.name hnbr
  have hn : nbr.name ∈ s.names := (hasEdge_names s h hnbr).2
  obtain ⟨old, hold⟩ := Option.isSome_iff_exists.1 ((AL.lookup_isSome_iff x nbr.name).2 ((hx _).2 hn))
  rw [eigInnerG_ok S s weighted kv x nbr e old he hold]
  refine ⟨rfl, fun x' hx' => ?_⟩
  cases hx'
  exact keysAre_ainsert s x _ _ hx hn

theorem eigInner_err {α} (S : Scalar α) (s : Store) (weighted : Bool) (kv : Nat × α) (k : ErrKind) (nbr : Node) :
    s.eigInnerG S weighted kv (.err k) nbr = .err k := rfl

theorem eigOuter_np {α} (S : Scalar α) (s : Store) (h : s.wf = true) (hm : s.specs.multi = false) (weighted : Bool)
    (kv : Nat × α) (hkv : kv.1 ∈ s.names) (x : List (Nat × α)) (hx : KeysAre s x) :
    (s.eigOuterG S weighted (.ok x) kv).isPanic = false ∧
    ∀ x', s.eigOuterG S weighted (.ok x) kv = .ok x' → KeysAre s x' := by
  obtain ⟨l, hl, hmem, _⟩ := succOrNbrs_ok s h kv.1 ((hasNode_iff s h kv.1).2 hkv)
  rw [eigOuterG_ok S s weighted kv x l hl]
  refine np_foldl l _ (KeysAre s) ?_ (eigInner_err S s weighted kv) _ ⟨rfl, fun b hb => by cases hb; exact hx⟩
  intro b nbr hnbr hb
  exact eigInner_np S s h hm weighted kv b hb nbr ((hmem nbr.name).1 (List.mem_map.2 ⟨nbr, hnbr, rfl⟩))

theorem eigAcc_np {α} (S : Scalar α) (s : Store) (h : s.wf = true) (hm : s.specs.multi = false) (weighted : Bool)
    (xlast : List (Nat × α)) (hx : KeysAre s xlast) :
    (s.eigAccG S weighted xlast).isPanic = false ∧ ∀ x', s.eigAccG S weighted xlast = .ok x' → KeysAre s x' := by
  unfold Store.eigAccG
  refine np_foldl xlast _ (KeysAre s) ?_ (fun _ _ => rfl) _ ⟨rfl, fun b hb => by cases hb; exact hx⟩
  intro b kv hkv hb
  exact eigOuter_np S s h hm weighted kv ((hx kv.1).1 (List.mem_map.2 ⟨kv, hkv, rfl⟩)) b hb

theorem eigStep_np {α} (S : Scalar α) (s : Store) (h : s.wf = true) (hm : s.specs.multi = false) (weighted : Bool)
    (xlast : List (Nat × α)) (hx : KeysAre s xlast) :
    (s.eigStepG S weighted xlast).isPanic = false ∧ ∀ x', s.eigStepG S weighted xlast = .ok x' → KeysAre s x' := by
  obtain ⟨h1, h2⟩ := eigAcc_np S s h hm weighted xlast hx
  unfold Store.eigStepG
  cases hacc : s.eigAccG S weighted xlast with
  | ok x =>
    refine ⟨rfl, fun x' hx' => ?_⟩
    cases hx'
    intro k
    rw [keys_eigNormaliseG]
    exact h2 x hacc k
  | err k => exact ⟨rfl, fun x' hx' => by cases hx'⟩
  | panic site => rw [hacc] at h1; cases h1

theorem eigLoop_np {α} (S : Scalar α) (s : Store) (h : s.wf = true) (hm : s.specs.multi = false) (weighted : Bool)
    (nnodes : Nat) (tol : α) : ∀ (fuel it : Nat) (xlast : List (Nat × α)) (margin : α), KeysAre s xlast →
    (eigLoopG S s weighted nnodes tol fuel it xlast margin).isPanic = false := by
  intro fuel
  induction fuel with
  | zero => intro it xlast margin _; rfl
  | succ fuel ih =>
    intro it xlast margin hx
    obtain ⟨h1, h2⟩ := eigStep_np S s h hm weighted xlast hx
    unfold eigLoopG
    cases hstep : s.eigStepG S weighted xlast with
    | ok x =>
      simp only
      split
      · rfl
      · exact ih _ x _ (h2 x hstep)
    | err k => rfl
    | panic site => rw [hstep] at h1; cases h1

theorem keysAre_x0 {α : Type} (s : Store) (h : s.wf = true) (v : α) :
    KeysAre s (s.getAllNodes.foldl (fun l nd => ainsert l nd.name v) []) := by
  intro k
  rw [Store.getAllNodes, start_vector s h v, List.map_map]
  exact Iff.rfl

end C20B

/-- `eigenvector_centrality` over every scalar: WrongMethod (multi-edge graph), otherwise a value or
    PowerIterationFailedConvergence (`value = none`), never a panic; for every weight mode, iteration count, tolerance -/
theorem C20_model_eigenvector_no_panic {α} (S : Scalar α) (s : Store) (h : s.wf = true) (weighted : Bool)
    (maxIter : Nat) (tol margin0 : α) : (s.eigenvectorG S weighted maxIter tol margin0).isPanic = false := by
  unfold Store.eigenvectorG
  refine np_bind (C20_model_ensure_no_panic s).2.2.1 fun _ hu => ?_
  exact eigLoop_np S s h (ensureNotMulti_ok hu) weighted _ tol maxIter 0 _ margin0 (keysAre_x0 s h _)

/-- the `Float` instance the driver executes -/
theorem C20_model_eigenvector_float_no_panic (s : Store) (h : s.wf = true) (weighted : Bool) (maxIter : Nat)
    (tol : Float) : (s.eigenvector weighted maxIter tol).isPanic = false :=
  C20_model_eigenvector_no_panic floatScalar s h weighted maxIter tol _

theorem C20_model_eig_step_no_panic {α} (S : Scalar α) (s : Store) (h : s.wf = true) (hm : s.specs.multi = false)
    (weighted : Bool) (xlast : List (Nat × α)) (hk : ∀ k, k ∈ xlast.map (·.1) ↔ k ∈ s.names) :
    (s.eigStepG S weighted xlast).isPanic = false :=
  (eigStep_np S s h hm weighted xlast hk).1

end Graphrs
