/-
  C20 over the whole crate: src/algorithms/cluster.  `triangles`, `transitivity`, `clustering` (unweighted, and weighted over
  EVERY scalar record `CScalar α` - in particular `Float`, what the driver runs, and `ℝ`), `generalized_degree`,
  `square_clustering`, `average_clustering`, and the helper functions of the private sub-modules.
-/
import GraphrsModel.Props.C20BreadthBase
import GraphrsModel.Props.C11GenDeg
namespace Graphrs
open C20B C11M

private theorem reqT_has (s : Store) (h : s.wf = true) (names : Option (List Nat))
    (hn : ∀ l, names = some l → ∀ x ∈ l, x ∈ s.names) : ∀ x ∈ reqT s names, s.hasNode x = true :=
  fun x hx => (hasNode_iff s h x).2
    (requestedU_forall s names (· ∈ s.names) (fun _ hx => hx) hn x ((mem_reqT s names x).1 hx))

private theorem getD_names (s : Store) (names : Option (List Nat))
    (hn : ∀ l, names = some l → ∀ x ∈ l, x ∈ s.names) : ∀ x ∈ names.getD s.getAllNodeNames, x ∈ s.names := by
  cases names with
  | none => exact fun x hx => hx
  | some l => exact hn l rfl

/-! ### helper functions of the private sub-modules (`pub fn` in a private `mod`: callable only from inside the crate;
    stated under the conditions under which the public functions call them) -/

/-- `get_neighbors_of_nodes` (no error channel): names that exist; any graph kind.  All names in the result are nodes. -/
theorem C20_model_neighbors_of_nodes_no_panic (s : Store) (h : s.wf = true) (names : Option (List Nat))
    (hn : ∀ l, names = some l → ∀ x ∈ l, x ∈ s.names) :
    (s.neighborsOfNodes names).isPanic = false ∧
    ∀ m, s.neighborsOfNodes names = .ok m → ∀ kv ∈ m, kv.1 ∈ s.names ∧ ∀ y ∈ kv.2, y ∈ s.names := by
  unfold Store.neighborsOfNodes
  have hall : ∀ x ∈ (match names with
      | none => s.getAllNodeNames
      | some l => if l.isEmpty then s.getAllNodeNames else l), x ∈ s.names := by
    intro x hx
    cases names with
    | none => exact hx
    | some l =>
      simp only at hx
      split at hx
      · exact hx
      · exact hn l rfl x hx
  simp only
  refine np_foldl _ _ (fun (m : List (Nat × List Nat)) => ∀ kv ∈ m, kv.1 ∈ s.names ∧ ∀ y ∈ kv.2, y ∈ s.names) ?_
    (fun _ _ => rfl) (.ok []) ⟨rfl, fun b hb => by
      have : b = [] := (Outcome.ok.inj hb).symm
      subst this; intro kv hkv; cases hkv⟩
  intro m n hnm hP
  obtain ⟨l, hl, hmem⟩ := nbrNodes s h n (hall n hnm)
  simp only [bind, Outcome.bind, namesOf_ok hl, Outcome.unwrap]
  refine ⟨rfl, fun b' hb' => ?_⟩
  cases hb'
  intro kv hkv
  rcases AL.mem_insert hkv with h1 | h1
  · exact hP kv h1
  · subst h1
    exact ⟨hall n hnm, fun y hy => hmem y ((mem_dedup _ _).1 hy)⟩

/-- `get_adjacent_nodes_without` (no error channel; the crate calls it on directed graphs only): directed graph, a name
    that exists.  All names in the result are nodes. -/
theorem C20_model_adjacent_nodes_without_no_panic (s : Store) (h : s.wf = true) (hd : s.specs.directed = true)
    (x : Nat) (hx : x ∈ s.names) (preds : Bool) :
    ∃ l, s.adjWithout x preds = .ok l ∧ ∀ y ∈ l, y ∈ s.names := by
  have hx' := (hasNode_iff s h x).2 hx
  cases preds
  · exact ⟨_, adjWithout_succ s h hd x hx', fun y hy => mS_names s h hd x hx' y hy⟩
  · exact ⟨_, adjWithout_pred s h hd x hx', fun y hy => mP_names s h hd x hx' y hy⟩

/-- on an UNDIRECTED graph the helper does panic (`get_successor_node_names(..).unwrap()` on `WrongMethod`): the
    hypothesis `directed` above is needed.  Not reachable through the public API (the module is private and
    `clustering` calls it on directed graphs only). -/
example : ((Store.new ⟨false, false, true, .keepFirst, .create, .drop⟩).addNode ⟨2, none⟩).wf = true ∧
    (((Store.new ⟨false, false, true, .keepFirst, .create, .drop⟩).addNode ⟨2, none⟩).adjWithout 2 false).isPanic = true := by
  decide

/-- `get_triangles_and_degrees` (the crate calls it on undirected graphs, after `ensure_has_nodes`) -/
theorem C20_model_triangles_and_degrees_no_panic (s : Store) (h : s.wf = true) (hd : s.specs.directed = false)
    (names : Option (List Nat)) (hn : ∀ l, names = some l → ∀ x ∈ l, x ∈ s.names) :
    (s.trianglesAndDegrees names).isPanic = false :=
  np_of_eq_ok (trianglesAndDegrees_ok s h hd names (reqT_has s h names hn))

/-- `get_directed_triangles_and_degrees` (the crate calls it on directed graphs, after `ensure_has_nodes`) -/
theorem C20_model_directed_triangles_and_degrees_no_panic (s : Store) (h : s.wf = true) (hd : s.specs.directed = true)
    (names : Option (List Nat)) (hn : ∀ l, names = some l → ∀ x ∈ l, x ∈ s.names) :
    (s.directedTrianglesAndDegrees names).isPanic = false :=
  np_of_eq_ok (directed_ok s h hd names fun x hx => (hasNode_iff s h x).2 (getD_names s names hn x hx))

/-- `triangles`: WrongMethod (directed), NodeNotFound (an absent name), a value otherwise -/
theorem C20_model_triangles_no_panic (s : Store) (h : s.wf = true) (names : Option (List Nat)) :
    (s.triangles names).isPanic = false := by
  unfold Store.triangles
  refine np_bind (C20_model_ensure_no_panic s).2.1 fun _ hu => ?_
  refine np_bind (ensureHasNodes_np s names) fun _ hn => ?_
  exact np_bind (np_of_eq_ok (trianglesAndDegrees_ok s h (ensureUndirected_ok hu) names
    (reqT_has s h names (ensureHasNodes_ok s h hn)))) fun _ _ => rfl

theorem C20_model_generalized_degree_no_panic (s : Store) (h : s.wf = true) (names : Option (List Nat)) :
    (s.generalizedDegree names).isPanic = false :=
  C11_model_generalized_degree_no_panic s h names

/-- `transitivity`: WrongMethod (directed), 0 on the empty graph, a value otherwise (isolated nodes included) -/
theorem C20_model_transitivity_no_panic (s : Store) (h : s.wf = true) : s.transitivity.isPanic = false := by
  unfold Store.transitivity
  refine np_bind (C20_model_ensure_no_panic s).2.1 fun _ hu => ?_
  split
  · rfl
  · exact np_bind (np_of_eq_ok (trianglesAndDegrees_ok s h (ensureUndirected_ok hu) none
      (reqT_has s h none nofun))) fun _ _ => rfl

/-- unweighted `clustering`: WrongMethod (multi-edge), NodeNotFound (an absent name), a value on both directed and
    undirected graphs otherwise -/
theorem C20_model_clustering_unweighted_no_panic (s : Store) (h : s.wf = true) (names : Option (List Nat)) :
    (s.clusteringUnweighted names).isPanic = false := by
  unfold Store.clusteringUnweighted
  refine np_bind (C20_model_ensure_no_panic s).2.2.1 fun _ _ => ?_
  refine np_bind (ensureHasNodes_np s names) fun _ hn => ?_
  have hn := ensureHasNodes_ok s h hn
  cases hd : s.specs.directed
  · rw [if_neg Bool.false_ne_true]
    exact np_bind (np_of_eq_ok (trianglesAndDegrees_ok s h hd names (reqT_has s h names hn))) fun _ _ => rfl
  · rw [if_pos rfl]
    exact np_bind (C20_model_directed_triangles_and_degrees_no_panic s h hd names hn) fun _ _ => rfl

private theorem nbrNamesU (s : Store) (h : s.wf = true) (x : Nat) (hx : x ∈ s.names) (site : String) :
    ∃ l, (Store.namesOf (s.getNeighborNodes x)).unwrap site = .ok l ∧ ∀ y ∈ l, y ∈ s.names := by
  obtain ⟨l, hl, hmem⟩ := nbrNodes s h x hx
  exact ⟨_, by rw [namesOf_ok hl]; rfl, hmem⟩

theorem C20_model_weighted_triangles_and_degrees_no_panic {α} (S : CScalar α) (s : Store) (h : s.wf = true)
    (names : Option (List Nat)) (hn : ∀ l, names = some l → ∀ x ∈ l, x ∈ s.names) :
    (s.weightedTrianglesAndDegreesG S names).isPanic = false := by
  unfold Store.weightedTrianglesAndDegreesG
  obtain ⟨hnp, hm⟩ := C20_model_neighbors_of_nodes_no_panic s h names hn
  refine np_bind hnp (fun nmap hnmap => ?_)
  have hkv := hm nmap hnmap
  refine np_foldl' _ _ ?_ (fun _ _ => rfl) _
  intro out kv hkvm
  obtain ⟨hk1, hk2⟩ := hkv kv hkvm
  refine np_bind rfl (fun out' _ => ?_)
  refine np_bind ?_ (fun p _ => by obtain ⟨a, b⟩ := p; rfl)
  refine np_foldl' _ _ ?_ (fun _ _ => rfl) _
  intro b u hu
  obtain ⟨seen, tot⟩ := b
  have hu' : u ∈ s.names := hk2 u (List.mem_filter.1 hu).1
  obtain ⟨un, hun, _⟩ := nbrNamesU s h u hu' "get_weighted_triangles_and_degrees_for_node: unwrap"
  refine np_bind rfl (fun q hq => ?_)
  cases hq
  refine np_bind (np_of_eq_ok hun) (fun _ _ => rfl)

/-- `get_all_directed_triangles` (inner loop of `get_directed_weighted_triangles_and_degrees`), any scalar: directed
    graph, predecessor / successor lists consisting of nodes -/
theorem C20_model_all_directed_triangles_no_panic {α} (S : CScalar α) (s : Store) (h : s.wf = true)
    (hd : s.specs.directed = true) (maxW : α) (i : Nat) (ip is : List Nat)
    (hip : ∀ y ∈ ip, y ∈ s.names) (his : ∀ y ∈ is, y ∈ s.names) (iterPreds : Bool) :
    (s.allDirectedTrianglesG S maxW i ip is iterPreds).isPanic = false := by
  unfold Store.allDirectedTrianglesG
  refine np_foldl' _ _ ?_ (fun _ _ => rfl) _
  intro tot j hj
  have hj' : j ∈ s.names := by
    cases iterPreds
    · exact his j hj
    · exact hip j hj
  obtain ⟨jp, hjp, _⟩ := C20_model_adjacent_nodes_without_no_panic s h hd j hj' true
  obtain ⟨js, hjs, _⟩ := C20_model_adjacent_nodes_without_no_panic s h hd j hj' false
  refine np_bind rfl (fun _ _ => ?_)
  refine np_bind (np_of_eq_ok hjp) (fun _ _ => ?_)
  refine np_bind (np_of_eq_ok hjs) (fun _ _ => rfl)

/-- weighted `clustering` over EVERY scalar record (`Float`: `Store.clusteringWeighted`; `ℝ`: C11Weighted):
    WrongMethod (multi-edge), NodeNotFound (an absent name), EdgeWeightNotSpecified (a NaN weight), a value otherwise -/
theorem C20_model_clustering_weighted_no_panic {α} (S : CScalar α) (s : Store) (h : s.wf = true)
    (names : Option (List Nat)) : (s.clusteringWeightedG S names).isPanic = false := by
  unfold Store.clusteringWeightedG
  refine np_bind (C20_model_ensure_no_panic s).2.2.1 (fun _ _ => ?_)
  refine np_bind (ensureHasNodes_np s names) (fun _ hn => ?_)
  have hn := ensureHasNodes_ok s h hn
  refine np_bind (C20_model_ensure_no_panic s).2.2.2 (fun _ _ => ?_)
  cases hd : s.specs.directed
  · simp only [Bool.false_eq_true, if_false]
    exact np_bind (C20_model_weighted_triangles_and_degrees_no_panic S s h names hn) (fun _ _ => rfl)
  · simp only [if_true]
    refine np_foldl' _ _ ?_ (fun _ _ => rfl) _
    intro out i hi
    have hi' : i ∈ s.names := by
      cases names with
      | none => exact hi
      | some l => exact hn l rfl i hi
    obtain ⟨ip, hip, hipn⟩ := C20_model_adjacent_nodes_without_no_panic s h hd i hi' true
    obtain ⟨is, his, hisn⟩ := C20_model_adjacent_nodes_without_no_panic s h hd i hi' false
    refine np_bind rfl (fun _ _ => ?_)
    refine np_bind (np_of_eq_ok hip) (fun ip' hip' => ?_)
    rw [hip] at hip'; cases hip'
    refine np_bind (np_of_eq_ok his) (fun is' his' => ?_)
    rw [his] at his'; cases his'
    refine np_bind (C20_model_all_directed_triangles_no_panic S s h hd _ i ip is hipn hisn true) (fun _ _ => ?_)
    refine np_bind (C20_model_all_directed_triangles_no_panic S s h hd _ i ip is hipn hisn false) (fun _ _ => rfl)

/-- the `Float` instance the driver executes -/
theorem C20_model_clustering_weighted_float_no_panic (s : Store) (h : s.wf = true) (names : Option (List Nat)) :
    (s.clusteringWeighted names).isPanic = false :=
  C20_model_clustering_weighted_no_panic floatCScalar s h names

private theorem gnos_np (s : Store) (h : s.wf = true) (x : Nat) (hx : x ∈ s.names) : (s.gnos x).isPanic = false := by
  unfold Store.gnos
  obtain ⟨l, hl, _⟩ := succOrNbrs s h x hx
  exact np_bind (np_of_eq_ok (namesOf_ok hl)) (fun _ _ => rfl)

theorem C20_model_square_coefficient_no_panic (s : Store) (h : s.wf = true) (v : Nat) (hv : s.hasNode v = true) :
    (s.squareCoefficient v).isPanic = false := by
  unfold Store.squareCoefficient
  obtain ⟨l, hl, hmem⟩ := succOrNbrs s h v ((hasNode_iff s h v).1 hv)
  refine np_bind (np_of_eq_ok (namesOf_ok hl)) (fun nb hnb => ?_)
  rw [namesOf_ok hl] at hnb; cases hnb
  refine np_bind ?_ (fun p _ => by obtain ⟨c, q⟩ := p; rfl)
  refine np_foldl' _ _ ?_ (fun _ _ => rfl) _
  intro b uw huw
  obtain ⟨c, q⟩ := b
  rw [pairsOf_eq_pairs] at huw
  obtain ⟨h1, h2⟩ := mem_pairs _ _ huw
  have hu : uw.1 ∈ s.names := hmem _ (List.mem_filter.1 h1).1
  have hw : uw.2 ∈ s.names := hmem _ (List.mem_filter.1 h2).1
  refine np_bind rfl (fun r hr => ?_)
  cases hr
  refine np_bind (gnos_np s h _ hu) (fun _ _ => ?_)
  refine np_bind (gnos_np s h _ hw) (fun _ _ => rfl)

/-- `square_clustering`, directed and undirected, self-loops and parallel edges included -/
theorem C20_model_square_clustering_no_panic (s : Store) (h : s.wf = true) (names : Option (List Nat))
    (hn : ∀ l, names = some l → ∀ x ∈ l, s.hasNode x = true) : (s.squareClustering names).isPanic = false := by
  unfold Store.squareClustering
  simp only
  refine np_foldl' _ _ ?_ (fun _ _ => rfl) _
  intro out v hv
  have hv' : s.hasNode v = true := by
    cases names with
    | none => exact (hasNode_iff s h v).2 hv
    | some l => exact hn l rfl v hv
  refine np_bind rfl (fun _ _ => ?_)
  refine np_bind (C20_model_square_coefficient_no_panic s h v hv') (fun _ _ => rfl)

/-- on an absent name `square_clustering` does panic - in the crate as in the model (`get_successors_or_neighbors`
    unwraps); the function returns a plain `HashMap`, so C20 only asks for names that exist -/
example : (Store.new ⟨false, false, true, .keepFirst, .create, .drop⟩).wf = true ∧
    ((Store.new ⟨false, false, true, .keepFirst, .create, .drop⟩).squareClustering (some [7])).isPanic = true := by
  decide

end Graphrs
