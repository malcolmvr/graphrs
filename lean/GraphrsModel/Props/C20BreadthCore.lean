/-
  C20 over the whole crate: components, breadth-first search, derived graphs, generators, GraphML reader, sizes / density /
  remaining degree maps, mutations.  Every theorem has the form
  `s.wf = true → (model call).isPanic = false`, for every argument (absent names, wrong graph kind, ...), except
  `breadth_first_search`, which has no error channel in the crate (`-> Vec<T>`): names that exist.
-/
import GraphrsModel.Props.C20BreadthBase
import GraphrsModel.Props.C20Model
import GraphrsModel.Props.C16Store
import GraphrsModel.Lemmas.C10Comp
import GraphrsModel.Props.C19
namespace Graphrs
open C20B

theorem C20_model_getNodeIndex_no_panic (s : Store) (x : Nat) : (s.getNodeIndex x).isPanic = false := by
  unfold Store.getNodeIndex; split <;> rfl

private theorem gson (s : Store) (h : s.wf = true) :
    ∀ v ∈ s.getAllNodeNames, ∃ l, s.getSuccessorsOrNeighbors v = .ok l ∧ ∀ z ∈ l.map (·.name), z ∈ s.getAllNodeNames :=
  fun v hv => succOrNbrs s h v hv

/-- `breadth_first_search` (no error channel in the crate): a value for every name that exists -/
theorem C20_model_bfs_no_panic (s : Store) (h : s.wf = true) (x : Nat) (hx : s.hasNode x = true) :
    (s.breadthFirstSearch x).isPanic = false :=
  np_of_ok (C10M.bfs_total s (gson s h) x ((hasNode_iff s h x).1 hx))

/-- `connected_components`: WrongMethod on a directed graph, a value otherwise -/
theorem C20_model_connected_components_no_panic (s : Store) (h : s.wf = true) :
    s.connectedComponents.isPanic = false := by
  cases hd : s.specs.directed
  · exact np_of_eq_ok (C10M.connectedComponents_eq s hd (fun v hv => C10M.bfs_total s (gson s h) v hv))
  · exact np_of_eq_err ((C20_wrong_kind_channel s 0 []).2.1 hd).1

theorem C20_model_number_of_connected_components_no_panic (s : Store) (h : s.wf = true) :
    s.numberOfConnectedComponents.isPanic = false := by
  unfold Store.numberOfConnectedComponents
  exact np_bind (C20_model_connected_components_no_panic s h) (fun _ _ => rfl)

/-- `node_connected_component`: WrongMethod on a directed graph, NodeNotFound for an absent name, a value otherwise -/
theorem C20_model_node_connected_component_no_panic (s : Store) (h : s.wf = true) (x : Nat) :
    (s.nodeConnectedComponent x).isPanic = false := by
  unfold Store.nodeConnectedComponent
  refine np_bind (C20_model_ensure_no_panic s).2.1 (fun _ _ => ?_)
  cases hx : s.hasNode x
  · rfl
  · simp only [Bool.not_true, Bool.false_eq_true, if_false]
    exact np_bind (C20_model_bfs_no_panic s h x hx) (fun _ _ => rfl)

/-- `weakly_connected_components`: WrongMethod on an undirected graph, a value otherwise -/
theorem C20_model_weak_components_no_panic (s : Store) (h : s.wf = true) :
    s.weaklyConnectedComponents.isPanic = false := by
  have _ := h
  cases hd : s.specs.directed
  · exact np_of_eq_err ((C20_wrong_kind_channel s 0 []).1 hd).2.2.2.2.2.2.2.2.2.1
  · exact np_of_eq_ok (C10M.weaklyConnectedComponents_eq s hd)

private theorem wf_of_eq_ok {o : Outcome Store} {t : Store} (h1 : o = .ok t) (h2 : t.wf = true) :
    o.isPanic = false ∧ ∀ t', o = .ok t' → t'.wf = true :=
  ⟨np_of_eq_ok h1, fun t' ht' => by rw [h1] at ht'; cases ht'; exact h2⟩

private theorem wf_of_eq_err {o : Outcome Store} {k : ErrKind} (e : o = .err k) :
    o.isPanic = false ∧ ∀ t', o = .ok t' → t'.wf = true :=
  ⟨np_of_eq_err e, fun t ht => by rw [e] at ht; cases ht⟩

theorem C20_model_subgraph_no_panic (s : Store) (h : s.wf = true) (names : List Nat) :
    (s.getSubgraph names).isPanic = false ∧ ∀ t, s.getSubgraph names = .ok t → t.wf = true := by
  obtain ⟨t, h1, h2, _⟩ := Core_subgraph s h names
  exact wf_of_eq_ok h1 h2

theorem C20_model_reverse_no_panic (s : Store) (h : s.wf = true) :
    s.reverse.isPanic = false ∧ ∀ t, s.reverse = .ok t → t.wf = true := by
  cases hd : s.specs.directed
  · exact wf_of_eq_err ((C15_wrong_kind s).1 hd)
  · obtain ⟨t, h1, h2, _⟩ := Core_reverse s h hd
    exact wf_of_eq_ok h1 h2

theorem C20_model_set_all_edge_weights_no_panic (s : Store) (h : s.wf = true) (w : W) :
    (s.setAllEdgeWeights w).isPanic = false ∧ ∀ t, s.setAllEdgeWeights w = .ok t → t.wf = true := by
  obtain ⟨t, h1, h2, _⟩ := Core_setWeights s h w
  exact wf_of_eq_ok h1 h2

theorem C20_model_to_single_edges_no_panic (s : Store) (h : s.wf = true) :
    s.toSingleEdges.isPanic = false ∧ ∀ t, s.toSingleEdges = .ok t → t.wf = true := by
  cases hm : s.specs.multi
  · exact wf_of_eq_err ((C15_wrong_kind s).2 hm)
  · obtain ⟨t, h1, h2, _⟩ := Core_toSingle s h hm
    exact wf_of_eq_ok h1 h2

theorem C20_model_new_from_no_panic (sp : Specs) (ns : List Node) (es : List Edge) :
    (Store.newFrom sp ns es).isPanic = false :=
  Store.newFrom_not_panic sp ns es

/-- inside mutations the panic sites are the `poisoned` flag: never set by any call on a well-formed store -/
theorem C20_model_mutations_no_panic (s : Store) (h : s.wf = true) (op : Op) :
    (s.step op).1.poisoned = none ∧ (s.step op).1.wf = true := by
  have hw := Core_step_wf s op h
  refine ⟨?_, hw⟩
  have hp := ((Store.wf_iff _).mp hw).1.not_poisoned
  simpa using hp

/-- `complete_graph(n, directed)`: the `unwrap` of `new_from_nodes_and_edges` is never reached -/
theorem C20_model_complete_graph_no_panic (n : Nat) (directed : Bool) :
    (completeGraph n directed).isPanic = false ∧ ∀ t, completeGraph n directed = .ok t → t.wf = true := by
  obtain ⟨t, h1, h2, _⟩ := newFrom_sim Core_rest_preserved (completeSpecs directed)
    ((List.range n).map fun i => (⟨i, none⟩ : Node))
    ((if directed then perms2 n else combos2 n).map fun p => Edge.tuple p.1 p.2) _ (C16_complete_abs n directed)
  refine wf_of_eq_ok ?_ h2
  unfold completeGraph
  rw [h1]
  rfl

/-- `fast_gnp_random_graph`: for EVERY `n` and EVERY skip sequence (negative skips included) no panic site exists -/
theorem C20_model_fast_gnp_no_panic (n : Int) (directed : Bool) (skips : List Int) :
    (fastGnp n directed skips).isPanic = false := by
  unfold fastGnp
  generalize (if directed = true then gnpDirected n (skips.length + 1) skips 0 (-1) []
    else gnpUndirected n (skips.length + 1) skips 1 (-1) []) = edges
  cases edges with
  | none => rfl
  | some es =>
    simp only
    split <;> rfl

/-- `karate_club_graph` over the table regenerated from the source: `new_from_nodes_and_edges`, no panic site -/
theorem C20_model_karate_no_panic : karateGraph.isPanic = false :=
  C20_model_new_from_no_panic _ _ _

theorem C20_model_read_graphml_no_panic (sp : Specs) (evs : List Xml.Event) :
    (Xml.readEvents sp evs).isPanic = false :=
  C19_total sp evs

/-- the maps themselves are `C12W.inDegMapW` / `outDegMapW`; off a directed store both answer `WrongMethod` -/
theorem C20_model_weighted_in_out_degree_maps_no_panic (s : Store) (h : s.wf = true) :
    s.getWeightedInDegreeForAllNodes.isPanic = false ∧ s.getWeightedOutDegreeForAllNodes.isPanic = false := by
  cases hd : s.specs.directed
  · simp only [Store.getWeightedInDegreeForAllNodes, Store.getWeightedOutDegreeForAllNodes, hd]
    exact ⟨rfl, rfl⟩
  · exact ⟨np_of_eq_ok (C12W.inDegMapW s h hd), np_of_eq_ok (C12W.outDegMapW s h hd)⟩

end Graphrs
