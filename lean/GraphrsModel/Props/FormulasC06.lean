/-
  Source tie for C06 (translator `tools/formulas.py`), against the expressions regenerated into
  `Generated/FormulasC06.lean` from src/algorithms/centrality/closeness.rs.
  - `C06_src_nodeCentrality`: the guard and the quotients of `get_node_centrality` compose to the model's
    `nodeCentrality`.  The two sides agree by unfolding; the only rewriting is between the Boolean and the propositional
    form of the guard, so a reordering of the quotients in the source would show here.
  - `C06_src_stageDist`, `_stageImproves`, `_stageTie`: the distance update and the two tests of the weighted search.
    Their model sides are the expressions of the relaxation step of `bcDijkstraLoop` (Model/Centrality.lean:
    `vw := dist + cost`, `(st.D[w]?.join).isNone && (match seenW with | none => true | some sw => vw < sw)`,
    `seenW == some vw`) written out over variables; the statements do not mention `bcDijkstraLoop`, the
    correspondence with its text is by reading.
-/
import GraphrsModel.Generated.FormulasC06
import GraphrsModel.Model.Centrality
import Mathlib.Tactic.Ring
import Mathlib.Algebra.Order.Field.Rat
import Mathlib.Data.Rat.Cast.Order
namespace Graphrs

theorem C06_src_nodeCentrality (sp : List (Nat × Int)) (numNodes : Nat) (wf : Bool) :
    nodeCentrality sp numNodes wf =
      (let totsp : Rat := ((sumInt (sp.map (·.2)) : Int) : Rat)
       if Src.C06.ccGuard totsp numNodes = true then
         let s := Src.C06.ccReached sp.length
         if wf then Src.C06.ccPlain s totsp * Src.C06.ccWfFactor s numNodes else Src.C06.ccPlain s totsp
       else 0) := by
  unfold nodeCentrality Src.C06.ccGuard Src.C06.ccReached Src.C06.ccPlain Src.C06.ccWfFactor
  simp only [Bool.and_eq_true, decide_eq_true_eq, Int.cast_pos]

/-- how the model's `Option` reads as the f64 of the code: `none` is the sentinel `f64::MAX` -/
def C06emb (fmax : Rat) : Option Int → Rat
  | none => fmax
  | some x => (x : Rat)

theorem C06_src_stageDist (dist cost : Int) : ((dist + cost : Int) : Rat) = Src.C06.stageDist dist cost := by
  unfold Src.C06.stageDist; push_cast; ring

/-- **the improvement test, as `bcDijkstraLoop` writes it over `dW := D[w]`, `seenW := seen[w]`, is the source's**
    `D[w] == f64::MAX && (seen[w] == f64::MAX || vw_dist < seen[w])`,
    for every value `fmax` of the sentinel that no stored label takes -/
theorem C06_src_stageImproves (fmax : Rat) (dW seenW : Option Int) (vw : Int)
    (hd : ∀ x, dW = some x → (x : Rat) ≠ fmax) (hs : ∀ x, seenW = some x → (x : Rat) ≠ fmax) :
    (dW.isNone && (match seenW with | none => true | some sw => decide (vw < sw)))
      = Src.C06.stageImproves (C06emb fmax dW) (C06emb fmax seenW) (vw : Rat) fmax := by
  unfold Src.C06.stageImproves
  cases dW with
  | some x => simp [C06emb, hd x rfl]
  | none =>
    cases seenW with
    | none => simp [C06emb]
    | some sw => simp [C06emb, hs sw rfl, Int.cast_lt]

/-- the tie test `seenW == some vw` of `bcDijkstraLoop` is the source's `vw_dist == seen[w]` (a tentative distance is
    never the sentinel) -/
theorem C06_src_stageTie (fmax : Rat) (seenW : Option Int) (vw : Int) (hv : (vw : Rat) ≠ fmax) :
    (seenW == some vw) = Src.C06.stageTie (vw : Rat) (C06emb fmax seenW) := by
  unfold Src.C06.stageTie
  cases seenW with
  | none => simp [C06emb, hv]
  | some sw =>
    rw [Bool.eq_iff_iff]
    simp only [C06emb, beq_iff_eq, Option.some.injEq, decide_eq_true_eq, Int.cast_inj]
    exact eq_comm

end Graphrs
