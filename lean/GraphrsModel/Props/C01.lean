/-
  C01 — mutations follow GraphSpecs exactly; a rejected operation changes nothing.

  `Abs.step` (Spec/Abs.lean) is the abstract machine written from the statement of C01.  The
  theorems show that the concrete model of `struct Graph` (all twelve indexes, `Store.step`)
  simulates it on every history, for every GraphSpecs record (the 96 combinations are a
  quantified variable), and that the coupling invariant `Store.wf` holds on every reachable state.
-/
import GraphrsModel.Spec.Inv
import GraphrsModel.Lemmas.Refine
namespace Graphrs

/-- Two abstract graphs are the same graph: same node list, and for every key the same list of
    edges in the same order (the order *between* different keys is the iteration order of a hash
    map and carries no meaning). -/
def AbsEq (a b : Abs) : Prop :=
  a.nodes = b.nodes ∧ ∀ k : Nat × Nat, a.edges.filter (fun e => (e.u, e.v) == k) = b.edges.filter (fun e => (e.u, e.v) == k)

theorem AbsEq.edges_perm {a b : Abs} (h : AbsEq a b) : a.edges.Perm b.edges := by
  rw [List.perm_iff_count]
  intro e
  rw [← List.count_filter (p := fun x : Edge => (x.u, x.v) == (e.u, e.v)) (l := a.edges) (by simp), h.2,
    List.count_filter (by simp)]

private theorem absEq_iff {s : Store} (he : s.EdgesInv) (a : Abs) : AbsEq s.abs a ↔ s.Refines a :=
  Store.absEq_iff_refines he a

theorem C01_new_wf (sp : Specs) : (Store.new sp).wf = true := by
  rfl

theorem C01_addNode_nodesOk_edgesOk (s : Store) (n : Node) (h : s.wf = true) :
    (s.addNode n).nodesOk = true ∧ (s.addNode n).edgesOk = true := by
  obtain ⟨hn, he, _, _⟩ := (Store.wf_iff _).mp h
  exact ⟨(Store.nodesOk_iff _).mpr (Store.addNode_nodesInv hn n), (Store.edgesOk_iff _).mpr (Store.addNode_edgesInv hn he n)⟩

theorem C01_addEdge_nodesOk_edgesOk (s : Store) (e : Edge) (h : s.wf = true) :
    (s.addEdge e).1.nodesOk = true ∧ (s.addEdge e).1.edgesOk = true := by
  obtain ⟨h1, h2⟩ := Store.addEdge_inv h e
  exact ⟨(Store.nodesOk_iff _).mpr h1, (Store.edgesOk_iff _).mpr h2⟩

theorem C01_specs_unchanged (s : Store) (op : Op) : (s.step op).1.specs = s.specs := by
  exact Store.step_specs s op

/-- re-adding an existing node only replaces its attributes and keeps its position; a new node is appended -/
theorem C01_addNode_refines (s : Store) (n : Node) (a : Abs) (h : s.wf = true) (ha : AbsEq s.abs a) :
    AbsEq (s.addNode n).abs (a.addNode n) := by
  obtain ⟨hn, he, _, _⟩ := (Store.wf_iff _).mp h
  rw [absEq_iff (Store.addNode_edgesInv hn he n)]
  exact Store.addNode_refines' hn ((absEq_iff he a).mp ha) n

/-- **one `add_edge` call**: same outcome (Ok / SelfLoopsFound / NodeNotFound / DuplicateEdge) and same resulting graph -/
theorem C01_addEdge_refines (s : Store) (e : Edge) (a : Abs) (h : s.wf = true) (ha : AbsEq s.abs a) :
    (s.addEdge e).2 = (Abs.addEdge s.specs a e).2 ∧ AbsEq (s.addEdge e).1.abs (Abs.addEdge s.specs a e).1 := by
  obtain ⟨h1, h2⟩ := Store.addEdge_refines' h ((absEq_iff ((Store.wf_iff _).mp h).2.1 a).mp ha) e
  exact ⟨h1, (absEq_iff (Store.addEdge_inv h e).2 _).mpr h2⟩

/-- **a call that returns an error leaves the graph exactly as it was** - all twelve indexes -/
theorem C01_addEdge_error_unchanged (s : Store) (e : Edge) (k : ErrKind) (h : s.wf = true)
    (herr : (s.addEdge e).2 = some k) : (s.addEdge e).1 = s :=
  Store.addEdge_error_unchanged' h e k herr

/-- a batch applies exactly the prefix that precedes the first failing edge -/
theorem C01_addEdges_prefix (s s' : Store) (es : List Edge) (k : ErrKind)
    (herr : s.addEdges es = (s', some k)) :
    ∃ pre e post mid, es = pre ++ e :: post ∧ s.addEdges pre = (mid, none) ∧ mid.addEdge e = (s', some k) := by
  induction es generalizing s with
  | nil => cases herr
  | cons e es ih =>
    rw [Store.addEdges_cons] at herr
    cases hr : (s.addEdge e).2 with
    | none =>
      rw [hr] at herr
      obtain ⟨pre, e', post, mid, h2, h3, h4⟩ := ih _ herr
      refine ⟨e :: pre, e', post, mid, congrArg (e :: ·) h2, ?_, h4⟩
      rw [Store.addEdges_cons, hr]
      exact h3
    | some k' =>
      rw [hr] at herr
      cases (show ((s.addEdge e).1, some k') = (s', some k) from herr)
      exact ⟨[], e, es, s, rfl, rfl, Prod.ext rfl hr⟩

theorem C01_addEdges_ok (s : Store) (es : List Edge) (hok : (s.addEdges es).2 = none) :
    (s.addEdges es).1 = es.foldl (fun st e => (st.addEdge e).1) s := by
  induction es generalizing s with
  | nil => rfl
  | cons e es ih =>
    rw [Store.addEdges_cons] at hok ⊢
    cases hr : (s.addEdge e).2 with
    | none => rw [hr] at hok; exact ih _ hok
    | some k' => rw [hr] at hok; cases hok

/-- the hypothesis of `C01_step_sim`: the other two clauses are re-established by every mutation -/
private abbrev Rest : Prop :=
  ∀ (t : Store) (o : Op), t.wf = true → (t.step o).1.nodesOk = true → (t.step o).1.edgesOk = true →
    (t.step o).1.adjOk = true ∧ (t.step o).1.vecOk = true

private theorem wf_step (hrest : Rest) {t : Store} (o : Op) (ht : t.wf = true)
    (h1 : (t.step o).1.nodesOk = true) (h2 : (t.step o).1.edgesOk = true) : (t.step o).1.wf = true := by
  obtain ⟨h3, h4⟩ := hrest t o ht h1 h2
  simp only [Store.wf, Bool.and_eq_true]
  exact ⟨⟨⟨h1, h2⟩, h3⟩, h4⟩

private theorem addNode_sim (hrest : Rest) (s : Store) (a : Abs) (n : Node) (h : s.wf = true) (ha : AbsEq s.abs a) :
    (s.addNode n).wf = true ∧ AbsEq (s.addNode n).abs (a.addNode n) := by
  obtain ⟨h1, h2⟩ := C01_addNode_nodesOk_edgesOk s n h
  exact ⟨wf_step hrest (.addNode n) h h1 h2, C01_addNode_refines s n a h ha⟩

private theorem addNodes_sim (hrest : Rest) (ns : List Node) (s : Store) (a : Abs) (h : s.wf = true)
    (ha : AbsEq s.abs a) : (s.addNodes ns).wf = true ∧ AbsEq (s.addNodes ns).abs (a.addNodes ns) := by
  induction ns generalizing s a with
  | nil => exact ⟨h, ha⟩
  | cons n ns ih =>
    obtain ⟨h1, h2⟩ := addNode_sim hrest s a n h ha
    exact ih (s.addNode n) (a.addNode n) h1 h2

private theorem addEdge_sim (hrest : Rest) (s : Store) (a : Abs) (e : Edge) (h : s.wf = true) (ha : AbsEq s.abs a) :
    (s.addEdge e).2 = (Abs.addEdge s.specs a e).2 ∧ (s.addEdge e).1.wf = true ∧
      AbsEq (s.addEdge e).1.abs (Abs.addEdge s.specs a e).1 := by
  obtain ⟨h1, h2⟩ := C01_addEdge_nodesOk_edgesOk s e h
  obtain ⟨h3, h4⟩ := C01_addEdge_refines s e a h ha
  exact ⟨h3, wf_step hrest (.addEdge e) h h1 h2, h4⟩

theorem Abs.addEdges_cons (sp : Specs) (a : Abs) (e : Edge) (es : List Edge) :
    Abs.addEdges sp a (e :: es) =
      match (Abs.addEdge sp a e).2 with
      | none => Abs.addEdges sp (Abs.addEdge sp a e).1 es
      | some k => ((Abs.addEdge sp a e).1, some k) := by
  rw [Abs.addEdges]
  rcases Abs.addEdge sp a e with ⟨a', _ | k⟩ <;> rfl

private theorem addEdges_sim (hrest : Rest) (es : List Edge) (s : Store) (a : Abs) (h : s.wf = true)
    (ha : AbsEq s.abs a) :
    (s.addEdges es).2 = (Abs.addEdges s.specs a es).2 ∧ (s.addEdges es).1.wf = true ∧
      AbsEq (s.addEdges es).1.abs (Abs.addEdges s.specs a es).1 := by
  induction es generalizing s a with
  | nil => exact ⟨rfl, h, ha⟩
  | cons e es ih =>
    obtain ⟨h1, h2, h3⟩ := addEdge_sim hrest s a e h ha
    rw [Store.addEdges_cons, Abs.addEdges_cons, ← h1]
    cases (s.addEdge e).2 with
    | none =>
      have := ih _ _ h2 h3
      rwa [Store.addEdge_specs s e] at this
    | some k => exact ⟨rfl, h2, h3⟩

/-- The simulation step, assuming the remaining clauses of the invariant (adjacency sets and traversal
    lists; proved in Props/C02.lean and Props/C03.lean) are re-established by every mutation. -/
theorem C01_step_sim (s : Store) (a : Abs) (op : Op)
    (hrest : ∀ (t : Store) (o : Op), t.wf = true → (t.step o).1.nodesOk = true → (t.step o).1.edgesOk = true →
      (t.step o).1.adjOk = true ∧ (t.step o).1.vecOk = true)
    (h : s.wf = true) (ha : AbsEq s.abs a) :
    (s.step op).2 = (Abs.step s.specs a op).2 ∧ (s.step op).1.wf = true ∧ AbsEq (s.step op).1.abs (Abs.step s.specs a op).1 := by
  cases op with
  | addNode n =>
    obtain ⟨h1, h2⟩ := addNode_sim hrest s a n h ha
    exact ⟨rfl, h1, h2⟩
  | addNodes ns =>
    obtain ⟨h1, h2⟩ := addNodes_sim hrest ns s a h ha
    exact ⟨rfl, h1, h2⟩
  | addEdge e => exact addEdge_sim hrest s a e h ha
  | addEdgeTuple u v => exact addEdge_sim hrest s a _ h ha
  | addEdges es => exact addEdges_sim hrest es s a h ha
  | addEdgeTuples es => exact addEdges_sim hrest _ s a h ha
  | newFrom ns es =>
    have h0 : (Store.new s.specs).wf = true := C01_new_wf s.specs
    have a0 : AbsEq (Store.new s.specs).abs ({} : Abs) := ⟨rfl, fun _ => rfl⟩
    obtain ⟨h1, a1⟩ := addNodes_sim hrest ns _ _ h0 a0
    have hsim := addEdges_sim hrest es _ _ h1 a1
    have hsp : ((Store.new s.specs).addNodes ns).specs = s.specs := Store.addNodes_specs _ _
    rw [hsp] at hsim
    simp only [Store.step, Store.newFrom, Abs.step]
    cases hr : ((Store.new s.specs).addNodes ns).addEdges es with
    | mk s1 o =>
      cases hr' : Abs.addEdges s.specs (({} : Abs).addNodes ns) es with
      | mk a1' o' =>
        rw [hr, hr'] at hsim
        obtain ⟨r2, h2, a2⟩ := hsim
        simp only at r2 h2 a2
        subst r2
        cases o with
        | none => exact ⟨rfl, h2, a2⟩
        | some k => exact ⟨rfl, h, ha⟩

private theorem run_gen (sp : Specs) (hrest : Rest) (ops : List Op) (s : Store) (a : Abs)
    (rs : List (Option ErrKind)) (h : s.wf = true) (ha : AbsEq s.abs a) (hsp : s.specs = sp) :
    let r := ops.foldl (fun (acc : Store × List (Option ErrKind)) op =>
      let (s', r) := acc.1.step op
      (s', acc.2 ++ [r])) (s, rs)
    let r' := ops.foldl (fun (acc : Abs × List (Option ErrKind)) op =>
      let (a', r) := Abs.step sp acc.1 op
      (a', acc.2 ++ [r])) (a, rs)
    r.2 = r'.2 ∧ r.1.wf = true ∧ AbsEq r.1.abs r'.1 := by
  induction ops generalizing s a rs with
  | nil => exact ⟨rfl, h, ha⟩
  | cons op ops ih =>
    have hsim := C01_step_sim s a op hrest h ha
    have hsp' := C01_specs_unchanged s op
    rw [hsp] at hsim
    cases hr : s.step op with
    | mk s1 o =>
      cases hr' : Abs.step sp a op with
      | mk a1 o' =>
        rw [hr, hr'] at hsim
        rw [hr] at hsp'
        obtain ⟨h1, h2, h3⟩ := hsim
        simp only at h1 h2 h3 hsp'
        subst h1
        simp only [List.foldl_cons, hr, hr']
        exact ih s1 a1 (rs ++ [o]) h2 h3 (hsp'.trans hsp)

/-- **all histories, all 96 specs**: the results of all calls and the final graph are those of the abstract machine,
    and the coupling invariant holds at the end -/
theorem C01_run_refines (sp : Specs) (ops : List Op)
    (hrest : ∀ (t : Store) (o : Op), t.wf = true → (t.step o).1.nodesOk = true → (t.step o).1.edgesOk = true →
      (t.step o).1.adjOk = true ∧ (t.step o).1.vecOk = true) :
    (Store.run sp ops).2 = (Abs.run sp ops).2 ∧ (Store.run sp ops).1.wf = true ∧
    AbsEq (Store.run sp ops).1.abs (Abs.run sp ops).1 := by
  exact run_gen sp hrest ops (Store.new sp) {} [] (C01_new_wf sp) ⟨rfl, fun _ => rfl⟩ rfl

/-- non-vacuity: a history with a replaced duplicate, a created node and a rejected self-loop -/
example :
    let sp : Specs := ⟨false, false, false, .keepLast, .create, .error⟩
    let ops := [Op.addEdge ⟨5, 2, some 1, none⟩, Op.addEdge ⟨2, 5, some 7, some 9⟩, Op.addEdgeTuple 3 3]
    (Store.run sp ops).2 = [none, none, some .SelfLoopsFound] ∧ (Store.run sp ops).1.wf = true ∧
    (Store.run sp ops).1.allEdges = [⟨2, 5, some 7, some 9⟩] := by
  decide +kernel

end Graphrs
