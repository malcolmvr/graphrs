/-
  C19 — the GraphML reader never panics: any input yields Ok(valid graph) or Err.

  The model (`Xml.readLoop` / `Xml.readEvents`, Model/GraphML.lean) is the reader loop of
  src/readwrite/graphml.rs over quick-xml's event stream, with every `?` / error return explicit.
  It is a total function by structural recursion on the event list (termination), its outcome is
  never a panic, and an `Ok` result is built from exactly the node and edge elements the document
  declares, in document order, with the declared directedness.
-/
import GraphrsModel.ObsXml
import GraphrsModel.Lemmas.GraphMLRead
namespace Graphrs
open Xml

def untilEof : List Event → List Event
  | [] => []
  | .eof :: _ => []
  | ev :: rest => ev :: untilEof rest

theorem Store.newFrom_not_panic (sp : Specs) (ns : List Node) (es : List Edge) :
    (Store.newFrom sp ns es).isPanic = false := by
  unfold Store.newFrom
  split <;> rfl

/-! The steps of the three folds `docNodes`, `docEdges`, `docDirected`, named, so that the folds can be started from what a
    reader state has collected. -/

private def fN : Option (List Nat) → Event → Option (List Nat) := fun acc ev => do
    let l ← acc
    match ev with
    | .start n a | .empty n a => if n == sNode then (do let a ← a; let i ← attrGet a sId; pure (l ++ [i])) else pure l
    | _ => pure l

private def fE : Option (List (Nat × Nat)) → Event → Option (List (Nat × Nat)) := fun acc ev => do
    let l ← acc
    match ev with
    | .start n a | .empty n a =>
      if n == sEdge then (do let a ← a; let u ← attrGet a sSource; let v ← attrGet a sTarget; pure (l ++ [(u, v)])) else pure l
    | _ => pure l

private def fD : Bool → Event → Bool := fun d ev =>
    match ev with
    | .start n (some a) | .empty n (some a) =>
      if n == sGraph then (if attrGet a sEdgeDefault == some sUndirected then false
                           else if attrGet a sEdgeDefault == some sDirected then true else d) else d
    | _ => d

private theorem docNodes_eq (evs : List Event) : docNodes evs = evs.foldl fN (some []) := rfl
private theorem docEdges_eq (evs : List Event) : docEdges evs = evs.foldl fE (some []) := rfl
private theorem docDirected_eq (evs : List Event) : docDirected evs = evs.foldl fD true := rfl

private abbrev ends (l : List Edge) : List (Nat × Nat) := l.map fun e => (e.u, e.v)
private abbrev names (l : List Node) : List Nat := l.map (·.name)

/-- A successful iteration on an element adds exactly what the element declares. (The folds treat an opening and an
    empty element alike: the statement for `.start` is, by unfolding, the one for `.empty`.) -/
private theorem elem_content {st0 : RState} {name : Nat} {attrs : Attrs} {o : Option RState}
    (h : readStep st0 (.start name attrs) = .ok o ∨ readStep st0 (.empty name attrs) = .ok o) :
    ∃ st', o = some st' ∧ fN (some (names st0.nodes)) (.start name attrs) = some (names st'.nodes) ∧
      fE (some (ends st0.edges)) (.start name attrs) = some (ends st'.edges) ∧
      st'.directed = fD st0.directed (.start name attrs) := by
  obtain ⟨st', ho, hst⟩ := readStep_elem h
  refine ⟨st', ho, ?_⟩
  clear h ho
  rcases hst with ⟨rfl, le, h⟩ | ⟨rfl, le, h⟩ | ⟨rfl, h⟩ | ⟨hn, he, hg, h1, h2, h3⟩
  · obtain ⟨a, i, rfl, hi, rfl⟩ := addNode_ok h
    refine ⟨?_, rfl, rfl⟩
    simp only [fN, Option.bind_eq_bind, Option.bind_some, hi, List.map_append]
    rfl
  · obtain ⟨a, u, v, rfl, hu, hv, rfl⟩ := addEdge_ok h
    refine ⟨rfl, ?_, rfl⟩
    simp only [fE, Option.bind_eq_bind, Option.bind_some, hu, hv, List.map_append]
    rfl
  · obtain ⟨a, d, rfl, hd, rfl⟩ := graphElem_ok h
    refine ⟨rfl, rfl, ?_⟩
    simp only [fD, hd]
    cases d <;> rfl
  · rw [h1, h2, h3]
    refine ⟨?_, ?_, ?_⟩
    · simp only [fN, beq_iff_eq, hn, if_false]; rfl
    · simp only [fE, beq_iff_eq, he, if_false]; rfl
    · cases attrs
      · rfl
      · simp only [fD, beq_iff_eq, hg, if_false]

private theorem readStep_ok (st0 : RState) (ev : Event) (o : Option RState) (h : readStep st0 ev = .ok o) :
    (ev = .eof ∧ o = none) ∨
    (ev ≠ .eof ∧ ∃ st', o = some st' ∧
      fN (some (names st0.nodes)) ev = some (names st'.nodes) ∧
      fE (some (ends st0.edges)) ev = some (ends st'.edges) ∧
      st'.directed = fD st0.directed ev) := by
  cases ev with
  | eof => exact .inl ⟨rfl, (Except.ok.inj h).symm⟩
  | error => cases h
  | other => cases h; exact .inr ⟨nofun, _, rfl, rfl, rfl, rfl⟩
  | endTag n => cases h; exact .inr ⟨nofun, _, rfl, rfl, rfl, rfl⟩
  | text v =>
    obtain ⟨st', rfl, h1, h2, h3⟩ := readStep_text h
    refine .inr ⟨nofun, st', rfl, congrArg (fun l => some (names l)) h1.symm, ?_, h2⟩
    rcases h3 with h3 | ⟨w, h3⟩
    · exact congrArg (fun l => some (ends l)) h3.symm
    · exact congrArg some (h3 ▸ (setLastWeight_ends st0.edges w).symm)
  | start name attrs =>
    obtain ⟨st', rfl, h1, h2, h3⟩ := elem_content (.inl h)
    exact .inr ⟨nofun, st', rfl, h1, h2, h3⟩
  | empty name attrs =>
    obtain ⟨st', rfl, h1, h2, h3⟩ := elem_content (.inr h)
    refine .inr ⟨nofun, st', rfl, h1, h2, ?_⟩
    cases attrs <;> exact h3

private theorem untilEof_cons (ev : Event) (rest : List Event) (h : ev ≠ .eof) :
    untilEof (ev :: rest) = ev :: untilEof rest := by
  cases ev <;> first | rfl | exact absurd rfl h

private theorem content_gen (evs : List Event) (st0 st : RState) (h : readLoop st0 evs = .ok st) :
    (untilEof evs).foldl fN (some (names st0.nodes)) = some (names st.nodes) ∧
    (untilEof evs).foldl fE (some (ends st0.edges)) = some (ends st.edges) ∧
    st.directed = (untilEof evs).foldl fD st0.directed := by
  induction evs generalizing st0 with
  | nil => cases h; exact ⟨rfl, rfl, rfl⟩
  | cons ev rest ih =>
    simp only [readLoop] at h
    cases hs : readStep st0 ev with
    | error e => rw [hs] at h; cases h
    | ok o =>
      rw [hs] at h
      rcases readStep_ok st0 ev o hs with ⟨rfl, rfl⟩ | ⟨hne, st', rfl, h1, h2, h3⟩
      · cases h; exact ⟨rfl, rfl, rfl⟩
      · rw [untilEof_cons _ _ hne]
        simp only [List.foldl_cons, h1, h2, ← h3]
        exact ih st' h

/-- **totality**: for every event list and every specs the outcome is a graph or an error -/
theorem C19_total (sp : Specs) (evs : List Event) : (readEvents sp evs).isPanic = false := by
  unfold readEvents
  split
  · rfl
  · exact Store.newFrom_not_panic _ _ _

/-- an `Ok` answer is `new_from_nodes_and_edges` of what the loop collected, under the supplied specs with the
    declared directedness -/
theorem C19_ok_is_newFrom (sp : Specs) (evs : List Event) (s : Store) (h : readEvents sp evs = .ok s) :
    ∃ st, readLoop {} evs = .ok st ∧ Store.newFrom { sp with directed := st.directed } st.nodes st.edges = .ok s := by
  unfold readEvents at h
  split at h
  · cases h
  · next st hst => exact ⟨st, hst, h⟩

/-- **content**: what the loop collects is exactly what the document declares - every node element and every edge
    element, in document order, nothing skipped, nothing invented - and the last <graph> declaration decides directedness -/
theorem C19_content (evs : List Event) (st : RState) (h : readLoop {} evs = .ok st) :
    docNodes (untilEof evs) = some (st.nodes.map (·.name)) ∧
    docEdges (untilEof evs) = some (st.edges.map fun e => (e.u, e.v)) ∧
    st.directed = docDirected (untilEof evs) := by
  rw [docNodes_eq, docEdges_eq, docDirected_eq]
  exact content_gen evs {} st h

/-- a document whose node or edge elements are malformed (`docNodes` / `docEdges` undefined) is an error, never silently
    accepted -/
theorem C19_malformed_is_error (evs : List Event) (h : docNodes (untilEof evs) = none ∨ docEdges (untilEof evs) = none) :
    ∃ k, readLoop {} evs = .error k := by
  cases hr : readLoop {} evs with
  | error k => exact ⟨k, rfl⟩
  | ok st =>
    obtain ⟨h1, h2, _⟩ := C19_content evs st hr
    rcases h with h | h
    · rw [h] at h1; cases h1
    · rw [h] at h2; cases h2

/-- non-vacuity: an element directly after a weight <data> start tag is not skipped (the reader of the crate skipped it before its `fix:` commit) -/
example :
    (match readLoop {} [.start sGraph (some [(sEdgeDefault, sUndirected)]), .start sEdge (some [(sSource, 100), (sTarget, 101)]),
        .start sData (some [(sKey, sWeight)]), .empty sNode (some [(sId, 102)]), .text (some (some 5)), .endTag sData, .endTag sEdge, .eof] with
     | .ok st => st.nodes.map (·.name) = [102] ∧ st.edges.map (·.w) = [none] ∧ st.directed = false
     | .error _ => False) := by
  refine (?_ : (match (Except.ok ⟨false, [⟨102, none⟩], [⟨100, 101, none, none⟩], sEdge, sWeight, false⟩ : Except ErrKind RState) with
     | .ok st => st.nodes.map (·.name) = [102] ∧ st.edges.map (·.w) = [none] ∧ st.directed = false
     | .error _ => False))
  decide

end Graphrs
