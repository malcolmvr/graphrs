/-
  C16 — generators produce the graph family they name.
  * complete_graph: the pair enumerations are exactly the unordered / ordered pairs of distinct nodes, each once;
  * karate_club_graph: the adjacency table extracted from the *current* source (Generated/Karate.lean, regenerated
    on every run) is 34 x 34, symmetric, zero on the diagonal and has 156 ones, i.e. 78 undirected edges;
  * fast_gnp_random_graph: for EVERY sequence of geometric skips the model emits only pairs of distinct nodes in
    range, in strictly increasing slot order - hence no self-loop and no repeated pair (the deterministic content of
    the skipping scheme; the distribution itself is probability theory + library code, see DESIGN.md); and for fewer
    than 2^31 nodes the emitted slots are exactly those of a slot process on the skips (`gnpUndirected_landRun`,
    `gnpDirected_landRun`: the plain process on the lower triangle, the process with diagonal redirect on the n×n table),
    on which Props/C16Store (which outputs can occur) and Props/C16Dist, C16DistDir (with which probability) build.
-/
import GraphrsModel.ObsGen
import GraphrsModel.Lemmas.Rebuild
import GraphrsModel.Lemmas.SkipProcess
namespace Graphrs

theorem C16_combos2_mem (n i j : Nat) : (i, j) ∈ combos2 n ↔ i < j ∧ j < n := by
  simp only [combos2, List.mem_flatMap, List.mem_map, List.mem_filter, List.mem_range, Prod.mk.injEq,
    decide_eq_true_eq]
  constructor
  · rintro ⟨a, ha, b, ⟨hb, hab⟩, rfl, rfl⟩; omega
  · rintro ⟨h1, h2⟩; exact ⟨i, by omega, j, ⟨h2, h1⟩, rfl, rfl⟩

private theorem nodup_pairs (n : Nat) (p : Nat → Nat → Bool) :
    ((List.range n).flatMap fun i => ((List.range n).filter (p i)).map fun j => (i, j)).Nodup := by
  unfold List.Nodup
  rw [List.pairwise_flatMap]
  refine ⟨fun i _ => ?_, ?_⟩
  · rw [List.pairwise_map]
    exact List.Pairwise.imp (fun h => by simpa using h) (List.Pairwise.filter _ List.nodup_range)
  · refine List.Pairwise.imp ?_ (List.nodup_range (n := n))
    intro a b hab x hx y hy
    simp only [List.mem_map] at hx hy
    obtain ⟨_, _, rfl⟩ := hx
    obtain ⟨_, _, rfl⟩ := hy
    intro h; exact hab (by simpa using congrArg Prod.fst h)

theorem C16_combos2_nodup (n : Nat) : (combos2 n).Nodup := nodup_pairs n (fun i j => decide (j > i))

theorem C16_perms2_mem (n i j : Nat) : (i, j) ∈ perms2 n ↔ i < n ∧ j < n ∧ i ≠ j := by
  simp only [perms2, List.mem_flatMap, List.mem_map, List.mem_filter, List.mem_range, Prod.mk.injEq,
    bne_iff_ne, ne_eq]
  constructor
  · rintro ⟨a, ha, b, ⟨hb, hab⟩, rfl, rfl⟩; exact ⟨ha, hb, fun h => hab h.symm⟩
  · rintro ⟨h1, h2, h3⟩; exact ⟨i, h1, j, ⟨h2, fun h => h3 h.symm⟩, rfl, rfl⟩

theorem C16_perms2_nodup (n : Nat) : (perms2 n).Nodup := nodup_pairs n (fun i j => j != i)

theorem sameKey_eq_false {dir : Bool} {e : Edge} {u v : Nat} (h1 : ¬ (e.u = u ∧ e.v = v))
    (h2 : dir = false → ¬ (e.u = v ∧ e.v = u)) : Abs.sameKey dir e u v = false := by
  rw [Bool.eq_false_iff]
  intro h
  simp only [Abs.sameKey, Bool.or_eq_true, Bool.and_eq_true, beq_iff_eq, Bool.not_eq_true'] at h
  rcases h with h | ⟨⟨hd, ha⟩, hb⟩
  · exact h1 h
  · exact h2 hd ⟨ha, hb⟩

theorem sameKey_canon (dir : Bool) (e : Edge) (u v : Nat) :
    Abs.sameKey dir (Abs.canon dir e) u v = Abs.sameKey dir e u v := by
  cases dir
  · unfold Abs.canon Edge.ordered
    rw [if_neg Bool.false_ne_true]
    split
    · simp only [Abs.sameKey, Edge.reversed, Bool.not_false, Bool.true_and]
      rw [Bool.or_comm, Bool.and_comm (e.v == v), Bool.and_comm (e.v == u)]
    · rfl
  · rfl

theorem canon_eq_self (dir : Bool) (e : Edge) (h : dir = false → e.u ≤ e.v) : Abs.canon dir e = e := by
  cases dir
  · exact if_neg (Nat.not_lt.mpr (h rfl))
  · rfl

theorem addEdge_canon (sp : Specs) (ns : List Node) (acc : List Edge) (e : Edge)
    (hu : e.u ∈ ns.map (·.name)) (hv : e.v ∈ ns.map (·.name)) (hsl : e.u ≠ e.v)
    (hdup : ∀ e' ∈ acc, Abs.sameKey sp.directed e' e.u e.v = false) :
    Abs.addEdge sp ⟨ns, acc⟩ e = (⟨ns, acc ++ [Abs.canon sp.directed e]⟩, none) := by
  have h1 : Abs.hasNode ⟨ns, acc⟩ e.u = true := (Abs.hasNode_iff _ _).mpr hu
  have h2 : Abs.hasNode ⟨ns, acc⟩ e.v = true := (Abs.hasNode_iff _ _).mpr hv
  have h3 : (e.u == e.v) = false := beq_false_of_ne hsl
  have h4 : (acc.any fun e' => Abs.sameKey sp.directed e' e.u e.v) = false := List.any_eq_false.mpr
    fun x hx => by rw [hdup x hx]; exact Bool.false_ne_true
  unfold Abs.addEdge
  simp only [h1, h2, h3, h4, Bool.and_false, Bool.not_true, Bool.or_self, Bool.not_false, Bool.or_true,
    Bool.false_eq_true, if_false, if_true]

theorem addEdges_canon (sp : Specs) (ns : List Node) (es acc : List Edge)
    (hn : ∀ e ∈ es, e.u ∈ ns.map (·.name) ∧ e.v ∈ ns.map (·.name) ∧ e.u ≠ e.v)
    (hacc : ∀ e' ∈ acc, ∀ e ∈ es, Abs.sameKey sp.directed e' e.u e.v = false)
    (hpw : es.Pairwise fun e' e => Abs.sameKey sp.directed e' e.u e.v = false) :
    Abs.addEdges sp ⟨ns, acc⟩ es = (⟨ns, acc ++ es.map (Abs.canon sp.directed)⟩, none) := by
  induction es generalizing acc with
  | nil => simp [Abs.addEdges]
  | cons e es ih =>
    obtain ⟨hfst, hpw⟩ := List.pairwise_cons.mp hpw
    obtain ⟨hu, hv, hsl⟩ := hn e List.mem_cons_self
    rw [Abs.addEdges, addEdge_canon sp ns acc e hu hv hsl fun e' he' => hacc e' he' e List.mem_cons_self]
    simp only
    rw [ih (acc ++ [Abs.canon sp.directed e]) (fun x hx => hn x (List.mem_cons_of_mem _ hx)) ?_ hpw,
      List.map_cons, List.append_assoc, List.singleton_append]
    intro e' he' x hx
    rcases List.mem_append.mp he' with h | h
    · exact hacc e' h x (List.mem_cons_of_mem _ hx)
    · rw [List.mem_singleton.mp h, sameKey_canon]
      exact hfst x hx

theorem addEdges_pairs (sp : Specs) (m : Nat) (ps : List (Nat × Nat)) (hnd : ps.Nodup)
    (hp : ∀ p ∈ ps, p.1 < m ∧ p.2 < m ∧ p.1 ≠ p.2)
    (ho : sp.directed = false → (∀ p ∈ ps, p.1 < p.2) ∨ (∀ p ∈ ps, p.2 < p.1)) :
    Abs.addEdges sp (({} : Abs).addNodes ((List.range m).map fun i => ⟨i, none⟩)) (ps.map fun p => Edge.tuple p.1 p.2) =
      (⟨(List.range m).map fun i => ⟨i, none⟩, ps.map fun p => Abs.canon sp.directed (Edge.tuple p.1 p.2)⟩, none) := by
  have hnames : ((List.range m).map fun i => (⟨i, none⟩ : Node)).map (·.name) = List.range m := by
    rw [List.map_map]; exact List.map_id _
  rw [Abs.addNodes_empty _ (by rw [hnames]; exact List.nodup_range),
    addEdges_canon sp _ _ [] ?_ (fun _ h => nomatch h) ?_, List.map_map]
  · rfl
  · intro e he
    obtain ⟨p, hpm, rfl⟩ := List.mem_map.mp he
    rw [hnames, List.mem_range, List.mem_range]
    exact hp p hpm
  · rw [List.pairwise_map]
    refine List.Pairwise.imp_of_mem ?_ hnd
    intro p q hpm hqm hne
    refine sameKey_eq_false (fun h => hne (Prod.ext h.1 h.2)) fun hd h => ?_
    have h1 : p.1 = q.2 := h.1
    have h2 : p.2 = q.1 := h.2
    rcases ho hd with ho | ho
    · have := ho p hpm
      have := ho q hqm
      omega
    · have := ho p hpm
      have := ho q hqm
      omega

/-- the abstract machine, given the nodes 0..n-1 and the pair enumeration, stores every pair exactly as given -/
theorem C16_complete_abs (n : Nat) (directed : Bool) :
    Abs.addEdges (completeSpecs directed) (({} : Abs).addNodes ((List.range n).map fun i => (⟨i, none⟩ : Node)))
        ((if directed then perms2 n else combos2 n).map fun p => Edge.tuple p.1 p.2) =
      ({ nodes := (List.range n).map fun i => (⟨i, none⟩ : Node),
         edges := (if directed then perms2 n else combos2 n).map fun p => Edge.tuple p.1 p.2 }, none) := by
  have hmem : ∀ p ∈ (if directed then perms2 n else combos2 n),
      p.1 < n ∧ p.2 < n ∧ p.1 ≠ p.2 ∧ (directed = false → p.1 < p.2) := by
    intro p hp
    cases directed
    · have := (C16_combos2_mem n p.1 p.2).mp hp
      exact ⟨by omega, this.2, by omega, fun _ => this.1⟩
    · have := (C16_perms2_mem n p.1 p.2).mp hp
      exact ⟨this.1, this.2.1, this.2.2, fun h => nomatch h⟩
  have hnd : (if directed then perms2 n else combos2 n).Nodup := by
    cases directed
    · exact C16_combos2_nodup n
    · exact C16_perms2_nodup n
  rw [addEdges_pairs (completeSpecs directed) n _ hnd (fun p hp => ⟨(hmem p hp).1, (hmem p hp).2.1, (hmem p hp).2.2.1⟩)
    fun hd => Or.inl fun p hp => (hmem p hp).2.2.2 hd]
  congr 2
  exact List.map_congr_left fun p hp => canon_eq_self _ _ fun hd => Nat.le_of_lt ((hmem p hp).2.2.2 hd)

/-- the Zachary table in the source, as extracted on this run -/
theorem C16_karate_table :
    karateRows.length = 34 ∧ karateRows.all (fun r => r.length == 34) = true ∧
    (List.range 34).all (fun i => (List.range 34).all fun j =>
      ((karateRows[i]?.bind (·[j]?)) == (karateRows[j]?.bind (·[i]?)))) = true ∧
    (List.range 34).all (fun i => (karateRows[i]?.bind (·[i]?)) == some 0) = true ∧
    sumNat (karateRows.map sumNat) = 156 ∧ karateNodeCount = 34 := by
  decide +kernel


/-- slot number of a pair in the undirected scheme (lower triangle, row by row) -/
def slotUnd (p : Int × Int) : Int := p.1 * (p.1 - 1) / 2 + p.2
/-- slot number of a pair in the directed scheme (row-major) -/
def slotDir (n : Int) (p : Int × Int) : Int := p.1 * n + p.2

theorem slotUnd_eq (p : Int × Int) : slotUnd p = tri p.1 + p.2 := rfl

/-! ### the directed generator as a slot process

  In the row-major `n × n` table the diagonal slots are the multiples of `n + 1`; a skip that lands on one moves on to
  the next slot, in the diagonal test after the skip or in the one inside the row loop. -/

/-- a skip that lands on a diagonal slot (a multiple of `n + 1` in the row-major `n × n` table) is bumped to the next slot -/
def redirect (n s : Int) : Int := if s % (n + 1) = 0 then s + 1 else s

theorem redirect_ge (n s : Int) : s ≤ redirect n s ∧ redirect n s ≤ s + 1 := by
  unfold redirect; split <;> omega

theorem redirect_diag (n s : Int) (h : s % (n + 1) = 0) : redirect n s = s + 1 := if_pos h

theorem redirect_nondiag (n s : Int) (h : s % (n + 1) ≠ 0) : redirect n s = s := if_neg h

theorem succ_diag_nondiag (n s : Int) (hn : 1 ≤ n) (h : s % (n + 1) = 0) : (s + 1) % (n + 1) ≠ 0 := by
  rw [Int.add_emod, h, zero_add, Int.emod_emod_of_dvd _ (dvd_refl _), Int.emod_eq_of_lt (by omega) (by omega)]
  omega

theorem diag_iff (n v w : Int) (hv : 0 ≤ v) (hvn : v ≤ n) (hw : 0 ≤ w) (hwn : w < n) :
    (v * n + w) % (n + 1) = 0 ↔ v = w := by
  rw [show v * n + w = (w - v) + v * (n + 1) by ring, Int.add_mul_emod_self_right]
  by_cases hc : v ≤ w
  · rw [Int.emod_eq_of_lt (by omega) (by omega)]; omega
  · rw [← Int.add_emod_right, Int.emod_eq_of_lt (by omega) (by omega)]; omega

/-- the diagonal test: a pair on the diagonal moves on by one, as `redirect` does with its slot -/
private theorem bump_redirect (n v w : Int) (hn : 1 ≤ n) :
    v ≠ (if v = w then w + 1 else w) ∧ w ≤ (if v = w then w + 1 else w) ∧
    redirect n (v * n + (if v = w then w + 1 else w)) = redirect n (v * n + w) := by
  by_cases hd : v = w
  · subst hd
    have hdiag : (v * n + v) % (n + 1) = 0 := by
      rw [show v * n + v = v * (n + 1) by ring]; exact Int.mul_emod_left _ _
    rw [if_pos rfl, redirect_diag n _ hdiag, ← Int.add_assoc, redirect_nondiag n _ (succ_diag_nondiag n _ hn hdiag)]
    exact ⟨(Int.lt_succ v).ne, Int.le_add_one (Int.le_refl v), rfl⟩
  · rw [if_neg hd]
    exact ⟨hd, Int.le_refl _, rfl⟩

/-- the row loop ends off the diagonal; it lands on the redirected slot, or runs off the table if that slot is past the
    end -/
private theorem dirRow_redirect (n : Int) (hn : 1 ≤ n) : ∀ (fuel : Nat) (v w : Int) (r : Int × Int),
    gnpDirRow n fuel v w = r → 0 ≤ v → v ≤ n → 0 ≤ w → (v < n → w < n → v ≠ w) → n - v < fuel →
    (0 ≤ r.1 ∧ 0 ≤ r.2 ∧ (r.1 < n → r.2 < n ∧ r.1 ≠ r.2)) ∧
    (n * n ≤ redirect n (v * n + w) → ¬ r.1 < n) ∧
    (redirect n (v * n + w) < n * n →
      r.1 < n ∧ (0 ≤ r.1 ∧ -1 ≤ r.2 ∧ r.2 < n) ∧ slotDir n r = redirect n (v * n + w)) := by
  intro fuel
  induction fuel with
  | zero => intro v w r _ _ hvn _ _ hf; omega
  | succ fuel ih =>
    intro v w r hr hv hvn hw hne hf
    rw [dirRow_succ] at hr
    by_cases hc : v < n ∧ n ≤ w
    · -- one row down: the same slot, or the one after it if that is the diagonal slot of the new row
      rw [if_pos hc] at hr
      obtain ⟨hne', hle, hred⟩ := bump_redirect n (v + 1) (w - n) hn
      have := ih (v + 1) _ r hr (Int.le_add_one hv) hc.1 ((Int.sub_nonneg_of_le hc.2).trans hle) (fun _ _ => hne')
        (by omega)
      rwa [hred, show (v + 1) * n + (w - n) = v * n + w by rw [Int.add_mul, Int.one_mul]; omega] at this
    · rw [if_neg hc] at hr
      subst hr
      by_cases hvn' : v < n
      · have hwn : w < n := Int.not_le.mp fun h => hc ⟨hvn', h⟩
        rw [redirect_nondiag n _ fun hz => hne hvn' hwn ((diag_iff n v w hv hvn hw hwn).mp hz)]
        have hlt := slotDir_lt_sq hv hvn' hwn
        exact ⟨⟨hv, hw, fun _ => ⟨hwn, hne hvn' hwn⟩⟩, fun h _ => Int.not_le.2 hlt h,
          fun _ => ⟨hvn', ⟨hv, Int.le_trans (by decide) hw, hwn⟩, rfl⟩⟩
      · obtain rfl : v = n := Int.le_antisymm hvn (Int.not_lt.1 hvn')
        exact ⟨⟨hv, hw, fun h => absurd h hvn'⟩, fun _ => hvn', fun h =>
          absurd h (Int.not_lt.2 ((Int.le_add_of_nonneg_right hw).trans (redirect_ge v _).1))⟩

/-! ### G(n,p): what is emitted, for every table size

  Both generators are `skipLoop`.  Undirected: a state `(v, w)` is in normal form when `w < v`; a round from such a
  state ends in normal form on the slot skipped to (`und_next`).  Directed: a round ends off the diagonal on the
  redirected slot of the position skipped to (`dirRow_redirect`).  Saturation: for `n ≤ i64Max + 1` (undirected) /
  `n ≤ i64Max` (directed) the addition `w + 1` never saturates because `w < n`; for larger `n` the counter `w ≤ i64Max`
  can never carry `v` up to `n`, so the generator never returns `some _` and the statements hold vacuously. -/

/-- **undirected G(n,p), every skip sequence**: every emitted pair (v, w) has 0 ≤ w < v < n, and pairs come in
    strictly increasing slot order -/
theorem C16_gnp_undirected_structure (n : Int) (skips : List Int) (es : List (Int × Int))
    (hs : ∀ k ∈ skips, 0 ≤ k)
    (h : gnpUndirected n (skips.length + 1) skips 1 (-1) [] = some es) :
    (∀ p ∈ es, 0 ≤ p.2 ∧ p.2 < p.1 ∧ p.1 < n) ∧ es.Pairwise (fun a b => slotUnd a < slotUnd b) := by
  rw [gnpUndirected_eq] at h
  by_cases hn : n ≤ i64Max + 1
  · have key := skipLoop_sorted (Inv := fun v w => 1 ≤ v ∧ -1 ≤ w ∧ (v < n → w < v))
      (Valid := fun p => 0 ≤ p.2 ∧ p.2 < p.1 ∧ p.1 < n) (slot := slotUnd) ?_ _ skips 1 (-1) [] es hs
      ⟨Int.le_refl 1, Int.le_refl (-1), fun _ => by decide⟩ h
    · obtain ⟨new, rfl, hnew, hpw⟩ := key
      exact ⟨fun p hp => (hnew p hp).1, hpw⟩
    · intro v w sk v' w' ⟨hv, hw, hwv⟩ hvn hsk hr
      obtain ⟨h1, -, h3, h4, h5⟩ := und_next hn hv hvn hw (hwv hvn) hsk hr
      have hlt := lt_skipTo w sk (by omega) hsk
      refine ⟨⟨h1, Int.le_trans (by decide) h3, h4⟩, fun hv' => ⟨?_, h3, h4 hv', hv'⟩⟩
      show tri v + w < tri v' + w'
      rw [h5]
      exact Int.add_lt_add_left hlt _
  · rw [skipLoop_none (Inv := fun v _ => 1 ≤ v ∧ v ≤ i64Max + 1) ?_
      (fun v _ hv => Int.lt_of_le_of_lt hv.2 (Int.not_le.mp hn)) _ skips 1 (-1) [] ⟨Int.le_refl 1, by decide⟩] at h
    · cases h
    · intro v w sk ⟨hv, hvM⟩
      generalize hr : undNext n v w sk = r
      obtain ⟨v', w'⟩ := r
      obtain ⟨h1, -, -, -, h5, -⟩ := undRow_spec n _ v _ v' w' hr hv
      exact ⟨Int.le_trans hv h1, h5.elim (fun e => e ▸ hvM)
        fun h => Int.le_trans h (Int.add_le_add_right (skipTo_le w sk) 1)⟩

/-- **directed G(n,p), every skip sequence**: every emitted pair (v, w) has 0 ≤ v < n, 0 ≤ w < n, v ≠ w, and pairs
    come in strictly increasing slot order -/
theorem C16_gnp_directed_structure (n : Int) (skips : List Int) (es : List (Int × Int))
    (hs : ∀ k ∈ skips, 0 ≤ k)
    (h : gnpDirected n (skips.length + 1) skips 0 (-1) [] = some es) :
    (∀ p ∈ es, 0 ≤ p.1 ∧ p.1 < n ∧ 0 ≤ p.2 ∧ p.2 < n ∧ p.1 ≠ p.2) ∧ es.Pairwise (fun a b => slotDir n a < slotDir n b) := by
  rw [gnpDirected_eq] at h
  by_cases hn : n ≤ i64Max
  · have key := skipLoop_sorted (Inv := fun v w => 0 ≤ v ∧ -1 ≤ w ∧ (v < n → w < n))
      (Valid := fun p => 0 ≤ p.1 ∧ p.1 < n ∧ 0 ≤ p.2 ∧ p.2 < n ∧ p.1 ≠ p.2) (slot := slotDir n) ?_ _ skips 0 (-1) [] es hs
      ⟨Int.le_refl 0, Int.le_refl (-1), fun h => Int.lt_trans (by decide) h⟩ h
    · obtain ⟨new, rfl, hnew, hpw⟩ := key
      exact ⟨fun p hp => (hnew p hp).1, hpw⟩
    · intro v w sk v' w' ⟨hv, hw, hwn⟩ hvn hsk hr
      have hvM := Int.lt_of_lt_of_le hvn hn
      have hlt := lt_skipTo w sk (Int.lt_of_lt_of_le (hwn hvn) hn) hsk
      obtain ⟨hb1, hb2⟩ := bump_spec (w := skipTo w sk) hvM
      obtain ⟨⟨h0, h0', hin⟩, hover, hland⟩ := dirRow_redirect n (Int.lt_of_le_of_lt hv hvn) _ v _ _ hr hv hvn.le
        (Int.le_trans (Int.add_le_add_right hw 1) (Int.le_trans hlt hb1)) (fun _ _ => hb2) (by omega)
      refine ⟨⟨h0, Int.le_trans (by decide) h0', fun hv' => (hin hv').1⟩, fun hv' => ⟨?_, h0, hv', h0', hin hv'⟩⟩
      -- inside the table the slot reached is the redirected slot of the position skipped to
      rw [(hland (Int.not_le.mp fun h => hover h hv')).2.2]
      exact Int.lt_of_lt_of_le (Int.add_lt_add_left (Int.lt_of_lt_of_le hlt hb1) _) (redirect_ge n _).1
  · rw [skipLoop_none (Inv := fun v _ => v = 0) ?_
      (fun v _ hv => hv ▸ Int.lt_trans (by decide) (Int.not_le.mp hn)) _ skips 0 (-1) [] rfl] at h
    · cases h
    · intro v w sk hv
      rw [dirNext, dirRow_of_lt n _ _ _
        (Int.lt_of_le_of_lt (bump_le (skipTo_le w sk)) (Int.not_le.mp hn))]
      exact hv

/-- **the undirected generator is the plain slot process** (`landRun id`) over the `tri n` slots of the lower triangle: a
    round from a state in normal form lands on the slot skipped to (`und_next`), which is inside the table exactly when
    the state is (`und_inside_iff`), and below `tri n ≤ n² < 2^62` nothing saturates -/
theorem gnpUndirected_landRun (n : Int) (hn : 2 ≤ n) (hsmall : n ≤ 2147483647) (skips : List Int)
    (hs : ∀ k ∈ skips, 0 ≤ k) :
    (gnpUndirected n (skips.length + 1) skips 1 (-1) []).map (List.map slotUnd) = landRun id (tri n) skips 0 [] := by
  rw [gnpUndirected_eq]
  refine skipLoop_refines (Inv := fun v w => 1 ≤ v ∧ -1 ≤ w ∧ w < v) (slot := slotUnd) ?_
    _ skips 1 (-1) [] (Nat.lt_succ_self _) hs ⟨Int.le_refl 1, Int.le_refl _, by decide⟩ (Int.lt_of_lt_of_le (by decide) hn)
  intro v w sk ⟨hv, hw, hwv⟩ hvn hsk
  have hn0 : 0 ≤ n := Int.le_trans (by decide) hn
  have hwM := lt_i64Max_of_small (Int.lt_trans hwv hvn) hsmall
  have hB : tri n - tri v ≤ i64Max := (Int.sub_le_self _ (tri_nonneg (Int.le_trans (by decide) hv))).trans
    ((tri_le_sq n hn0).trans (sq_le_i64Max hn0 hsmall))
  generalize hr : undNext n v w sk = r
  obtain ⟨v', w'⟩ := r
  obtain ⟨h1, h2, h3, h4, h5⟩ := und_next (Int.le_trans hsmall (by decide)) hv hvn hw hwv hsk hr
  have hin := und_inside_iff h1 h2 h3 h4
  rw [h5] at hin
  show (tri n ≤ tri v + w + 1 + sk → ¬ v' < n) ∧
    (tri v + w + 1 + sk < tri n → v' < n ∧ (1 ≤ v' ∧ -1 ≤ w' ∧ w' < v') ∧ tri v' + w' = tri v + w + 1 + sk)
  by_cases hP : w + 1 + sk < tri n - tri v
  · rw [skipTo_eq w sk hsk (Int.le_trans (Int.le_of_lt hP) hB), ← Int.add_assoc, ← Int.add_assoc] at hin h5
    exact ⟨fun h hv' => Int.not_lt.mpr h (hin.mp hv'),
      fun h => ⟨hin.mpr h, ⟨h1, Int.le_trans (by decide) h3, h4 (hin.mpr h)⟩, h5⟩⟩
  · have hP := Int.not_lt.mp hP
    have h6 := sub_le_iff_le_add'.mp hP
    rw [← Int.add_assoc, ← Int.add_assoc] at h6
    exact ⟨fun _ hv' => Int.not_lt.mpr (sub_le_iff_le_add'.mp (le_skipTo hwM hB hP)) (hin.mp hv'),
      fun h => absurd h (Int.not_lt.mpr h6)⟩

/-- **the directed generator is the slot process with diagonal redirect** (`landRun (redirect n)`) over the `n * n`
    row-major slots -/
theorem gnpDirected_landRun (n : Int) (hn : 2 ≤ n) (hsmall : n ≤ 2147483647) (skips : List Int)
    (hs : ∀ k ∈ skips, 0 ≤ k) :
    (gnpDirected n (skips.length + 1) skips 0 (-1) []).map (List.map (slotDir n)) =
      landRun (redirect n) (n * n) skips 0 [] := by
  have hstart : slotDir n (0, -1) + 1 = 0 := by unfold slotDir; omega
  rw [gnpDirected_eq]
  refine (skipLoop_refines (Inv := fun v w => 0 ≤ v ∧ -1 ≤ w ∧ w < n) (slot := slotDir n) ?_ _ skips 0 (-1) []
    (Nat.lt_succ_self _) hs (by omega) (by omega)).trans (by rw [hstart]; rfl)
  intro v w sk ⟨hv, hw, hwn⟩ hvn hsk
  have hn0 : 0 ≤ n := Int.le_trans (by decide) hn
  have hwM := lt_i64Max_of_small hwn hsmall
  have hB : n * n - v * n ≤ i64Max := (Int.sub_le_self _ (Int.mul_nonneg hv hn0)).trans (sq_le_i64Max hn0 hsmall)
  have h0 : 0 ≤ skipTo w sk := Int.le_trans (Int.add_le_add_right hw 1) (lt_skipTo w sk hwM hsk)
  rw [dirNext, bump_eq _ (lt_i64Max_of_small hvn hsmall)]
  show (n * n ≤ redirect n (v * n + w + 1 + sk) → _) ∧ (redirect n (v * n + w + 1 + sk) < n * n → _)
  obtain ⟨hne, hle, hred⟩ := bump_redirect n v (skipTo w sk) (by omega)
  obtain ⟨-, hover, hland⟩ :=
    dirRow_redirect n (Int.le_trans (by decide) hn) (n.toNat + 1) v _ _ rfl hv hvn.le (h0.trans hle) (fun _ _ => hne) (by omega)
  rw [hred] at hover hland
  by_cases hP : w + 1 + sk < n * n - v * n
  · have e : v * n + skipTo w sk = v * n + w + 1 + sk := by
      rw [skipTo_eq w sk hsk (Int.le_trans (Int.le_of_lt hP) hB), ← Int.add_assoc, ← Int.add_assoc]
    rw [e] at hover hland
    exact ⟨hover, hland⟩
  · have hP := Int.not_lt.1 hP
    have h1 := sub_le_iff_le_add'.1 hP
    rw [← Int.add_assoc, ← Int.add_assoc] at h1
    exact ⟨fun _ => hover ((sub_le_iff_le_add'.1 (le_skipTo hwM hB hP)).trans (redirect_ge n _).1),
      fun h => absurd h (Int.not_lt.2 (h1.trans (redirect_ge n _).1))⟩

/-- hence no pair is repeated -/
theorem C16_gnp_no_repeats (n : Int) (skips : List Int) (es : List (Int × Int)) (hs : ∀ k ∈ skips, 0 ≤ k) :
    (gnpUndirected n (skips.length + 1) skips 1 (-1) [] = some es → es.Nodup) ∧
    (gnpDirected n (skips.length + 1) skips 0 (-1) [] = some es → es.Nodup) := by
  constructor
  · intro h
    exact ((C16_gnp_undirected_structure n skips es hs h).2).imp (fun hab heq => by rw [heq] at hab; omega)
  · intro h
    exact ((C16_gnp_directed_structure n skips es hs h).2).imp (fun hab heq => by rw [heq] at hab; omega)

/-- n = 4: the skips hit slots 0, 2 and 5 of the lower triangle, then run off the end -/
example : gnpUndirected 4 5 [0, 1, 2, 100] 1 (-1) [] = some [(1, 0), (2, 1), (3, 2)] := by
  decide +kernel

end Graphrs
