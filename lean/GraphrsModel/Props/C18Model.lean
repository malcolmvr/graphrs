/-
  C18, model level — the executable eigenvector model IS the power iteration the C18 theorems are about.

  Model/Centrality.lean writes the step `x ↦ normalise(x + Aᵀx)`, the stopping test and the loop of
  src/algorithms/centrality/eigenvector.rs ONCE, generically over a record of scalar operations (`Scalar α`).
  The driver runs the instance at `Float` (`floatScalar`).  This file instantiates THE SAME definitions at `ℝ`
  (`realScalar`) and proves that, on every well-formed single-edge store and for every vector given as an association
  list over the node names, the generic step is `Eigen.step M` of Props/C18.lean, with `M = I + Aᵀ` read off the abstract
  graph `s.abs` - so the real-analysis theorems of Props/C18.lean are theorems about the model's own code, not about
  an independently written function.
-/
import GraphrsModel.Props.C18
import GraphrsModel.Props.C02
import GraphrsModel.Props.Core
import GraphrsModel.Model.Centrality
namespace Graphrs
open C02 Finset BigOperators

/-- Exact real arithmetic.  `ofW none` is the value the code uses for a NaN weight: the model (like the Rust code)
    replaces a NaN weight by `1.0` before use (`eigWeightG`), so `ofW none` is never consulted by the step; it is set to
    that replacement value. -/
noncomputable def realScalar : Scalar ℝ where
  zero := 0
  one := 1
  add := (· + ·)
  sub := (· - ·)
  mul := (· * ·)
  div := (· / ·)
  sqrt := Real.sqrt
  abs := fun a => |a|
  lt := fun a b => decide (a < b)
  isZero := fun a => decide (a = 0)
  ofNat := fun n => (n : ℝ)
  ofW := fun w => match w with | none => 1 | some x => (x : ℝ)

/-- the weight the iteration uses for a stored edge (1 when unweighted or NaN) -/
noncomputable def usedWeight (weighted : Bool) (e : Edge) : ℝ := eigWeightG realScalar weighted e

/-- `A x y`: the sum of the used weights of the stored edges from `x` to `y` (either stored orientation when
    undirected; a self-loop is one stored edge and contributes once) -/
noncomputable def arcWeight (s : Store) (weighted : Bool) (x y : Nat) : ℝ :=
  ((s.abs.between s.specs.directed x y).map (usedWeight weighted)).sum

def nameAt (s : Store) (i : Fin s.nodesVec.length) : Nat := (s.nodesVec[i.1]).name

/-- `M = I + Aᵀ` by node position: `M i j = δ i j + A (name j) (name i)`, defined from `s.abs` -/
noncomputable def eigM (s : Store) (weighted : Bool) : Fin s.nodesVec.length → Fin s.nodesVec.length → ℝ :=
  fun i j => (if i = j then 1 else 0) + arcWeight s weighted (nameAt s j) (nameAt s i)

noncomputable def vecOf (s : Store) (x : List (Nat × ℝ)) : Fin s.nodesVec.length → ℝ :=
  fun i => (alookup x (nameAt s i)).getD 0

theorem succOrNbrs_ok (s : Store) (h : s.wf = true) (x : Nat) (hx : s.hasNode x = true) :
    ∃ l, s.getSuccessorsOrNeighbors x = .ok l ∧ (∀ y, y ∈ l.map (·.name) ↔ s.hasEdge x y = true) ∧
      (l.map (·.name)).Nodup := by
  unfold Store.getSuccessorsOrNeighbors
  cases hd : s.specs.directed
  · obtain ⟨l, hl, hmem, hnd⟩ := C02_neighborNodes s h x hx
    refine ⟨l, by simp [hl, Outcome.unwrap], ?_, hnd⟩
    intro y
    rw [hmem y]
    unfold Abs.nbrs
    rw [mem_dedup, List.mem_append, mem_abs_succ, mem_abs_pred]
    simp [hd]
  · obtain ⟨l, hl, hmem, hnd⟩ := C02_successorNodes s h hd x hx
    refine ⟨l, by simp [hl, Outcome.unwrap], ?_, hnd⟩
    intro y
    rw [hmem y]
    have := mem_abs_succ s x y
    rw [hd] at this
    exact this

theorem arcWeight_of_noEdge (s : Store) (h : s.wf = true) (hm : s.specs.multi = false) (weighted : Bool) (x y : Nat)
    (hxy : s.hasEdge x y = false) : arcWeight s weighted x y = 0 := by
  rcases getEdge_between s h hm x y with ⟨h1, _⟩ | ⟨_, h2⟩
  · rw [hxy] at h1; cases h1
  · unfold arcWeight
    rw [h2]
    rfl

theorem arcWeight_of_edge (s : Store) (h : s.wf = true) (hm : s.specs.multi = false) (weighted : Bool) (x y : Nat)
    (hxy : s.hasEdge x y = true) :
    ∃ e, s.getEdge x y = .ok e ∧ arcWeight s weighted x y = usedWeight weighted e := by
  rcases getEdge_between s h hm x y with ⟨_, e, h1, h2⟩ | ⟨h1, _⟩
  · exact ⟨e, h1, by unfold arcWeight; rw [h2]; exact List.sum_singleton⟩
  · rw [hxy] at h1; cases h1

noncomputable def valOf (x : List (Nat × ℝ)) (k : Nat) : ℝ := (alookup x k).getD 0

noncomputable abbrev eigInner (s : Store) (weighted : Bool) (kv : Nat × ℝ) := s.eigInnerG realScalar weighted kv
noncomputable abbrev eigOuter (s : Store) (weighted : Bool) := s.eigOuterG realScalar weighted

/-- the inner loop body over any scalar, when `get_edge` finds the edge and the key is bound (its two `unwrap`s) -/
theorem eigInnerG_ok {α} (S : Scalar α) (s : Store) (weighted : Bool) (kv : Nat × α) (x : List (Nat × α)) (nbr : Node)
    (e : Edge) (old : α) (he : s.getEdge kv.1 nbr.name = .ok e) (ho : alookup x nbr.name = some old) :
    s.eigInnerG S weighted kv (.ok x) nbr =
      .ok (ainsert x nbr.name (S.add old (S.mul kv.2 (eigWeightG S weighted e)))) := by
  simp only [Store.eigInnerG, bind, Outcome.bind, he, Outcome.unwrap, ho]

theorem eigOuterG_ok {α} (S : Scalar α) (s : Store) (weighted : Bool) (kv : Nat × α) (x : List (Nat × α)) (l : List Node)
    (hl : s.getSuccessorsOrNeighbors kv.1 = .ok l) :
    s.eigOuterG S weighted (.ok x) kv = l.foldl (s.eigInnerG S weighted kv) (.ok x) := by
  simp only [Store.eigOuterG, bind, Outcome.bind, hl]

theorem keys_eigNormaliseG {α} (S : Scalar α) (x : List (Nat × α)) : (eigNormaliseG S x).map (·.1) = x.map (·.1) := by
  unfold eigNormaliseG
  rw [List.map_map]
  rfl

theorem valOf_ainsert (x : List (Nat × ℝ)) (k k' : Nat) (v : ℝ) :
    valOf (ainsert x k v) k' = if k = k' then v else valOf x k' := by
  unfold valOf
  rw [AL.lookup_insert]
  split <;> rfl

/-- A fold of steps each of which keeps the keys `K` and adds `d b k` to the value under every key `k` adds the sums:
    the shape of both `for` loops. -/
theorem foldl_adds {β} (K : List Nat) (step : Outcome (List (Nat × ℝ)) → β → Outcome (List (Nat × ℝ))) (d : β → Nat → ℝ)
    (l : List β) :
    (∀ b ∈ l, ∀ x, x.map (·.1) = K →
      ∃ x', step (.ok x) b = .ok x' ∧ x'.map (·.1) = K ∧ ∀ k, valOf x' k = valOf x k + d b k) →
    ∀ x, x.map (·.1) = K →
      ∃ x', l.foldl step (.ok x) = .ok x' ∧ x'.map (·.1) = K ∧ ∀ k, valOf x' k = valOf x k + (l.map (d · k)).sum := by
  induction l with
  | nil => intro _ x hx; exact ⟨x, rfl, hx, fun k => (add_zero _).symm⟩
  | cons b rest ih =>
    intro hstep x hx
    obtain ⟨x1, h1, hk1, hv1⟩ := hstep b List.mem_cons_self x hx
    obtain ⟨x', h2, hk2, hv2⟩ := ih (fun b' hb' => hstep b' (List.mem_cons_of_mem _ hb')) x1 hk1
    refine ⟨x', ?_, hk2, fun k => ?_⟩
    · rw [List.foldl_cons, h1, h2]
    · rw [hv2 k, hv1 k, List.map_cons, List.sum_cons, add_assoc]

/-- the inner loop body on a neighbour joined by the edge `e`: `x[nbr] += xlast[n] * w` -/
theorem eigInner_adds (s : Store) (weighted : Bool) (kv : Nat × ℝ) (nbr : Node) (e : Edge)
    (he : s.getEdge kv.1 nbr.name = .ok e) (x : List (Nat × ℝ)) (hk : nbr.name ∈ x.map (·.1)) :
    ∃ x', eigInner s weighted kv (.ok x) nbr = .ok x' ∧ x'.map (·.1) = x.map (·.1) ∧
      ∀ k, valOf x' k = valOf x k + if nbr.name = k then kv.2 * usedWeight weighted e else 0 := by
  obtain ⟨old, hold⟩ := Option.isSome_iff_exists.1 ((AL.lookup_isSome_iff x nbr.name).2 hk)
  refine ⟨_, eigInnerG_ok realScalar s weighted kv x nbr e old he hold, by rw [AL.keys_insert, if_pos hk], fun k => ?_⟩
  rw [valOf_ainsert]
  split
  · next hkk => rw [← hkk, show valOf x nbr.name = old from congrArg (·.getD 0) hold]; rfl
  · exact (add_zero _).symm

theorem eigOuter_ok (s : Store) (h : s.wf = true) (hm : s.specs.multi = false) (weighted : Bool) (kv : Nat × ℝ)
    (hkv : s.hasNode kv.1 = true) (x : List (Nat × ℝ)) (hx : x.map (·.1) = s.names) :
    ∃ x', eigOuter s weighted (.ok x) kv = .ok x' ∧ x'.map (·.1) = s.names ∧
      ∀ k, valOf x' k = valOf x k + kv.2 * arcWeight s weighted kv.1 k := by
  have he := edgesP_of s (s.wf_parts h).2.1
  obtain ⟨l, hl, hmem, hnd⟩ := succOrNbrs_ok s h kv.1 hkv
  obtain ⟨x', hx', hk', hv'⟩ := foldl_adds s.names (eigInner s weighted kv)
    (fun nbr k => if nbr.name = k then kv.2 * arcWeight s weighted kv.1 k else 0) l
    (fun nbr hnbr y hy => by
      have hE := (hmem nbr.name).1 (List.mem_map_of_mem hnbr)
      obtain ⟨e, h1, h2⟩ := arcWeight_of_edge s h hm weighted kv.1 nbr.name hE
      obtain ⟨y', g1, g2, g3⟩ := eigInner_adds s weighted kv nbr e h1 y (hy ▸ (hasEdge_names he hE).2)
      refine ⟨y', g1, g2.trans hy, fun k => (g3 k).trans ?_⟩
      split
      · next hkk => rw [← hkk, h2]
      · rfl) x hx
  refine ⟨x', (eigOuterG_ok realScalar s weighted kv x l hl).trans hx', hk', fun k => ?_⟩
  -- the neighbours are listed once each, and `k` is among them exactly when there is an edge to `k`
  have hnames : (l.map fun nbr : Node => if nbr.name = k then kv.2 * arcWeight s weighted kv.1 k else 0) =
      (l.map (·.name)).map fun j => if j = k then kv.2 * arcWeight s weighted kv.1 k else 0 := by
    rw [List.map_map]; rfl
  rw [hv' k, hnames, List.sum_map_eq_nsmul_single k _ (fun j hj _ => if_neg hj), if_pos rfl]
  by_cases hek : s.hasEdge kv.1 k = true
  · rw [List.count_eq_one_of_mem hnd ((hmem k).2 hek), one_nsmul]
  · rw [List.count_eq_zero_of_not_mem fun hc => hek ((hmem k).1 hc), zero_nsmul,
      arcWeight_of_noEdge s h hm weighted kv.1 k (Bool.eq_false_iff.2 hek), mul_zero]

theorem entries_eq (s : Store) (hnd : s.names.Nodup) (x : List (Nat × ℝ)) (hx : x.map (·.1) = s.names) :
    x = (List.finRange s.nodesVec.length).map (fun j => (nameAt s j, vecOf s x j)) := by
  have hlen : x.length = s.nodesVec.length := by
    rw [← List.length_map (·.1), hx, Store.names, List.length_map]
  apply List.ext_getElem
  · rw [List.length_map, List.length_finRange, hlen]
  · intro i h1 h2
    simp only [List.getElem_map, List.getElem_finRange]
    have hi : i < s.nodesVec.length := hlen ▸ h1
    have hname : x[i].1 = (s.nodesVec[i]).name := by
      have := List.getElem_of_eq hx (by rw [List.length_map]; exact h1)
      simpa only [Store.names, List.getElem_map] using this
    have hval : alookup x x[i].1 = some x[i].2 :=
      AL.mem_lookup (m := x) (hx ▸ hnd) (List.getElem_mem h1)
    apply Prod.ext
    · exact hname
    · simp only [vecOf, nameAt, Fin.cast_mk]
      rw [← hname, hval]
      rfl

theorem sum_entries (s : Store) (hnd : s.names.Nodup) (x : List (Nat × ℝ)) (hx : x.map (·.1) = s.names)
    (f : Nat × ℝ → ℝ) : (x.map f).sum = ∑ j, f (nameAt s j, vecOf s x j) := by
  have := congrArg (fun l => (l.map f).sum) (entries_eq s hnd x hx)
  simp only [List.map_map] at this
  rw [this, Fin.sum_univ_def]
  rfl

theorem sumG_real (l : List ℝ) : sumG realScalar l = l.sum := List.sum_eq_foldl.symm

/-- **the two nested loops compute `M x`**, `M = I + Aᵀ`: no panic, no error (the `get_edge().unwrap()` and
    `x.get_mut().unwrap()` sites are unreachable), the keys are unchanged -/
theorem C18_model_acc_is_mulVec (s : Store) (h : s.wf = true) (hm : s.specs.multi = false) (weighted : Bool)
    (xlast : List (Nat × ℝ)) (hk : xlast.map (·.1) = s.names) :
    ∃ x', s.eigAccG realScalar weighted xlast = .ok x' ∧ x'.map (·.1) = s.names ∧
      vecOf s x' = Eigen.mulVec (eigM s weighted) (vecOf s xlast) := by
  have hn := nodesP_of s (s.wf_parts h).1
  obtain ⟨x', h1, h2, h3⟩ := foldl_adds s.names (eigOuter s weighted) (fun kv k => kv.2 * arcWeight s weighted kv.1 k) xlast
    (fun kv hkv x hx => eigOuter_ok s h hm weighted kv ((hasNode_mem hn kv.1).2 (hk ▸ List.mem_map_of_mem hkv)) x hx)
    xlast hk
  refine ⟨x', h1, h2, ?_⟩
  funext i
  have h4 := h3 (nameAt s i)
  rw [sum_entries s hn.namesNodup xlast hk] at h4
  show valOf x' (nameAt s i) = _
  rw [h4]
  unfold Eigen.mulVec eigM
  simp only [add_mul, Finset.sum_add_distrib, ite_mul, one_mul, zero_mul, Finset.sum_ite_eq, Finset.mem_univ, if_true]
  congr 1
  apply Finset.sum_congr rfl
  intro j _
  ring

theorem vecOf_map_snd (s : Store) (x : List (Nat × ℝ)) (g : ℝ → ℝ) (hg : g 0 = 0) (i : Fin s.nodesVec.length) :
    vecOf s (x.map fun kv => (kv.1, g kv.2)) i = g (vecOf s x i) := by
  unfold vecOf
  rw [AL.lookup_map_snd]
  cases alookup x (nameAt s i) with
  | none => exact hg.symm
  | some v => rfl

theorem eigNormalise_real (s : Store) (hnd : s.names.Nodup) (x : List (Nat × ℝ)) (hx : x.map (·.1) = s.names) :
    (eigNormaliseG realScalar x).map (·.1) = s.names ∧
    vecOf s (eigNormaliseG realScalar x) =
      fun i => vecOf s x i / (if Eigen.norm2 (vecOf s x) = 0 then 1 else Eigen.norm2 (vecOf s x)) := by
  have hsum : realScalar.sqrt (sumG realScalar (x.map fun kv => realScalar.mul kv.2 kv.2)) = Eigen.norm2 (vecOf s x) := by
    rw [sumG_real, sum_entries s hnd x hx]
    exact congrArg Real.sqrt (Finset.sum_congr rfl fun j _ => (sq (vecOf s x j)).symm)
  refine ⟨(keys_eigNormaliseG realScalar x).trans hx, funext fun i => ?_⟩
  unfold eigNormaliseG
  simp only [hsum]
  rw [vecOf_map_snd s x (fun v => realScalar.div v _) (zero_div _)]
  exact congrArg (vecOf s x i / ·) (if_congr decide_eq_true_iff rfl rfl)

/-- **the model's step, instantiated at `ℝ`, is `Eigen.step M`**: on a well-formed single-edge store, for a vector
    given as an association list over the node names (in `nodesVec` order), `eigStepG realScalar` returns `.ok x'` - no
    panic, no error - with the same keys, and by node position `x' = M x / ‖M x‖` for `M = I + Aᵀ` read off `s.abs` -/
theorem C18_model_step_is_power_step (s : Store) (h : s.wf = true) (hm : s.specs.multi = false) (weighted : Bool)
    (xlast : List (Nat × ℝ)) (hk : xlast.map (·.1) = s.names) :
    ∃ x', s.eigStepG realScalar weighted xlast = .ok x' ∧ x'.map (·.1) = s.names ∧
      vecOf s x' = Eigen.step (eigM s weighted) (vecOf s xlast) := by
  have hn := nodesP_of s (s.wf_parts h).1
  obtain ⟨x1, h1, h2, h3⟩ := C18_model_acc_is_mulVec s h hm weighted xlast hk
  obtain ⟨h4, h5⟩ := eigNormalise_real s hn.namesNodup x1 h2
  refine ⟨eigNormaliseG realScalar x1, ?_, h4, ?_⟩
  · simp [Store.eigStepG, h1, bind, Outcome.bind]
  · rw [h5, h3]
    rfl

/-- the stored weights the iteration uses are non-negative: nothing to ask when unweighted (every edge counts 1) -/
def NonnegWeights (s : Store) (weighted : Bool) : Prop :=
  weighted = true → ∀ e ∈ s.abs.edges, ∀ w : Int, e.w = some w → 0 ≤ w

theorem usedWeight_nonneg (s : Store) (weighted : Bool) (hw : NonnegWeights s weighted) (e : Edge) (he : e ∈ s.abs.edges) :
    0 ≤ usedWeight weighted e := by
  unfold usedWeight eigWeightG
  cases hwt : weighted with
  | false => exact zero_le_one
  | true =>
    cases hew : e.w with
    | none => exact zero_le_one
    | some w => exact Int.cast_nonneg (hw hwt e he w hew)

theorem arcWeight_nonneg (s : Store) (weighted : Bool) (hw : NonnegWeights s weighted) (x y : Nat) :
    0 ≤ arcWeight s weighted x y := by
  unfold arcWeight
  apply List.sum_nonneg
  intro r hr
  obtain ⟨e, he, rfl⟩ := List.mem_map.1 hr
  exact usedWeight_nonneg s weighted hw e (List.mem_of_mem_filter he)

theorem C18_model_matrix_is_iteration_matrix (s : Store) (weighted : Bool) (hw : NonnegWeights s weighted) :
    Eigen.IsIterationMatrix (eigM s weighted) := by
  constructor
  · intro i j
    have h1 : (0 : ℝ) ≤ if i = j then 1 else 0 := by
      split
      · exact zero_le_one
      · exact le_rfl
    exact add_nonneg h1 (arcWeight_nonneg s weighted hw _ _)
  · intro i
    show 1 ≤ (if i = i then (1 : ℝ) else 0) + _
    rw [if_pos rfl]
    exact le_add_of_nonneg_right (arcWeight_nonneg s weighted hw _ _)

theorem vecOf_nonneg (s : Store) (x : List (Nat × ℝ)) (hx : ∀ kv ∈ x, 0 ≤ kv.2) (i : Fin s.nodesVec.length) :
    0 ≤ vecOf s x i := by
  unfold vecOf
  cases hl : alookup x (nameAt s i) with
  | none => simp
  | some v => exact hx _ (AL.lookup_mem hl)

theorem eigDelta_real (s : Store) (hnd : s.names.Nodup) (xlast x : List (Nat × ℝ)) (hx : x.map (·.1) = s.names) :
    eigDeltaG realScalar xlast x = Eigen.norm1 (fun i => vecOf s x i - vecOf s xlast i) := by
  unfold eigDeltaG
  rw [sumG_real, sum_entries s hnd x hx]
  rfl

/-- the stopping test of the model is `‖x − xlast‖₁ < n · tol` -/
theorem eigConverged_real (s : Store) (hnd : s.names.Nodup) (tol : ℝ) (xlast x : List (Nat × ℝ))
    (hx : x.map (·.1) = s.names) :
    eigConvergedG realScalar s.nodesVec.length tol xlast x = true ↔
      Eigen.norm1 (fun i => vecOf s x i - vecOf s xlast i) < s.nodesVec.length * tol := by
  unfold eigConvergedG
  rw [eigDelta_real s hnd xlast x hx]
  show decide (_ < (s.nodesVec.length : ℝ) * tol) = true ↔ _
  rw [decide_eq_true_iff]

/-- **non-negativity**: a step of the model from a non-negative vector returns a non-negative vector -/
theorem C18_model_step_nonneg (s : Store) (h : s.wf = true) (hm : s.specs.multi = false) (weighted : Bool)
    (hw : NonnegWeights s weighted) (xlast : List (Nat × ℝ)) (hk : xlast.map (·.1) = s.names)
    (hpos : ∀ kv ∈ xlast, 0 ≤ kv.2) :
    ∃ x', s.eigStepG realScalar weighted xlast = .ok x' ∧ x'.map (·.1) = s.names ∧ ∀ kv ∈ x', 0 ≤ kv.2 := by
  have hn := nodesP_of s (s.wf_parts h).1
  obtain ⟨x', h1, h2, h3⟩ := C18_model_step_is_power_step s h hm weighted xlast hk
  refine ⟨x', h1, h2, ?_⟩
  intro kv hkv
  rw [entries_eq s hn.namesNodup x' h2] at hkv
  obtain ⟨j, _, rfl⟩ := List.mem_map.1 hkv
  show 0 ≤ vecOf s x' j
  rw [h3]
  exact Eigen.C18_step_nonneg _ (C18_model_matrix_is_iteration_matrix s weighted hw) _ (vecOf_nonneg s xlast hpos) j

/-- **unit norm**: a step of the model from a non-negative non-zero vector returns a vector of Euclidean norm 1
    (by position, and as the sum of the squares of the returned map's values) -/
theorem C18_model_step_unit_norm (s : Store) (h : s.wf = true) (hm : s.specs.multi = false) (weighted : Bool)
    (hw : NonnegWeights s weighted) (xlast : List (Nat × ℝ)) (hk : xlast.map (·.1) = s.names)
    (hpos : ∀ kv ∈ xlast, 0 ≤ kv.2) (hnz : 0 < Eigen.norm2 (vecOf s xlast)) :
    ∃ x', s.eigStepG realScalar weighted xlast = .ok x' ∧ x'.map (·.1) = s.names ∧
      Eigen.norm2 (vecOf s x') = 1 ∧ (x'.map fun kv => kv.2 ^ 2).sum = 1 := by
  have hn := nodesP_of s (s.wf_parts h).1
  obtain ⟨x', h1, h2, h3⟩ := C18_model_step_is_power_step s h hm weighted xlast hk
  have h4 : Eigen.norm2 (vecOf s x') = 1 := by
    rw [h3]
    exact Eigen.C18_step_unit_norm _ (C18_model_matrix_is_iteration_matrix s weighted hw) _ (vecOf_nonneg s xlast hpos) hnz
  refine ⟨x', h1, h2, h4, ?_⟩
  rw [sum_entries s hn.namesNodup x' h2]
  exact Real.sqrt_eq_one.1 h4

/-- **the tolerance-derived bound**: if the model's step `x'` from a non-negative non-zero `xlast` passes the
    model's own stopping test (`eigConvergedG`: `‖x' − xlast‖₁ < n·tol`), then one further step of the model moves `x'`
    by at most `2·‖M‖_F·n·tol` in the Euclidean norm -/
theorem C18_model_next_step_bound (s : Store) (h : s.wf = true) (hm : s.specs.multi = false) (weighted : Bool)
    (hw : NonnegWeights s weighted) (xlast : List (Nat × ℝ)) (hk : xlast.map (·.1) = s.names)
    (hpos : ∀ kv ∈ xlast, 0 ≤ kv.2) (hnz : 0 < Eigen.norm2 (vecOf s xlast)) (tol : ℝ)
    (x' : List (Nat × ℝ)) (hstep : s.eigStepG realScalar weighted xlast = .ok x')
    (hconv : eigConvergedG realScalar s.nodesVec.length tol xlast x' = true) :
    ∃ x'', s.eigStepG realScalar weighted x' = .ok x'' ∧ x''.map (·.1) = s.names ∧
      Eigen.norm2 (fun i => vecOf s x'' i - vecOf s x' i) ≤
        2 * Eigen.frob (eigM s weighted) * (s.nodesVec.length * tol) := by
  have hn := nodesP_of s (s.wf_parts h).1
  obtain ⟨y, h1, h2, h3⟩ := C18_model_step_is_power_step s h hm weighted xlast hk
  rw [hstep] at h1
  cases h1
  obtain ⟨x'', g1, g2, g3⟩ := C18_model_step_is_power_step s h hm weighted x' h2
  refine ⟨x'', g1, g2, ?_⟩
  have hc := (eigConverged_real s hn.namesNodup tol xlast x' h2).1 hconv
  rw [g3, h3]
  rw [h3] at hc
  exact Eigen.C18_next_step_bound _ (C18_model_matrix_is_iteration_matrix s weighted hw) _
    (vecOf_nonneg s xlast hpos) hnz tol hc

/-- what C18 states about an `Ok` answer `x`, for the model's own code: keys = the node names, entries `≥ 0`,
    Euclidean norm 1, and one further step of the model moves it by at most `2·‖M‖_F·n·tol` -/
def GoodAnswer (s : Store) (weighted : Bool) (tol : ℝ) (x : List (Nat × ℝ)) : Prop :=
  x.map (·.1) = s.names ∧ (∀ kv ∈ x, 0 ≤ kv.2) ∧ Eigen.norm2 (vecOf s x) = 1 ∧
  ∃ x'', s.eigStepG realScalar weighted x = .ok x'' ∧ x''.map (·.1) = s.names ∧
    Eigen.norm2 (fun i => vecOf s x'' i - vecOf s x i) ≤ 2 * Eigen.frob (eigM s weighted) * (s.nodesVec.length * tol)

/-- the loop of the model, at `ℝ`, never panics and never returns an error; when it stops with `some x`
    (the `Ok(x)` of the Rust code), `x` is a good answer -/
theorem C18_model_loop (s : Store) (h : s.wf = true) (hm : s.specs.multi = false) (weighted : Bool)
    (hw : NonnegWeights s weighted) (tol : ℝ) :
    ∀ (fuel it : Nat) (x0 : List (Nat × ℝ)) (margin : ℝ), x0.map (·.1) = s.names → (∀ kv ∈ x0, 0 ≤ kv.2) →
      (0 < Eigen.norm2 (vecOf s x0) ∨ s.nodesVec.length = 0) →
      ∃ r, eigLoopG realScalar s weighted s.nodesVec.length tol fuel it x0 margin = .ok r ∧
        ∀ x, r.value = some x → GoodAnswer s weighted tol x := by
  have hn := nodesP_of s (s.wf_parts h).1
  intro fuel
  induction fuel with
  | zero =>
    intro it x0 margin _ _ _
    exact ⟨⟨none, it, margin⟩, rfl, fun x hx => by simp at hx⟩
  | succ fuel ih =>
    intro it x0 margin hk hpos hnz
    obtain ⟨x1, h1, h2, h3⟩ := C18_model_step_nonneg s h hm weighted hw x0 hk hpos
    -- unless the graph is empty, the next iterate has norm 1
    have hx1 : 0 < Eigen.norm2 (vecOf s x0) → Eigen.norm2 (vecOf s x1) = 1 := fun hnz => by
      obtain ⟨y, g1, _, g3, _⟩ := C18_model_step_unit_norm s h hm weighted hw x0 hk hpos hnz
      rw [h1] at g1
      cases g1
      exact g3
    unfold eigLoopG
    simp only [h1]
    have hcdef : realScalar.lt (eigDeltaG realScalar x0 x1) (realScalar.mul (realScalar.ofNat s.nodesVec.length) tol)
        = eigConvergedG realScalar s.nodesVec.length tol x0 x1 := rfl
    rw [hcdef]
    by_cases hc : eigConvergedG realScalar s.nodesVec.length tol x0 x1 = true
    · rw [if_pos hc]
      refine ⟨_, rfl, fun x hx => ?_⟩
      cases hx
      rcases hnz with hnz | hn0
      · exact ⟨h2, h3, hx1 hnz, C18_model_next_step_bound s h hm weighted hw x0 hk hpos hnz tol x1 h1 hc⟩
      · -- on the empty graph the test `0 < 0 * tol` fails
        have := (eigConverged_real s hn.namesNodup tol x0 x1 h2).1 hc
        have hz : (s.nodesVec.length : ℝ) * tol = 0 := by rw [hn0, Nat.cast_zero, zero_mul]
        rw [hz] at this
        exact absurd this (not_lt.2 (Finset.sum_nonneg fun i _ => abs_nonneg _))
    · rw [if_neg hc]
      exact ih _ _ _ h2 h3 (hnz.imp_left fun hnz => (hx1 hnz).symm ▸ one_pos)

theorem ainsert_fresh {α} (m : List (Nat × α)) (k : Nat) (v : α) (h : k ∉ m.map (·.1)) : ainsert m k v = m ++ [(k, v)] := by
  induction m with
  | nil => rfl
  | cons p m ih =>
    rw [List.map_cons, List.mem_cons, not_or] at h
    rw [ainsert, if_neg (Ne.symm h.1), ih h.2, List.cons_append]

theorem init_vector {α} (c : α) (l : List Node) :
    ∀ acc : List (Nat × α), (acc.map (·.1) ++ l.map (·.name)).Nodup →
      l.foldl (fun m nd => ainsert m nd.name c) acc = acc ++ l.map fun nd => (nd.name, c) := by
  induction l with
  | nil => intro acc _; rw [List.map_nil, List.append_nil]; rfl
  | cons nd l ih =>
    intro acc hnd
    rw [List.map_cons, List.nodup_append] at hnd
    have hfresh : nd.name ∉ acc.map (·.1) := fun hc => hnd.2.2 _ hc _ List.mem_cons_self rfl
    rw [List.foldl_cons, ainsert_fresh acc nd.name c hfresh, ih, List.map_cons, List.append_assoc, List.singleton_append]
    rw [List.map_append, List.map_cons, List.map_nil, List.append_assoc, List.singleton_append]
    exact List.nodup_append.2 hnd

theorem start_vector {α} (s : Store) (h : s.wf = true) (c : α) :
    s.nodesVec.foldl (fun l nd => ainsert l nd.name c) [] = s.nodesVec.map fun nd => (nd.name, c) :=
  init_vector c s.nodesVec [] (s.names_nodup h)

theorem vecOf_of_const (s : Store) (x : List (Nat × ℝ)) (c : ℝ) (hk : x.map (·.1) = s.names) (hc : ∀ kv ∈ x, kv.2 = c)
    (i : Fin s.nodesVec.length) : vecOf s x i = c := by
  unfold vecOf
  cases hl : alookup x (nameAt s i) with
  | none => exact absurd (hk ▸ List.mem_map_of_mem (List.getElem_mem i.2)) ((AL.lookup_none_iff _ _).1 hl)
  | some v => exact hc _ (AL.lookup_mem hl)

theorem eigenvectorG_of_single {α} (S : Scalar α) (s : Store) (hm : s.specs.multi = false) (weighted : Bool) (maxIter : Nat)
    (tol margin0 : α) :
    s.eigenvectorG S weighted maxIter tol margin0 =
      eigLoopG S s weighted s.nodesVec.length tol maxIter 0
        (s.nodesVec.foldl (fun l nd => ainsert l nd.name (S.div S.one (S.ofNat s.nodesVec.length))) []) margin0 := by
  unfold Store.eigenvectorG Store.ensureNotMulti
  rw [hm]
  rfl

/-- **`eigenvector_centrality` of the model, at `ℝ`**: on a well-formed single-edge store with non-negative weights it
    never panics and returns no `Error` other than the non-convergence report (`value = none`); an `Ok(x)` answer
    (`value = some x`) is non-negative, has unit Euclidean norm, and is moved by at most `2·‖M‖_F·n·tol` by one more step -/
theorem C18_model_eigenvector (s : Store) (h : s.wf = true) (hm : s.specs.multi = false) (weighted : Bool)
    (hw : NonnegWeights s weighted) (maxIter : Nat) (tol margin0 : ℝ) :
    ∃ r, s.eigenvectorG realScalar weighted maxIter tol margin0 = .ok r ∧
      ∀ x, r.value = some x → GoodAnswer s weighted tol x := by
  rw [eigenvectorG_of_single realScalar s hm, start_vector s h]
  have g2 : ∀ kv ∈ s.nodesVec.map fun nd => (nd.name, realScalar.div realScalar.one (realScalar.ofNat s.nodesVec.length)),
      kv.2 = 1 / (s.nodesVec.length : ℝ) := fun kv hkv => by
    obtain ⟨nd, _, rfl⟩ := List.mem_map.1 hkv
    rfl
  refine C18_model_loop s h hm weighted hw tol maxIter 0 _ margin0 (List.map_map ..) ?_ ?_
  · intro kv hkv
    rw [g2 kv hkv]
    exact one_div_nonneg.2 (Nat.cast_nonneg _)
  · by_cases hn0 : s.nodesVec.length = 0
    · exact .inr hn0
    · have hpos : 0 < s.nodesVec.length := Nat.pos_of_ne_zero hn0
      refine .inl (Real.sqrt_pos.2 (Finset.sum_pos (fun i _ => ?_) ⟨⟨0, hpos⟩, Finset.mem_univ _⟩))
      have hc : (0 : ℝ) < 1 / s.nodesVec.length := one_div_pos.2 (Nat.cast_pos.2 hpos)
      rw [vecOf_of_const s _ _ (List.map_map ..) g2 i]
      exact pow_pos hc 2

/-- **for every single-edge GraphSpecs record and every history of mutation calls**, the model's
    `eigenvector_centrality` at `ℝ` on the resulting graph never panics, and an `Ok` answer is a good answer -/
theorem C18_model_eigenvector_reachable (sp : Specs) (hm : sp.multi = false) (ops : List Op) (weighted : Bool)
    (hw : NonnegWeights (Store.run sp ops).1 weighted) (maxIter : Nat) (tol margin0 : ℝ) :
    ∃ r, (Store.run sp ops).1.eigenvectorG realScalar weighted maxIter tol margin0 = .ok r ∧
      ∀ x, r.value = some x → GoodAnswer (Store.run sp ops).1 weighted tol x :=
  C18_model_eigenvector _ (Core_reachable_wf sp ops) (by rw [Store.run_specs]; exact hm) weighted hw maxIter tol margin0

/-- non-vacuity: an undirected weighted graph with a self-loop, names inserted out of sort order -/
example :
    let sp : Specs := ⟨false, false, true, .error, .create, .error⟩
    let s := (Store.run sp [Op.addEdge ⟨7, 3, some 2, none⟩, Op.addEdgeTuple 3 5, Op.addEdge ⟨5, 5, some 4, none⟩]).1
    ∃ r, s.eigenvectorG realScalar true 100 (1 / 1000000) 0 = .ok r ∧
      ∀ x, r.value = some x → GoodAnswer s true (1 / 1000000) x := by
  intro sp s
  apply C18_model_eigenvector_reachable sp rfl
  intro _ e he w hew
  have hedges : s.abs.edges = [⟨3, 7, some 2, none⟩, ⟨3, 5, none, none⟩, ⟨5, 5, some 4, none⟩] := by decide +kernel
  rw [hedges] at he
  simp only [List.mem_cons, List.not_mem_nil, or_false] at he
  rcases he with rfl | rfl | rfl <;> simp at hew <;> omega

/-- (definitional) the `Float` step / loop / entry point run against the implementation by the driver are the generic
    definitions at `floatScalar`: the very definitions the theorems above instantiate at `realScalar` -/
theorem C18_model_float_is_generic (s : Store) (weighted : Bool) (maxIter : Nat) (tol : Float) (x : List (Nat × Float)) :
    s.eigStep weighted x = s.eigStepG floatScalar weighted x ∧
    s.eigenvector weighted maxIter tol = s.eigenvectorG floatScalar weighted maxIter tol (1.0 / 0.0) :=
  ⟨rfl, rfl⟩

end Graphrs
