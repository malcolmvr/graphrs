/-
  C10 (model level) — `bfs_equal_size_partitions(k)`.

  The Rust function (src/algorithms/components/weak_connectivity.rs) has no `ensure_*` guard and no error channel: it
  returns a plain `Vec<Vec<T>>` on directed and undirected graphs alike, and panics (`attempt to divide by zero`) for
  k = 0.  The model `Store.bfsEqualSizePartitions` mirrors that: there is no `.err` outcome, and k = 0 is the explicit
  panic.  So the statement is not restricted to one kind of graph, and the only outcomes are `.ok parts` (k ≥ 1) and
  that panic (k = 0).

  The fuel of both model loops is proved sufficient (that is where a termination bug would hide):
  * `eqOuter` with fuel `n + 1`: a round of the outer loop places at least one index (`EqSz.eqRound`), hence
    `EqSz.eqOuter_full` ends with `count ≥ n`, i.e. by the loop condition, not by fuel — `C10_equal_size_outer_fuel`;
  * `eqInner` with fuel `queue.length + adjTotal + 2`: the loop always ends with an empty queue or by the `break`
    (`C10_equal_size_inner_fuel`; measure: queue length + out-degrees of the unvisited indexes).
-/
import GraphrsModel.Lemmas.C10EqualSize
import GraphrsModel.Props.C10
import GraphrsModel.Lemmas.C02Nbr
import GraphrsModel.Spec.Components
namespace Graphrs
open Store

/-- k = 0: the Rust code divides by `num_partitions`; the model has the explicit panic (any store) -/
theorem C10_model_equal_size_zero (s : Store) :
    s.bfsEqualSizePartitions 0 = .panic "bfs_equal_size_partitions: division by zero" := rfl

theorem C10_equal_size_run (s : Store) (h : s.wf = true) (k : Nat) (hk : 1 ≤ k) :
    ∃ st : EqState,
      eqOuter s s.numberOfNodes (s.numberOfNodes / k + 1) (s.numberOfNodes + 1)
        ⟨List.replicate k [], List.replicate s.numberOfNodes false, 0, [], 0⟩ = some st ∧
      NP.EqInv s.numberOfNodes k (s.numberOfNodes / k + 1) st.parts st.visited st.count st.part ∧
      EqSz.EqInv2 (s.numberOfNodes / k + 1) st.parts st.visited ∧
      s.numberOfNodes ≤ st.count ∧
      s.bfsEqualSizePartitions k = .ok (st.parts.map (fun p => p.map s.nameAt)) := by
  obtain ⟨hn, _, _, hvec⟩ := (Store.wf_iff _).mp h
  have hk0 : 0 < k := hk
  obtain ⟨st, hst, hi, hi2, hc⟩ := EqSz.eqOuter_full s s.numberOfNodes k (s.numberOfNodes / k + 1) (Nat.succ_pos _)
    (Nat.lt_mul_div_succ _ hk0) hn.succ_len (NP.vec_lt hvec).1 (s.numberOfNodes + 1)
    ⟨List.replicate k [], List.replicate s.numberOfNodes false, 0, [], 0⟩
    (NP.eqInv_init s.numberOfNodes k _ hk0) (EqSz.eqInv2_init _ _ _) (by simp [hk0]) (fun q hq => nomatch hq)
    (Nat.lt_succ_of_le (Nat.le_of_eq (Nat.zero_add _).symm))
  refine ⟨st, hst, hi, hi2, hc, ?_⟩
  unfold bfsEqualSizePartitions
  rw [if_neg (by simp; omega)]
  simp only
  rw [hst]
  simp only
  have := EqSz.parts_fold s hn st.parts hi.bound []
  rw [List.nil_append] at this
  exact this

/-- **C10, model level**: `bfs_equal_size_partitions(k)`, k ≥ 1, on any store satisfying the coupling invariant
    (directed or not — the function has no kind restriction and no error channel): the outcome is `.ok parts` with
    (a) exactly k parts, (b) the parts together list every node name exactly once, (c) no part has more than
    n / k + 1 members -/
theorem C10_model_equal_size (s : Store) (h : s.wf = true) (k : Nat) (hk : 1 ≤ k) :
    ∃ parts : List (List Nat), s.bfsEqualSizePartitions k = .ok parts ∧
      parts.length = k ∧
      (parts.flatten.Perm s.getAllNodeNames ∧ parts.flatten.Nodup) ∧
      ∀ p ∈ parts, p.length ≤ s.numberOfNodes / k + 1 := by
  obtain ⟨st, _, hi, hi2, hc, hres⟩ := C10_equal_size_run s h k hk
  obtain ⟨hn, _, _, _⟩ := (Store.wf_iff _).mp h
  have hperm : (st.parts.map (fun p => p.map s.nameAt)).flatten.Perm s.getAllNodeNames := by
    have h1 := (EqSz.final_perm hi hi2 hc).map s.nameAt
    rw [List.map_flatten] at h1
    have h2 : List.map s.nameAt (List.range s.numberOfNodes) = s.getAllNodeNames :=
      (Store.names_eq_map_nameAt s).symm
    rw [h2] at h1
    exact h1
  refine ⟨_, hres, ?_, ⟨hperm, ?_⟩, ?_⟩
  · rw [List.length_map]; exact hi.plen
  · exact hperm.nodup_iff.mpr hn.names_nodup
  · intro p hp
    obtain ⟨q, hq, rfl⟩ := List.mem_map.mp hp
    rw [List.length_map]
    exact hi2.sizes q hq

theorem unique_part_of_nodup_flatten {α} (parts : List (List α)) (hnd : parts.flatten.Nodup) (x : α)
    (hx : x ∈ parts.flatten) : ∃! j : Nat, ∃ p : List α, parts[j]? = some p ∧ x ∈ p := by
  obtain ⟨p, hp, hxp⟩ := List.mem_flatten.mp hx
  obtain ⟨j, hj⟩ := List.mem_iff_getElem?.mp hp
  refine ⟨j, ⟨p, hj, hxp⟩, ?_⟩
  rintro j' ⟨p', hj', hxp'⟩
  rw [List.nodup_flatten] at hnd
  have hpw := hnd.2
  rw [List.pairwise_iff_getElem] at hpw
  have hl : j < parts.length := getElem?_lt hj
  have hl' : j' < parts.length := getElem?_lt hj'
  have e : parts[j] = p := by rw [List.getElem?_eq_getElem hl] at hj; exact Option.some.inj hj
  have e' : parts[j'] = p' := by rw [List.getElem?_eq_getElem hl'] at hj'; exact Option.some.inj hj'
  rcases Nat.lt_trichotomy j' j with hlt | heq | hgt
  · exact absurd hxp (by have := hpw j' j hl' hl hlt; rw [e, e'] at this; exact fun hh => this hxp' hh)
  · exact heq
  · exact absurd hxp' (by have := hpw j j' hl hl' hgt; rw [e, e'] at this; exact fun hh => this hxp hh)

/-- clause (b) in the words of the property: every node name is in exactly one of the parts (exactly one index),
    every member of a part is a node name, and no part repeats a name -/
theorem C10_model_equal_size_exactly_one (s : Store) (h : s.wf = true) (k : Nat) (hk : 1 ≤ k) :
    ∃ parts : List (List Nat), s.bfsEqualSizePartitions k = .ok parts ∧
      (∀ x ∈ s.getAllNodeNames, ∃! j : Nat, ∃ p : List Nat, parts[j]? = some p ∧ x ∈ p) ∧
      (∀ p ∈ parts, p.Nodup ∧ ∀ x ∈ p, x ∈ s.getAllNodeNames) := by
  obtain ⟨parts, hres, _, ⟨hperm, hnd⟩, _⟩ := C10_model_equal_size s h k hk
  refine ⟨parts, hres, ?_, ?_⟩
  · intro x hx
    exact unique_part_of_nodup_flatten parts hnd x (hperm.mem_iff.mpr hx)
  · intro p hp
    refine ⟨(List.nodup_flatten.mp hnd).1 p hp, ?_⟩
    intro x hx
    exact hperm.mem_iff.mp (List.mem_flatten.mpr ⟨p, hp, hx⟩)

/-- the outer fuel `n + 1` is never what stops the loop: the run ends with `visited_count ≥ number_of_nodes`
    (the `while` condition false), for every k ≥ 1 -/
theorem C10_equal_size_outer_fuel (s : Store) (h : s.wf = true) (k : Nat) (hk : 1 ≤ k) :
    ∃ st : EqState,
      eqOuter s s.numberOfNodes (s.numberOfNodes / k + 1) (s.numberOfNodes + 1)
        ⟨List.replicate k [], List.replicate s.numberOfNodes false, 0, [], 0⟩ = some st ∧
      s.numberOfNodes ≤ st.count := by
  obtain ⟨st, hst, _, _, hc, _⟩ := C10_equal_size_run s h k hk
  exact ⟨st, hst, hc⟩

/-- the inner fuel `queue.length + adjTotal + 2` that `eqOuter` passes is never what stops the inner loop: whenever
    it returns a state, the queue is empty or the part just reached the cap (the `break`); any store, any state -/
theorem C10_equal_size_inner_fuel (s : Store) (M : Nat) (st st' : EqState)
    (h : eqInner s M (st.queue.length + s.adjTotal + 2) st = some st') :
    st'.queue = [] ∨ st'.parts[st'.part]?.map List.length = some M :=
  EqSz.eqInner_fuel_sufficient s M st st' h

theorem sortNat_eq_of_perm {a b : List Nat} (h : a.Perm b) : sortNat a = sortNat b := by
  have hp : (sortNat a).Perm (sortNat b) := ((sortNat_perm a).trans h).trans (sortNat_perm b).symm
  exact hp.eq_of_pairwise (fun x y _ _ h1 h2 => Nat.le_antisymm h1 h2) (C02.sorted_sortNat a) (C02.sorted_sortNat b)

/-- `checkEqualSize` (Spec/Components.lean; proved sound in `C10_checkEqualSize_sound`) accepts what the model returns -/
theorem C10_model_equal_size_checked (s : Store) (h : s.wf = true) (k : Nat) (hk : 1 ≤ k) :
    ∃ parts : List (List Nat), s.bfsEqualSizePartitions k = .ok parts ∧
      checkEqualSize s.getAllNodeNames k parts = none := by
  obtain ⟨parts, hres, hlen, ⟨hperm, _⟩, hsz⟩ := C10_model_equal_size s h k hk
  refine ⟨parts, hres, ?_⟩
  have hnl : s.getAllNodeNames.length = s.numberOfNodes := by simp [getAllNodeNames, numberOfNodes]
  unfold checkEqualSize
  simp only
  rw [if_neg (by simp [hlen])]
  rw [if_neg (by
    rw [List.flatMap_id]
    simp [sortNat_eq_of_perm hperm])]
  rw [if_neg (by
    simp only [List.any_eq_true, decide_eq_true_eq, not_exists, not_and, Nat.not_lt]
    intro p hp
    rw [hnl]
    exact hsz p hp)]

/-- non-vacuity: a directed and an undirected store satisfying the invariant, with the model's answers -/
example :
    let s := (Store.run ⟨true, false, true, .error, .create, .error⟩
      [Op.addEdgeTuple 1 2, Op.addEdgeTuple 2 1, Op.addEdgeTuple 2 3, Op.addEdgeTuple 3 4, Op.addEdgeTuple 4 3,
       Op.addEdgeTuple 5 1]).1
    let u := (Store.run ⟨false, false, true, .error, .create, .error⟩
      [Op.addEdgeTuple 1 2, Op.addEdgeTuple 2 3, Op.addEdgeTuple 4 5]).1
    s.wf = true ∧ (s.bfsEqualSizePartitions 2).toOption = some [[1, 2, 3], [4, 5]] ∧
    (s.bfsEqualSizePartitions 7).toOption = some [[1], [2], [3], [4], [5], [], []] ∧
    u.wf = true ∧ (u.bfsEqualSizePartitions 1).toOption = some [[1, 2, 3, 4, 5]] ∧
    (u.bfsEqualSizePartitions 0).isPanic = true := by
  decide +kernel

end Graphrs
