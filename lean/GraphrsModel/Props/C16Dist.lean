/-
  C16, the *distribution* claim for the undirected generator: "behaves as a draw from G(n,p)".

  The generator draws geometric skips `k` (P(k) = (1-p)^k p: `floor(ln(1-r)/ln(1-p))` for uniform r — PRNG and `ln` are
  outside the model and are the assumption of this file).  What is proved here, for every n in 2 .. 2^31-1:

  * `C16_gnp_undirected_is_slot_process`: the model of `fast_gnp_random_graph_undirected` is the plain *slot process* over
    the N = n(n-1)/2 slots of the lower triangle: from position `pos`, a skip `k` selects slot `pos + k` and continues from
    `pos + k + 1`; the first skip that overshoots N ends the run (saturating `i64` arithmetic included).
  * `C16_slot_process_preimage`: the skip sequences on which the process outputs a given increasing slot list `S` are
    exactly `gaps S ++ [r + j] ++ extra` (r = distance from the last selected slot to the end, `extra` = skips never drawn).
  * `C16_gnp_undirected_bernoulli`: hence, if the skips are independent geometric(p), the probability of the output `S`,
    Σ_j Π geom(gaps S ++ [r + j]), is exactly `p^|S| (1-p)^(N-|S|)`: every pair is present independently with probability p.
  * `C16_bernoulli_total`, `C16_bernoulli_mean`: these masses sum to one over all subsets of slots, and the mean number
    of edges is exactly `p N` (the undirected scheme needs no allowance).
-/
import GraphrsModel.Props.C16
import Mathlib.Analysis.SpecificLimits.Basic
import Mathlib.Algebra.BigOperators.Ring.Finset
import Mathlib.Algebra.BigOperators.Group.Finset.Powerset
namespace Graphrs

/-- the plain slot process: `N` slots, position `pos`, slots selected so far `acc` -/
def slotRun (N : Int) : List Int → Int → List Int → Option (List Int)
  | [], _, _ => none
  | k :: rest, pos, acc => if N ≤ pos + k then some acc else slotRun N rest (pos + k + 1) (acc ++ [pos + k])

theorem slotRun_eq_landRun (N : Int) : slotRun N = landRun id N := by
  funext ks
  induction ks with
  | nil => rfl
  | cons k rest ih => funext pos acc; rw [slotRun, landRun, ih]; rfl

/-- **the undirected generator is the slot process** over the `n(n-1)/2` slots of the lower triangle -/
theorem C16_gnp_undirected_is_slot_process (n : Int) (hn : 2 ≤ n) (hsmall : n ≤ 2147483647) (skips : List Int)
    (hs : ∀ k ∈ skips, 0 ≤ k) :
    (gnpUndirected n (skips.length + 1) skips 1 (-1) []).map (List.map slotUnd) =
      slotRun (n * (n - 1) / 2) skips 0 [] := by
  rw [slotRun_eq_landRun]
  exact gnpUndirected_landRun n hn hsmall skips hs

/-- gaps between successive selected slots, starting from position `pos` -/
def gaps : Int → List Int → List Int
  | _, [] => []
  | pos, s :: t => (s - pos) :: gaps (s + 1) t
/-- the position after the last selected slot -/
def endPos : Int → List Int → Int
  | pos, [] => pos
  | _, s :: t => endPos (s + 1) t

/-- slots strictly increasing, all in `[pos, N)` -/
def SlotsOk (N pos : Int) : List Int → Prop
  | [] => pos ≤ N
  | s :: t => pos ≤ s ∧ s < N ∧ SlotsOk N (s + 1) t

private theorem endPos_le (N : Int) : ∀ (S : List Int) (pos : Int), SlotsOk N pos S →
    pos + S.length ≤ endPos pos S ∧ endPos pos S ≤ N := by
  intro S
  induction S with
  | nil => intro pos h; exact ⟨by simp [endPos], h⟩
  | cons s t ih =>
    intro pos ⟨h1, _, h3⟩
    have := ih (s + 1) h3
    rw [endPos, List.length_cons]
    omega

/-- **preimage of an output**: the slot process outputs exactly the increasing slot list `S` on precisely the skip
    sequences "gaps of S, then a skip of at least the remaining distance to the end, then anything" -/
theorem slotRun_preimage (N : Int) : ∀ (S ks : List Int) (pos : Int), SlotsOk N pos S →
    (slotRun N ks pos [] = some S ↔
      ∃ (j : Nat) (extra : List Int), ks = gaps pos S ++ [(N - endPos pos S) + j] ++ extra) := by
  intro S
  induction S with
  | nil =>
    intro ks pos hok
    cases ks with
    | nil => simp [slotRun]
    | cons k rest =>
      rw [slotRun_eq_landRun, landRun_cons_nil]
      simp only [gaps, endPos, List.nil_append, List.cons_append, List.cons.injEq, id]
      constructor
      · intro h; exact ⟨(k - (N - pos)).toNat, rest, by omega, rfl⟩
      · rintro ⟨j, extra, hj, _⟩; omega
  | cons s t ih =>
    intro ks pos ⟨h1, h2, h3⟩
    cases ks with
    | nil => simp [slotRun, gaps]
    | cons k rest =>
      rw [slotRun_eq_landRun, landRun_cons_cons, ← slotRun_eq_landRun, ih rest (s + 1) h3]
      simp only [gaps, endPos, List.cons_append, List.cons.injEq, id]
      constructor
      · rintro ⟨_, hk, j, extra, hr⟩; exact ⟨j, extra, by omega, hr⟩
      · rintro ⟨j, extra, hk, hr⟩; exact ⟨by omega, by omega, j, extra, hr⟩

theorem C16_slot_process_preimage (N : Int) (S ks : List Int) (hok : SlotsOk N 0 S) (hks : ∀ k ∈ ks, 0 ≤ k) :
    slotRun N ks 0 [] = some S ↔ ∃ (j : Nat) (extra : List Int), ks = gaps 0 S ++ [(N - endPos 0 S) + j] ++ extra := by
  have _ := hks
  exact slotRun_preimage N S ks 0 hok

/-- P(skip = k) for a geometric skip: `(1-p)^k p` -/
noncomputable def geom (p : ℝ) (k : Int) : ℝ := (1 - p) ^ k.toNat * p
/-- probability of drawing exactly this finite sequence of independent skips -/
noncomputable def skipsWeight (p : ℝ) (ks : List Int) : ℝ := (ks.map (geom p)).prod

/-- `P(skip ≥ r) = (1-p)^r`, as the sum over the excess `j` -/
theorem geom_tail (p : ℝ) (hp0 : 0 < p) (hp1 : p < 1) (r : Int) (hr : 0 ≤ r) :
    HasSum (fun j : ℕ => geom p (r + j)) ((1 - p) ^ r.toNat) := by
  have h := (hasSum_geometric_of_lt_one (sub_nonneg.2 hp1.le) (sub_lt_self 1 hp0)).mul_left ((1 - p) ^ r.toNat * p)
  rw [sub_sub_cancel, mul_assoc, mul_inv_cancel₀ hp0.ne', mul_one] at h
  refine h.congr_fun fun j => ?_
  rw [geom, Int.toNat_add hr (Int.natCast_nonneg j), Int.toNat_natCast, pow_add]
  ring

private theorem weight_gaps (N : Int) (p : ℝ) : ∀ (S : List Int) (pos : Int), SlotsOk N pos S →
    skipsWeight p (gaps pos S) = p ^ S.length * (1 - p) ^ (endPos pos S - pos - S.length).toNat := by
  intro S
  induction S with
  | nil => intro pos _; simp [skipsWeight, gaps, endPos]
  | cons s t ih =>
    intro pos ⟨h1, _, h3⟩
    have hle := endPos_le N t (s + 1) h3
    have ih' := ih (s + 1) h3
    rw [skipsWeight] at ih' ⊢
    rw [gaps, endPos, List.map_cons, List.prod_cons, ih', geom, List.length_cons, Nat.cast_succ,
      show endPos (s + 1) t - pos - ((t.length : Int) + 1) = (s - pos) + (endPos (s + 1) t - (s + 1) - t.length) by omega,
      Int.toNat_add (by omega) (by omega), pow_add]
    ring

/-- **Bernoulli law of the slot process**: with independent geometric(p) skips, the probability that exactly the slots `S`
    (strictly increasing, within `0..N`) are selected — the sum over the final overshooting skip of the probability of
    drawing "gaps of S, then that skip" — is `p^|S| (1-p)^(N-|S|)` -/
theorem C16_slot_process_law (N : Int) (S : List Int) (hok : SlotsOk N 0 S) (p : ℝ) (hp0 : 0 < p) (hp1 : p < 1) :
    HasSum (fun j : Nat => skipsWeight p (gaps 0 S ++ [(N - endPos 0 S) + j]))
      (p ^ S.length * (1 - p) ^ (N.toNat - S.length)) := by
  have hle := endPos_le N S 0 hok
  have h := (geom_tail p hp0 hp1 (N - endPos 0 S) (by omega)).mul_left (skipsWeight p (gaps 0 S))
  rw [weight_gaps N p S 0 hok, mul_assoc, ← pow_add, ← Int.toNat_add (by omega) (by omega),
    show endPos 0 S - 0 - S.length + (N - endPos 0 S) = N - S.length by omega, Int.toNat_sub' N,
    ← weight_gaps N p S 0 hok] at h
  refine h.congr_fun fun j => ?_
  simp only [skipsWeight, List.map_append, List.prod_append, List.map_cons, List.map_nil, List.prod_cons, List.prod_nil,
    mul_one]

/-- **the undirected generator draws from G(n,p)** (given independent geometric skips): for every set of unordered pairs,
    presented as an increasing slot list `S`,
    * the model emits exactly the pairs of `S` on precisely the skip sequences `gaps S ++ [r + j] ++ extra`, and
    * the total probability of those draws is `p^|S| (1-p)^(N-|S|)` with `N = n(n-1)/2`. -/
theorem C16_gnp_undirected_bernoulli (n : Int) (hn : 2 ≤ n) (hsmall : n ≤ 2147483647) (S : List Int)
    (hok : SlotsOk (n * (n - 1) / 2) 0 S) (p : ℝ) (hp0 : 0 < p) (hp1 : p < 1) :
    (∀ ks : List Int, (∀ k ∈ ks, 0 ≤ k) →
      ((gnpUndirected n (ks.length + 1) ks 1 (-1) []).map (List.map slotUnd) = some S ↔
        ∃ (j : Nat) (extra : List Int), ks = gaps 0 S ++ [(n * (n - 1) / 2 - endPos 0 S) + j] ++ extra)) ∧
    HasSum (fun j : Nat => skipsWeight p (gaps 0 S ++ [(n * (n - 1) / 2 - endPos 0 S) + j]))
      (p ^ S.length * (1 - p) ^ ((n * (n - 1) / 2).toNat - S.length)) := by
  refine ⟨?_, C16_slot_process_law _ S hok p hp0 hp1⟩
  intro ks hks
  rw [C16_gnp_undirected_is_slot_process n hn hsmall ks hks]
  exact C16_slot_process_preimage _ S ks hok hks

/-- independent trials with success probabilities `π i`, `i ∈ s`, outcome `A ⊆ s` = the set of successes: the expectation
    of an affine function `c + d |A|` of the number of successes is `c + d ∑ π i` -/
theorem bernoulli_affine (π : ℕ → ℝ) (d : ℝ) (s : Finset ℕ) : ∀ c : ℝ,
    ∑ A ∈ s.powerset, (c + d * A.card) * ∏ i ∈ s, (if i ∈ A then π i else 1 - π i) = c + d * ∑ i ∈ s, π i := by
  induction s using Finset.induction_on with
  | empty => intro c; simp
  | insert a s ha ih =>
    intro c
    -- an outcome of the trials `insert a s` is an outcome `A` of `s` with `a` failing, or `insert a A` with `a` succeeding
    have h0 : ∀ A ∈ s.powerset, (c + d * A.card) * ∏ i ∈ insert a s, (if i ∈ A then π i else 1 - π i) =
        (1 - π a) * ((c + d * A.card) * ∏ i ∈ s, (if i ∈ A then π i else 1 - π i)) := by
      intro A hA
      rw [Finset.prod_insert ha, if_neg fun h => ha (Finset.mem_powerset.mp hA h), mul_left_comm]
    have h1 : ∀ A ∈ s.powerset,
        (c + d * (insert a A).card) * ∏ i ∈ insert a s, (if i ∈ insert a A then π i else 1 - π i) =
        π a * ((c + d + d * A.card) * ∏ i ∈ s, (if i ∈ A then π i else 1 - π i)) := by
      intro A hA
      rw [Finset.prod_insert ha, if_pos (Finset.mem_insert_self a A),
        Finset.card_insert_of_notMem fun h => ha (Finset.mem_powerset.mp hA h), Nat.cast_succ, mul_left_comm,
        Finset.prod_congr rfl fun i hi =>
          if_congr (Finset.mem_insert.trans (or_iff_right fun h : i = a => ha (h ▸ hi))) rfl rfl]
      ring
    rw [Finset.sum_powerset_insert ha, Finset.sum_congr rfl h0, Finset.sum_congr rfl h1, ← Finset.mul_sum,
      ← Finset.mul_sum, ih c, ih (c + d), Finset.sum_insert ha]
    ring

theorem bernoulli_total_mean (π : ℕ → ℝ) (s : Finset ℕ) :
    (∑ A ∈ s.powerset, ∏ i ∈ s, (if i ∈ A then π i else 1 - π i)) = 1 ∧
    (∑ A ∈ s.powerset, (A.card : ℝ) * ∏ i ∈ s, (if i ∈ A then π i else 1 - π i)) = ∑ i ∈ s, π i := by
  have h0 := bernoulli_affine π 0 s 1
  have h1 := bernoulli_affine π 1 s 0
  simp only [zero_mul, add_zero, one_mul, zero_add] at h0 h1
  exact ⟨h0, h1⟩

theorem prod_ite_mem_const {s A : Finset ℕ} (hA : A ⊆ s) (a b : ℝ) :
    ∏ i ∈ s, (if i ∈ A then a else b) = a ^ A.card * b ^ (s.card - A.card) := by
  rw [Finset.prod_ite, Finset.prod_const, Finset.prod_const, Finset.filter_mem_eq_inter, Finset.inter_eq_right.2 hA,
    Finset.filter_notMem_eq_sdiff, Finset.card_sdiff_of_subset hA]

open Finset in
/-- the Bernoulli masses over all subsets of the `N` slots sum to one -/
theorem C16_bernoulli_total (N : Nat) (p : ℝ) :
    ∑ S ∈ (Finset.range N).powerset, p ^ S.card * (1 - p) ^ (N - S.card) = 1 := by
  refine Eq.trans (Finset.sum_congr rfl fun S hS => ?_) (bernoulli_total_mean (fun _ => p) (Finset.range N)).1
  rw [prod_ite_mem_const (Finset.mem_powerset.mp hS), Finset.card_range]

open Finset in
/-- the mean number of selected slots (edges) under the Bernoulli law is exactly `p N` -/
theorem C16_bernoulli_mean (N : Nat) (p : ℝ) :
    ∑ S ∈ (Finset.range N).powerset, (S.card : ℝ) * (p ^ S.card * (1 - p) ^ (N - S.card)) = N * p := by
  have h := (bernoulli_total_mean (fun _ => p) (Finset.range N)).2
  rw [Finset.sum_const, Finset.card_range, nsmul_eq_mul] at h
  rw [← h]
  refine Finset.sum_congr rfl fun S hS => ?_
  rw [prod_ite_mem_const (Finset.mem_powerset.mp hS), Finset.card_range]

/-- n = 4 (6 slots), output slots 0, 2, 5: its gaps, and one skip sequence of the preimage -/
example : SlotsOk 6 0 [0, 2, 5] ∧ gaps 0 [0, 2, 5] = [0, 1, 2] ∧ endPos 0 [0, 2, 5] = 6 ∧
    slotRun 6 [0, 1, 2, 100] 0 [] = some [0, 2, 5] := by
  refine ⟨by simp only [SlotsOk]; decide, by decide, by decide, by decide⟩

end Graphrs
