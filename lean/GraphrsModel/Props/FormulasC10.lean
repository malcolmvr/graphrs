/-
  Source tie for C10 (translator `tools/formulas.py`): `Generated/FormulasC10.lean` holds the capacity
  `number_of_nodes / num_partitions + 1` of `bfs_equal_size_partitions` and its two "part is full" tests, re-read from
  src/algorithms/components/weak_connectivity.rs on every run.  `C10_src_capacity` states the model function with that
  capacity in place of its own (`C10_model_equal_size` bounds every part by it).  The two `full` theorems compare the
  regenerated tests with the expressions `p.length == maxSize` and `parts[part]?.map List.length == some maxSize`
  written out here as `eqInner` and `eqOuter` have them; they do not mention `eqInner` / `eqOuter` themselves.
-/
import GraphrsModel.Generated.FormulasC10
import GraphrsModel.Model.Components
namespace Graphrs

/-- the model's capacity is the source's (usize division = ℕ division; `k = 0` is the division by zero the model reports) -/
theorem C10_src_capacity (s : Store) (k : Nat) :
    s.bfsEqualSizePartitions k =
      (if k == 0 then .panic "bfs_equal_size_partitions: division by zero"
       else
        let n := s.numberOfNodes
        match Store.eqOuter s n (Src.C10.partMaxSize n k) (n + 1) ⟨List.replicate k [], List.replicate n false, 0, [], 0⟩ with
        | none => .panic "bfs_equal_size_partitions: index / unwrap"
        | some st =>
          st.parts.foldl (fun acc part => do
            let out ← acc
            let names ← part.foldl (fun a i => do
              let l ← a
              let nd ← Outcome.ofOption "bfs_equal_size_partitions: get_node_by_index().unwrap()" (s.getNodeByIndex i)
              .ok (l ++ [nd.name])) (.ok [])
            .ok (out ++ [names])) (.ok [])) := rfl

/-- the inner test `partitions[partition].len() == partition_max_size`, against the comparison written as in `eqInner` -/
theorem C10_src_full_inner (p : List Nat) (maxSize : Nat) :
    (p.length == maxSize) = Src.C10.partFullInner p.length maxSize := by
  unfold Src.C10.partFullInner
  rw [Bool.eq_iff_iff]; simp

/-- the outer test, against the comparison through `Option.map` written as in `eqOuter` (an out-of-range part index
    is never full) -/
theorem C10_src_full_outer (parts : List (List Nat)) (part maxSize : Nat) :
    ((parts[part]?.map List.length) == some maxSize) =
      (match parts[part]? with | none => false | some p => Src.C10.partFullOuter p.length maxSize) := by
  unfold Src.C10.partFullOuter
  cases parts[part]? with
  | none => rfl
  | some p => rw [Bool.eq_iff_iff]; simp

end Graphrs
