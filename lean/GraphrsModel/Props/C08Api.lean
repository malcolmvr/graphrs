/-
  C04 / C08 at the level of the public functions, by node *names* and against the *abstract* graph: `single_source`,
  `multi_source` and `all_pairs` of the model on any reachable store (wf + entry-level invariant) report exactly the nodes
  reachable in the abstract graph, with the abstract shortest distance; `all_pairs` and `multi_source` are one
  `single_source` per node / per source.
  (Index-level core: Props/C04Model.lean, Props/C04Paths.lean. Transfer between index arcs and name arcs:
  Lemmas/C06Transfer.lean.)
-/
import GraphrsModel.Props.C04Model
import GraphrsModel.Props.C03Rows
import GraphrsModel.Lemmas.C06Transfer
import GraphrsModel.Lemmas.C08Multi
import GraphrsModel.Props.C08
namespace Graphrs
open C08A C06T C08F

/-- the precondition of C04: in weighted mode every stored edge carries a non-negative weight -/
def Store.costsOk (s : Store) (weighted : Bool) : Prop :=
  weighted = true → ∀ e ∈ s.allEdges, ∃ c, e.w = some c ∧ 0 ≤ c

/-- `single_source` without a target on an existing source never fails (no error, none of the unwrap / index sites) -/
theorem C04_model_singleSource_ok (s : Store) (h : s.wf = true) (hent : s.entOk = true) (weighted : Bool) (hc : s.costsOk weighted)
    (src : Nat) (hsrc : s.hasNode src = true) (cutoff2 : Option Int) (firstOnly withPaths : Bool) :
    ∃ out, s.singleSource weighted src none cutoff2 firstOnly withPaths = .ok out := by
  obtain ⟨si, hgi, hsi, _⟩ := index_of_hasNode s h src hsrc
  obtain ⟨r, hrun, R⟩ := single_run s h hent weighted hc si src hsi none none cutoff2 firstOnly withPaths
  obtain ⟨out, ho⟩ := R.conv_ok
  refine ⟨out, ?_⟩
  rw [singleSource_none_eq s weighted src si cutoff2 firstOnly withPaths hgi, hrun]
  exact ho

/-- **`single_source` = the definition**: a node is reported iff it is reachable in the abstract graph, with the abstract
    shortest distance (cheapest parallel edge, both directions when undirected), each node once -/
theorem C04_model_singleSource_exact (s : Store) (h : s.wf = true) (hent : s.entOk = true) (weighted : Bool) (hc : s.costsOk weighted)
    (src : Nat) (hsrc : s.hasNode src = true) (firstOnly withPaths : Bool) (out : List (Nat × SPInfo))
    (hout : s.singleSource weighted src none none firstOnly withPaths = .ok out) :
    (out.map (·.1)).Nodup ∧
    ∀ y d, (∃ i, alookup out y = some i ∧ i.dist = d) ↔ IsDist (s.abs.arcs s.specs.directed weighted) src y d := by
  obtain ⟨si, hgi, hsi, _⟩ := index_of_hasNode s h src hsrc
  obtain ⟨r, hrun, R⟩ := single_run s h hent weighted hc si src hsi none none none firstOnly withPaths
  rw [singleSource_none_eq s weighted src si none firstOnly withPaths hgi, hrun] at hout
  have ho : s.spToNames r = .ok out := hout
  have hn := s.names_nodup h
  have S := store_sim s h hent weighted hc
  refine ⟨R.nodup out ho, fun y d => ⟨?_, ?_⟩⟩
  · rintro ⟨i, hl, hd⟩
    obtain ⟨t, info, hm, hy, hi, _⟩ := R.sound out ho y i hl
    have hdist : info.dist = d := by rw [← hd, hi]; rfl
    have := (R.exact rfl rfl t d).1 ⟨info, hm, hdist⟩
    exact (S.isDist hn hsi hy d).1 this
  · intro hD
    obtain ⟨j, hj⟩ := S.target2 hn hsi hD.1
    have hI := (S.isDist hn hsi hj d).2 hD
    obtain ⟨info, hm, hdist⟩ := (R.exact rfl rfl j d).2 hI
    obtain ⟨y', hy', hl⟩ := R.complete out ho j info hm
    rw [hj] at hy'
    cases hy'
    exact ⟨_, hl, hdist⟩

/-- every returned path, by names: starts at the source, ends at the node, follows abstract arcs, costs the distance -/
theorem C04_model_singleSource_paths (s : Store) (h : s.wf = true) (hent : s.entOk = true) (weighted : Bool) (hc : s.costsOk weighted)
    (src : Nat) (hsrc : s.hasNode src = true) (target : Option Nat) (cutoff2 : Option Int) (firstOnly : Bool)
    (out : List (Nat × SPInfo)) (hout : s.singleSource weighted src target cutoff2 firstOnly true = .ok out) :
    ∀ y i, alookup out y = some i → ∀ p ∈ i.paths,
      p.head? = some src ∧ p.getLast? = some y ∧ Arcs.walkCost (s.abs.arcs s.specs.directed weighted) p = some i.dist := by
  obtain ⟨si, hgi, hsi, _⟩ := index_of_hasNode s h src hsrc
  obtain ⟨si', ti, r0, hgi', _, hrun0, ho⟩ := singleSource_inv s weighted src target cutoff2 firstOnly true out hout
  rw [hgi] at hgi'
  cases hgi'
  obtain ⟨r, hrun, R⟩ := single_run s h hent weighted hc si src hsi ti target cutoff2 firstOnly true
  rw [hrun0] at hrun
  cases hrun
  intro y i hl p hp
  obtain ⟨t, info, hm, hy, hi, _⟩ := R.sound out ho y i hl
  subst hi
  simp only [conv, List.mem_map] at hp
  obtain ⟨q, hq, rfl⟩ := hp
  obtain ⟨p', hp', h1, h2, h3⟩ := R.paths rfl t info hm q hq
  have e : q.map (nameD s) = p' := (map_names q p' hp').2 _ fun i x hx => (isIdx_of_names s h hx).2
  refine ⟨?_, ?_, ?_⟩
  · rw [List.head?_map, h1]
    simp [(isIdx_of_names s h hsi).2]
  · rw [List.getLast?_map, h2]
    simp [(isIdx_of_names s h hy).2]
  · rw [e]; exact h3

/- "An unknown source is `NodeNotFound`" needs the coupling invariant: `has_node` goes through `nodes_map` *and*
   `nodes_map_rev` (`get_node`), `single_source` only through `nodes_map` (`get_node_index`), so without `wf`
   `nodes_map` may bind a name whose position `nodes_map_rev` does not know. On the store whose only non-empty index is
   `nodes_map = {5 ↦ 0}`, `has_node(5)` is false, yet `single_source(5)` finds position 0 and panics at `dist[0]` of the
   empty vector (`C04_model_singleSource_unknown_counterexample`). Such a store is not reachable through the API
   (`Core_reachable_wf`). -/

/-- `nodes_map = {5 ↦ 0}` and nothing else -/
def C04_unknown_cex_store : Store :=
  { specs := ⟨true, false, false, .keepFirst, .create, .error⟩, nodesMap := [(5, 0)] }

theorem C04_model_singleSource_unknown_counterexample :
    C04_unknown_cex_store.hasNode 5 = false ∧ C04_unknown_cex_store.wf = false ∧
    C04_unknown_cex_store.singleSource false 5 none none false false = .panic "dijkstra_basic: index out of range" ∧
    C04_unknown_cex_store.singleSource false 5 none none false false ≠ .err .NodeNotFound := by
  have hp : C04_unknown_cex_store.singleSource false 5 none none false false = .panic "dijkstra_basic: index out of range" := by
    decide +kernel
  refine ⟨by decide +kernel, by decide +kernel, hp, ?_⟩
  rw [hp]
  intro e; cases e

/-- the version that needs no invariant: a name that `nodes_map` does not bind is `NodeNotFound` -/
theorem C04_model_singleSource_unbound (s : Store) (weighted : Bool) (src : Nat) (hsrc : alookup s.nodesMap src = none)
    (target : Option Nat) (cutoff2 : Option Int) (firstOnly withPaths : Bool) :
    s.singleSource weighted src target cutoff2 firstOnly withPaths = .err .NodeNotFound := by
  unfold Store.singleSource Store.getNodeIndex
  rw [hsrc]
  rfl

theorem nodesMap_unbound (s : Store) (h : s.wf = true) (x : Nat) (hx : s.hasNode x = false) :
    alookup s.nodesMap x = none := by
  have hn := nodesP s h
  cases hl : alookup s.nodesMap x with
  | none => rfl
  | some i =>
    have : s.hasNode x = true := (C02.hasNode_mem hn x).2 ((hn.mem_names x).2 ⟨i, hl⟩)
    rw [hx] at this
    cases this

/-- on a well-formed store an unknown source is `NodeNotFound`, for every option combination -/
theorem C04_model_singleSource_unknown_corrected (s : Store) (h : s.wf = true) (weighted : Bool) (src : Nat)
    (hsrc : s.hasNode src = false) (target : Option Nat) (cutoff2 : Option Int) (firstOnly withPaths : Bool) :
    s.singleSource weighted src target cutoff2 firstOnly withPaths = .err .NodeNotFound :=
  C04_model_singleSource_unbound s weighted src (nodesMap_unbound s h src hsrc) target cutoff2 firstOnly withPaths

set_option linter.unusedVariables false in
/-- **C08: `all_pairs` without a target is one `single_source` per node** (same cutoff, `first_only`, `with_paths`), with
    one entry per node of the graph -/
theorem C08_model_allPairs_eq_singleSource (s : Store) (h : s.wf = true) (hent : s.entOk = true) (weighted : Bool)
    (hc : s.costsOk weighted) (cutoff2 : Option Int) (firstOnly withPaths : Bool)
    (ap : List (Nat × List (Nat × SPInfo))) (hap : s.allPairs weighted none cutoff2 firstOnly withPaths = .ok ap) :
    (∀ x, (alookup ap x).isSome = s.hasNode x) ∧
    ∀ x r, alookup ap x = some r →
      ∃ r', s.singleSource weighted x none cutoff2 firstOnly withPaths = .ok r' ∧ ∀ y, alookup r y = alookup r' y := by
  have hrel := allPairs_inv s weighted cutoff2 firstOnly withPaths ap hap
  have hn := nodesP s h
  obtain ⟨i1, i2, _⟩ := foldRel_insert (apH s weighted none none cutoff2 firstOnly withPaths) (nameD s)
    (fun i v => isIdx s i ∧ ∃ r, s.runOne weighted i none none cutoff2 firstOnly withPaths = .ok r ∧ s.spToNames r = .ok v)
    (fun b x b' hb => apH_ok s weighted cutoff2 firstOnly withPaths b b' x hb) (List.range s.numberOfNodes) [] ap hrel
  have hname : ∀ i, i < s.numberOfNodes → s.names[i]? = some (nameD s i) := by
    intro i hi
    have := names_of_lt s hi
    rw [this, (isIdx_of_names s h this).2]
  refine ⟨fun x => ?_, fun x r hl => ?_⟩
  · rw [i1 x, Bool.eq_iff_iff, C02.hasNode_mem hn x]
    simp only [alookup, Option.isSome_none, Bool.or_false, List.any_eq_true, List.mem_range, beq_iff_eq]
    constructor
    · rintro ⟨i, hi, e⟩
      rw [← e]
      exact List.mem_of_getElem? (hname i hi)
    · intro hx
      obtain ⟨i, hi⟩ := List.mem_iff_getElem?.1 hx
      have hlt : i < s.numberOfNodes := lt_of_names s hi
      have := hname i hlt
      rw [hi] at this
      cases this
      exact ⟨i, hlt, rfl⟩
  · rcases i2 x r hl with ⟨i, hi, e, _, r0, hr0, hc⟩ | hb
    · rw [List.mem_range] at hi
      have hnm := hname i hi
      rw [e] at hnm
      have hgi : s.getNodeIndex x = .ok i := by simp [Store.getNodeIndex, (hn.link x i).2 hnm]
      refine ⟨r, ?_, fun _ => rfl⟩
      rw [singleSource_none_eq s weighted x i cutoff2 firstOnly withPaths hgi, hr0]
      exact hc
    · simp [alookup] at hb

/-- **C08: `multi_source` is one `single_source` per listed source** -/
theorem C08_model_multiSource_eq_singleSource (s : Store) (weighted : Bool) (sources : List Nat) (target : Option Nat)
    (cutoff2 : Option Int) (firstOnly withPaths : Bool)
    (ms : List (Nat × List (Nat × SPInfo))) (hms : s.multiSource weighted sources target cutoff2 firstOnly withPaths = .ok ms) :
    (∀ x, (alookup ms x).isSome = sources.contains x) ∧
    ∀ x r, alookup ms x = some r → s.singleSource weighted x target cutoff2 firstOnly withPaths = .ok r := by
  have hrel := multiSource_inv s weighted sources target cutoff2 firstOnly withPaths ms hms
  obtain ⟨i1, i2, _⟩ := foldRel_insert (msH s weighted target cutoff2 firstOnly withPaths) id
    (fun x v => s.singleSource weighted x target cutoff2 firstOnly withPaths = .ok v)
    (fun b x b' hb => msH_ok s weighted target cutoff2 firstOnly withPaths b b' x hb) sources [] ms hrel
  refine ⟨fun x => ?_, fun x r hl => ?_⟩
  · rw [i1 x, Bool.eq_iff_iff]
    simp [alookup]
  · rcases i2 x r hl with ⟨y, _, e, hy⟩ | hb
    · simp only [id] at e
      subst e
      exact hy
    · simp [alookup] at hb

/-- `multi_source` with an unknown source or target is `NodeNotFound` -/
theorem C08_model_multiSource_unknown (s : Store) (weighted : Bool) (sources : List Nat) (target : Option Nat)
    (cutoff2 : Option Int) (firstOnly withPaths : Bool)
    (hbad : (∃ x ∈ sources, s.hasNode x = false) ∨ (∃ t, target = some t ∧ s.hasNode t = false)) :
    s.multiSource weighted sources target cutoff2 firstOnly withPaths = .err .NodeNotFound := by
  unfold Store.multiSource
  by_cases h1 : s.hasNodes sources = true
  · rcases hbad with ⟨x, hx, hf⟩ | ⟨t, ht, hf⟩
    · simp only [Store.hasNodes, List.all_eq_true] at h1
      rw [h1 x hx] at hf
      cases hf
    · subst ht
      simp [h1, hf]
  · simp [h1]

set_option linter.unusedVariables false in
/-- **C08: symmetry on undirected graphs** - the shortest distances of the abstract graph are symmetric (what the model
    reports: `C08_model_allPairs_symmetric`) -/
theorem C08_model_symmetric (s : Store) (h : s.wf = true) (hd : s.specs.directed = false) (weighted : Bool) (x y : Nat) (d : Int) :
    IsDist (s.abs.arcs false weighted) x y d ↔ IsDist (s.abs.arcs false weighted) y x d :=
  C08_symmetric _ (C08_undirected_arcs_symmetric s.abs weighted) x y d

/-- **C08: `get_all_shortest_paths_involving(x)`** returns a list whose members are exactly the `all_pairs` (with paths)
    entries having a path with `x` strictly inside -/
theorem C08_model_involving (s : Store) (x : Nat) (weighted : Bool) (ap : List (Nat × List (Nat × SPInfo)))
    (hap : s.allPairs weighted none none false true = .ok ap) :
    ∃ l, s.pathsInvolving x weighted = .ok l ∧
      ∀ i, i ∈ l ↔ (∃ src r y, (src, r) ∈ ap ∧ (y, i) ∈ r ∧ ∃ p ∈ i.paths, 2 < p.length ∧ x ∈ (p.drop 1).dropLast) := by
  unfold Store.pathsInvolving
  rw [hap]
  refine ⟨_, rfl, fun i => ?_⟩
  simp only [List.mem_filter, List.mem_flatMap, List.mem_map, SPInfo.through, List.any_eq_true, Bool.and_eq_true,
    decide_eq_true_eq, List.contains_iff_mem, gt_iff_lt]
  constructor
  · rintro ⟨⟨⟨src, r⟩, hm, ⟨y, i'⟩, hy, e⟩, hp⟩
    simp only at e hy
    subst e
    exact ⟨src, r, y, hm, hy, hp⟩
  · rintro ⟨src, r, y, hm, hy, hp⟩
    exact ⟨⟨(src, r), hm, (y, i), hy, rfl⟩, hp⟩

/-- **`all_pairs` = the definition**: the entry of `x` reports exactly the nodes reachable from `x` in the abstract graph,
    with the abstract shortest distance -/
theorem C08_model_allPairs_exact (s : Store) (h : s.wf = true) (hent : s.entOk = true) (weighted : Bool)
    (hc : s.costsOk weighted) (firstOnly withPaths : Bool)
    (ap : List (Nat × List (Nat × SPInfo))) (hap : s.allPairs weighted none none firstOnly withPaths = .ok ap) :
    ∀ x r, alookup ap x = some r →
      ∀ y d, (∃ i, alookup r y = some i ∧ i.dist = d) ↔ IsDist (s.abs.arcs s.specs.directed weighted) x y d := by
  intro x r hl y d
  obtain ⟨h1, h2⟩ := C08_model_allPairs_eq_singleSource s h hent weighted hc none firstOnly withPaths ap hap
  obtain ⟨r', hr', heq⟩ := h2 x r hl
  have hx : s.hasNode x = true := by rw [← h1 x, hl]; rfl
  rw [heq y]
  exact (C04_model_singleSource_exact s h hent weighted hc x hx firstOnly withPaths r' hr').2 y d

/-- **the reported `all_pairs` distances of an undirected graph are symmetric** -/
theorem C08_model_allPairs_symmetric (s : Store) (h : s.wf = true) (hent : s.entOk = true) (hd : s.specs.directed = false)
    (weighted : Bool) (hc : s.costsOk weighted) (firstOnly withPaths : Bool)
    (ap : List (Nat × List (Nat × SPInfo))) (hap : s.allPairs weighted none none firstOnly withPaths = .ok ap)
    (x y : Nat) (rx ry : List (Nat × SPInfo)) (hx : alookup ap x = some rx) (hy : alookup ap y = some ry) (d : Int) :
    (∃ i, alookup rx y = some i ∧ i.dist = d) ↔ (∃ j, alookup ry x = some j ∧ j.dist = d) := by
  rw [C08_model_allPairs_exact s h hent weighted hc firstOnly withPaths ap hap x rx hx y d,
    C08_model_allPairs_exact s h hent weighted hc firstOnly withPaths ap hap y ry hy x d, hd]
  exact C08_model_symmetric s h hd weighted x y d

/-- non-vacuity: an undirected weighted multigraph with a heavier parallel edge, a tie and an isolated node -/
example :
    let sp : Specs := ⟨false, true, false, .keepFirst, .create, .error⟩
    let s := (Store.run sp [Op.addEdge ⟨1, 2, some 1, none⟩, Op.addEdge ⟨1, 3, some 1, none⟩, Op.addEdge ⟨2, 4, some 1, none⟩,
      Op.addEdge ⟨3, 4, some 1, none⟩, Op.addEdge ⟨4, 1, some 5, none⟩, Op.addEdge ⟨2, 1, some 3, none⟩, Op.addNode ⟨9, none⟩]).1
    s.wf = true ∧ s.entOk = true ∧ s.allEdges.all (fun e => e.w.any (0 ≤ ·)) = true ∧
    (s.singleSource true 4 none none false true).toOption =
      some [(1, ⟨2, [[4, 3, 1], [4, 2, 1]]⟩), (2, ⟨1, [[4, 2]]⟩), (3, ⟨1, [[4, 3]]⟩), (4, ⟨0, [[4]]⟩)] ∧
    ((s.allPairs true none none false false).toOption.map fun ap => ap.map fun p => (p.1, p.2.map fun q => (q.1, q.2.dist))) =
      some [(1, [(1, 0), (2, 1), (3, 1), (4, 2)]), (2, [(1, 1), (2, 0), (3, 2), (4, 1)]),
            (3, [(1, 1), (2, 2), (3, 0), (4, 1)]), (4, [(1, 2), (2, 1), (3, 1), (4, 0)]), (9, [(9, 0)])] := by
  decide +kernel

end Graphrs
