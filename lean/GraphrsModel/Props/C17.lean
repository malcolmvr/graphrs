/-
  C17 — a seed makes Louvain reproducible: the only place where the iteration order of a hash
  map could influence the result is the candidate scan of `update_best_com`.  After the repair the
  candidates are visited in increasing community id, so the outcome is independent of the order
  in which the map hands them over; before the repair it was not (counterexample below).
-/
import GraphrsModel.Model.Louvain
import GraphrsModel.Lemmas.LouvainSort
import Mathlib.Data.List.Perm.Basic
import Mathlib.Data.List.Sort
namespace Graphrs
open Louvain

/-- the repaired scan does not depend on the iteration order of the candidate map
    (keys of a map are pairwise distinct) -/
theorem C17_updateBest_order_independent (gain : Nat → Rat → Rat) (l1 l2 : List (Nat × Rat))
    (best : Nat × Rat) (hperm : l1.Perm l2) (hkeys : (l1.map (·.1)).Nodup) :
    updateBest gain l1 best = updateBest gain l2 best := by
  unfold updateBest
  rw [LF.isort_key_perm_eq l1 l2 hperm hkeys]

/-- the scan before the repair did depend on it: two candidates with equal gains -/
theorem C17_unordered_scan_depends_on_order :
    updateBestUnordered (fun _ w => w) [(1, 1), (2, 1)] (0, 0)
      ≠ updateBestUnordered (fun _ w => w) [(2, 1), (1, 1)] (0, 0) := by
  decide

/-- non-vacuity of the first theorem on the same candidates -/
example : updateBest (fun _ w => w) [(1, 1), (2, 1)] (0, 0) = updateBest (fun _ w => w) [(2, 1), (1, 1)] (0, 0) := by
  decide

end Graphrs
