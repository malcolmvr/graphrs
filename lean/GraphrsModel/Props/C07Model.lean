/-
  C07 (model link) — the serially written algorithm models really have the rayon shape.

  Props/C07.lean proves, for ARBITRARY `f` and `fold`, that
      dispatch threshold threads f xs sched fold = some (fold (xs.map f))
  for every thread count, every threshold and every schedule that completes every item.
  This file supplies the missing link for the four call sites: for each of
  `Store.betweenness`, `Store.closeness`, `Store.allPairs`, `Store.multiSource`
  (and for `Store.pathsInvolving`, which has no parallel section of its own and goes through `all_pairs`) it

   1. defines the per-item function `f` (the closure passed to `.map(..)`) and the sequential
      `fold` (the code after `.collect()`), mirroring the Rust split;
   2. proves the *shape theorem*: the serial model equals `fold (xs.map f)` (after the
      sequential prologue of the function, if it has one);
   3. concludes `dispatch … f xs sched fold = some (serial model)`.

  Items that can fail (`unwrap` inside the closure) return an `Outcome`; the `fold` then does
  the monadic sequencing in index order.  `fold` only consumes the list of per-item results, it
  never calls `f`.

  For the three functions with a sequential prologue before the parallel section (closeness:
  `reverse().unwrap()`; all_pairs: `ensure_weighted()?`, `get_node_index(t)?`; multi_source: the
  two `NodeNotFound` checks) the prologue is a separate definition `…Pre`, and the whole Rust
  function *with* its `match parallel { true => …, false => … }` is written out as `Store.…Par`
  (prologue, then `dispatch`); the `…_par` theorems say it returns the serial model's result.
-/
import GraphrsModel.Props.C07
import GraphrsModel.Model.Centrality
namespace Graphrs

abbrev Covers {α} (xs : List α) (sched : List Nat) : Prop := ∀ i, i < xs.length → i ∈ sched

/-- Sequential consumption of a vector of fallible per-item results, in index order:
    the first failing item (or failing step) in index order decides. -/
def seqFold {β γ} (step : γ → β → Outcome γ) (init : γ) (items : List (Outcome β)) : Outcome γ :=
  items.foldl (fun acc item => do
    let out ← acc
    let b ← item
    step out b) (.ok init)

/-- an early `return Err(e)` in front of the rest of a prologue -/
theorem err_guard_bind {γ} (c : Prop) [Decidable c] (e : ErrKind) (x : Outcome Unit) (y : Outcome γ) :
    ((if c then .err e else x) >>= fun _ => y) = if c then .err e else x >>= fun _ => y := by
  split <;> rfl

/-- A serial loop `for x in xs { out ← acc; r ← g x; step out (mk x r) }` is `seqFold step` over the items
    `r ← g x; (mk x r)`: every loop below has this form, with `g x` the fallible part of the closure. -/
theorem seqFold_map_bind {α ρ β γ} (g : α → Outcome ρ) (mk : α → ρ → β) (step : γ → β → Outcome γ) (init : γ)
    (xs : List α) :
    xs.foldl (fun acc x => do
      let out ← acc
      let r ← g x
      step out (mk x r)) (.ok init) =
    seqFold step init (xs.map fun x => do
      let r ← g x
      .ok (mk x r)) := by
  unfold seqFold
  rw [List.foldl_map]
  congr 1
  funext acc x
  cases acc with
  | ok out => cases g x <;> rfl
  | err k => rfl
  | panic m => rfl

/-- What the call sites instantiate: a serial result of the shape `fold (xs.map f)` is what `dispatch` returns, for
    every thread count, threshold and completing schedule. -/
theorem dispatch_eq_serial {α β γ} {f : α → β} {xs : List α} {fold : List β → γ} {serial : γ}
    (hshape : serial = fold (xs.map f)) (threshold threads : Nat) {sched : List Nat} (h : Covers xs sched) :
    dispatch threshold threads f xs sched fold = some serial :=
  hshape ▸ C07_threads_independent threshold threads f xs fold sched h

/-- The rayon work item of `betweenness_centrality`:
    ```
    .map(|source| match weighted { true => dijkstra(graph, source), false => bfs(graph, source) })
    ``` -/
def Store.bcItem (s : Store) (weighted : Bool) (source : Nat) : SSR :=
  let adjOf := fun v => s.succVec[v]?.getD []
  if weighted then bcDijkstra adjOf s.numberOfNodes s.totalAdj source else bcBfs adjOf s.numberOfNodes source

/-- The code after `.collect()`:
    ```
    let mut betweenness = vec![0.0; graph.number_of_nodes()];
    for r in results { accumulate_betweenness(&mut betweenness, &r); }
    rescale(&mut betweenness, graph.get_all_nodes().len(), normalized, graph.specs.directed);
    betweenness.into_iter().enumerate()
        .map(|(i, v)| (graph.get_node_by_index(&i).unwrap().name.clone(), v)).collect()
    ``` -/
def Store.bcFold (s : Store) (normalized : Bool) (results : List SSR) : Outcome (List (Nat × Rat)) :=
  let bc := results.foldl accumulate (List.replicate s.numberOfNodes (0 : Rat))
  let bc := match bcScale s.getAllNodes.length normalized s.specs.directed with
    | some sc => bc.map (· * sc)
    | none => bc
  bc.zipIdx.foldl (fun acc p => do
    let out ← acc
    let nd ← Outcome.ofOption "betweenness: get_node_by_index().unwrap()" (s.getNodeByIndex p.2)
    .ok (ainsert out nd.name p.1)) (.ok [])

theorem betweenness_shape (s : Store) (weighted normalized : Bool) :
    s.betweenness weighted normalized =
      s.bcFold normalized ((List.range s.numberOfNodes).map (s.bcItem weighted)) := by
  unfold Store.betweenness Store.bcFold Store.bcItem
  simp only [List.foldl_map]
  rfl

theorem C07_model_betweenness (s : Store) (weighted normalized : Bool) (threshold threads : Nat)
    (sched : List Nat) (h : Covers (List.range s.numberOfNodes) sched) :
    dispatch threshold threads (s.bcItem weighted) (List.range s.numberOfNodes) sched (s.bcFold normalized)
      = some (s.betweenness weighted normalized) :=
  dispatch_eq_serial (betweenness_shape s weighted normalized) threshold threads h

/-- The sequential prologue of `closeness_centrality`:
    ```
    let mut the_graph = graph;
    if graph.specs.directed { x = graph.reverse().unwrap(); the_graph = &x; }
    ``` -/
def Store.closenessPre (s : Store) : Outcome Store :=
  if s.specs.directed then s.reverse.unwrap "closeness: reverse().unwrap()" else .ok s

/-- The rayon work item of `closeness_centrality` (`g` is `the_graph`):
    ```
    .map(|source| {
        let shortest_paths = match weighted {
            true => single_source_shortest_path_length_weighted(the_graph, source),
            false => single_source_shortest_path_length_unweighted(the_graph, source), };
        let cc = get_node_centrality(&shortest_paths, num_nodes, wf_improved);
        let node_name = the_graph.get_node_by_index(&source).unwrap().name.clone();
        (node_name, cc) })
    ``` -/
def Store.ccItem (g : Store) (weighted wf : Bool) (source : Nat) : Outcome (Nat × Rat) := do
  let n := g.numberOfNodes
  let adjOf := fun v => g.succVec[v]?.getD []
  let sp := if weighted then ccWeighted adjOf n g.totalAdj source else ccLevels adjOf n (n + 1) [source] [] 0 []
  let cc := nodeCentrality sp n wf
  let nd ← Outcome.ofOption "closeness: get_node_by_index().unwrap()" (g.getNodeByIndex source)
  .ok (nd.name, cc)

/-- The code after `.collect()`:
    ```
    let mut centralities = HashMap::new();
    for (node, cc) in results { centralities.insert(node, cc); }
    Ok(centralities)
    ``` -/
def ccFold (results : List (Outcome (Nat × Rat))) : Outcome (List (Nat × Rat)) :=
  seqFold (fun centralities r => .ok (ainsert centralities r.1 r.2)) [] results

theorem closeness_shape (s : Store) (weighted wf : Bool) :
    s.closeness weighted wf = (do
      let g ← s.closenessPre
      ccFold ((List.range g.numberOfNodes).map (g.ccItem weighted wf))) := by
  unfold Store.closeness Store.closenessPre ccFold Store.ccItem
  simp only [← seqFold_map_bind]
  split <;> rfl

theorem C07_model_closeness (s g : Store) (weighted wf : Bool) (hg : s.closenessPre = .ok g)
    (threshold threads : Nat) (sched : List Nat) (h : Covers (List.range g.numberOfNodes) sched) :
    dispatch threshold threads (g.ccItem weighted wf) (List.range g.numberOfNodes) sched ccFold
      = some (s.closeness weighted wf) :=
  dispatch_eq_serial (by rw [closeness_shape, hg]; rfl) threshold threads h

/-- `closeness_centrality` as written in Rust, with its `match parallel { true => .., false => .. }`. -/
def Store.closenessPar (s : Store) (weighted wf : Bool) (threshold threads : Nat) (sched : List Nat) :
    Option (Outcome (List (Nat × Rat))) :=
  match s.closenessPre with
  | .ok g => dispatch threshold threads (g.ccItem weighted wf) (List.range g.numberOfNodes) sched ccFold
  | .err k => some (.err k)
  | .panic m => some (.panic m)

theorem C07_model_closeness_par (s : Store) (weighted wf : Bool) (threshold threads : Nat) (sched : List Nat)
    (h : ∀ g, s.closenessPre = .ok g → Covers (List.range g.numberOfNodes) sched) :
    s.closenessPar weighted wf threshold threads sched = some (s.closeness weighted wf) := by
  unfold Store.closenessPar
  cases hg : s.closenessPre with
  | ok g => exact C07_model_closeness s g weighted wf hg threshold threads sched (h g hg)
  | err k => rw [closeness_shape, hg]; rfl
  | panic m => rw [closeness_shape, hg]; rfl

/-- The sequential prologue of `all_pairs` (and the `target_index` computed at the top of
    `all_pairs_iter` / `all_pairs_par_iter`, before the iterator is built):
    ```
    if weighted { graph.ensure_weighted()?; }
    if let Some(t) = &target { graph.get_node_index(t)?; }
    let target_index = match target.clone() { Some(t) => Some(graph.get_node_index(&t).unwrap()), None => None };
    ``` -/
def Store.allPairsPre (s : Store) (weighted : Bool) (target : Option Nat) : Outcome (Option Nat) := do
  if weighted then s.ensureWeighted
  match target with
    | some t => (s.getNodeIndex t).map' some
    | none => .ok none

/-- The rayon work item of `all_pairs_par_iter` (identical to the closure of `all_pairs_iter`):
    ```
    .map(move |node_index| {
        let ss_index = match can_use_basic(target.clone(), cutoff, first_only, with_paths) {
            true => dijkstra_basic(graph, weighted, node_index),
            false => dijkstra(graph, weighted, node_index, target_index, cutoff, first_only, with_paths),
        }.unwrap();
        (node_index, ss_index) })
    ``` -/
def Store.apItem (s : Store) (weighted : Bool) (ti target : Option Nat) (cutoff2 : Option Int)
    (firstOnly withPaths : Bool) (nodeIndex : Nat) : Outcome (Nat × List (Nat × SPInfo)) := do
  let ss ← (s.runOne weighted nodeIndex ti target cutoff2 firstOnly withPaths)
  .ok (nodeIndex, ss)

/-- The code after `.collect::<Vec<(usize, Vec<(usize, ShortestPathInfo<usize>)>)>>()` in `all_pairs`:
    ```
    shortest_paths_vecs.into_iter().map(|(source, shortest_paths)| {
        let source_name = graph.get_node_by_index(&source).unwrap().name.clone();
        let shortest_paths_t = convert_shortest_path_info_vec_to_t_map(graph, shortest_paths);
        (source_name, shortest_paths_t) }).collect()       // into a HashMap
    ``` -/
def Store.apFold (s : Store) (vecs : List (Outcome (Nat × List (Nat × SPInfo)))) :
    Outcome (List (Nat × List (Nat × SPInfo))) :=
  seqFold (fun x p => do
    let src ← Outcome.ofOption "all_pairs: get_node_by_index().unwrap()" (s.getNodeByIndex p.1)
    let named ← s.spToNames p.2
    .ok (ainsert x src.name named)) [] vecs

theorem allPairs_shape (s : Store) (weighted : Bool) (target : Option Nat) (cutoff2 : Option Int)
    (firstOnly withPaths : Bool) :
    s.allPairs weighted target cutoff2 firstOnly withPaths = (do
      let ti ← s.allPairsPre weighted target
      s.apFold ((List.range s.numberOfNodes).map (s.apItem weighted ti target cutoff2 firstOnly withPaths))) := by
  unfold Store.allPairs Store.allPairsPre Store.apFold Store.apItem
  simp only [← seqFold_map_bind]
  cases weighted with
  | false => cases target <;> rfl
  | true => cases s.ensureWeighted <;> cases target <;> rfl

theorem C07_model_all_pairs (s : Store) (weighted : Bool) (target : Option Nat) (cutoff2 : Option Int)
    (firstOnly withPaths : Bool) (ti : Option Nat) (hpre : s.allPairsPre weighted target = .ok ti)
    (threshold threads : Nat) (sched : List Nat) (h : Covers (List.range s.numberOfNodes) sched) :
    dispatch threshold threads (s.apItem weighted ti target cutoff2 firstOnly withPaths)
        (List.range s.numberOfNodes) sched s.apFold
      = some (s.allPairs weighted target cutoff2 firstOnly withPaths) :=
  dispatch_eq_serial (by rw [allPairs_shape, hpre]; rfl) threshold threads h

/-- `all_pairs` as written in Rust, with its `match parallel { true => .., false => .. }`. -/
def Store.allPairsPar (s : Store) (weighted : Bool) (target : Option Nat) (cutoff2 : Option Int)
    (firstOnly withPaths : Bool) (threshold threads : Nat) (sched : List Nat) :
    Option (Outcome (List (Nat × List (Nat × SPInfo)))) :=
  match s.allPairsPre weighted target with
  | .ok ti => dispatch threshold threads (s.apItem weighted ti target cutoff2 firstOnly withPaths)
      (List.range s.numberOfNodes) sched s.apFold
  | .err k => some (.err k)
  | .panic m => some (.panic m)

theorem C07_model_all_pairs_par (s : Store) (weighted : Bool) (target : Option Nat) (cutoff2 : Option Int)
    (firstOnly withPaths : Bool) (threshold threads : Nat) (sched : List Nat)
    (h : Covers (List.range s.numberOfNodes) sched) :
    s.allPairsPar weighted target cutoff2 firstOnly withPaths threshold threads sched
      = some (s.allPairs weighted target cutoff2 firstOnly withPaths) := by
  unfold Store.allPairsPar
  cases hpre : s.allPairsPre weighted target with
  | ok ti => exact C07_model_all_pairs s weighted target cutoff2 firstOnly withPaths ti hpre threshold threads sched h
  | err k => rw [allPairs_shape, hpre]; rfl
  | panic m => rw [allPairs_shape, hpre]; rfl

/-- The code of `get_all_shortest_paths_involving` after the call of `all_pairs`:
    ```
    match result {
        Err(_) => vec![],
        Ok(pairs) => pairs.into_iter().flat_map(|x| x.1.into_iter().map(|y| y.1))
            .filter(|x| x.contains_path_through_node(node_name.clone())).collect(), }
    ``` -/
def involvingPost (x : Nat) (result : Outcome (List (Nat × List (Nat × SPInfo)))) : Outcome (List SPInfo) :=
  match result with
  | .ok pairs => .ok ((pairs.flatMap fun p => p.2.map (·.2)).filter fun i => i.through x)
  | .err _ => .ok []
  | .panic site => .panic site

theorem pathsInvolving_shape (s : Store) (x : Nat) (weighted : Bool) :
    s.pathsInvolving x weighted = involvingPost x (s.allPairs weighted none none false true) := rfl

theorem C07_model_involving (s : Store) (x : Nat) (weighted : Bool) (threshold threads : Nat) (sched : List Nat)
    (h : Covers (List.range s.numberOfNodes) sched) :
    (s.allPairsPar weighted none none false true threshold threads sched).map (involvingPost x)
      = some (s.pathsInvolving x weighted) := by
  rw [C07_model_all_pairs_par s weighted none none false true threshold threads sched h, pathsInvolving_shape]
  rfl

/-- `C07_model_involving` in terms of `dispatch` itself: the prologue of `all_pairs` succeeds, for `target = None`, when
    `weighted` is false or every edge has a weight. -/
theorem C07_model_involving_dispatch (s : Store) (x : Nat) (weighted : Bool) (ti : Option Nat)
    (hpre : s.allPairsPre weighted none = .ok ti)
    (threshold threads : Nat) (sched : List Nat) (h : Covers (List.range s.numberOfNodes) sched) :
    dispatch threshold threads (s.apItem weighted ti none none false true) (List.range s.numberOfNodes) sched
        (fun vecs => involvingPost x (s.apFold vecs))
      = some (s.pathsInvolving x weighted) := by
  rw [C07_threads_independent threshold threads _ _ _ sched h, pathsInvolving_shape, allPairs_shape, hpre]
  rfl

/-- The sequential prologue of `multi_source`:
    ```
    if !graph.has_nodes(&sources) { return Err(Error { kind: ErrorKind::NodeNotFound, .. }); }
    if target.is_some() && !graph.has_node(&target.clone().unwrap()) { return Err(Error { kind: ErrorKind::NodeNotFound, .. }); }
    ``` -/
def Store.multiSourcePre (s : Store) (sources : List Nat) (target : Option Nat) : Outcome Unit :=
  if !s.hasNodes sources then .err .NodeNotFound
  else if (match target with | some t => !s.hasNode t | none => false) then .err .NodeNotFound
  else .ok ()

/-- The rayon work item of `multi_source`:
    ```
    .map(|source| ( source.clone(),
        single_source(graph, weighted, source.clone(), target.clone(), cutoff, first_only, with_paths).unwrap() ))
    ``` -/
def Store.msItem (s : Store) (weighted : Bool) (target : Option Nat) (cutoff2 : Option Int)
    (firstOnly withPaths : Bool) (source : Nat) : Outcome (Nat × List (Nat × SPInfo)) := do
  let r ← (s.singleSource weighted source target cutoff2 firstOnly withPaths)
  .ok (source, r)

/-- The code after `.collect()`: `Ok(shortest_paths.into_iter().collect())` (into a `HashMap`, i.e. one
    `insert` per element in index order). -/
def msFold (shortestPaths : List (Outcome (Nat × List (Nat × SPInfo)))) :
    Outcome (List (Nat × List (Nat × SPInfo))) :=
  seqFold (fun out p => .ok (ainsert out p.1 p.2)) [] shortestPaths

theorem multiSource_shape (s : Store) (weighted : Bool) (sources : List Nat) (target : Option Nat)
    (cutoff2 : Option Int) (firstOnly withPaths : Bool) :
    s.multiSource weighted sources target cutoff2 firstOnly withPaths = (do
      s.multiSourcePre sources target
      msFold (sources.map (s.msItem weighted target cutoff2 firstOnly withPaths))) := by
  unfold Store.multiSource Store.multiSourcePre
  rw [seqFold_map_bind (fun src => s.singleSource weighted src target cutoff2 firstOnly withPaths) Prod.mk
    (fun out p => .ok (ainsert out p.1 p.2)) [] sources, err_guard_bind, err_guard_bind]
  rfl

theorem C07_model_multi_source (s : Store) (weighted : Bool) (sources : List Nat) (target : Option Nat)
    (cutoff2 : Option Int) (firstOnly withPaths : Bool) (hpre : s.multiSourcePre sources target = .ok ())
    (threshold threads : Nat) (sched : List Nat) (h : Covers sources sched) :
    dispatch threshold threads (s.msItem weighted target cutoff2 firstOnly withPaths) sources sched msFold
      = some (s.multiSource weighted sources target cutoff2 firstOnly withPaths) :=
  dispatch_eq_serial (by rw [multiSource_shape, hpre]; rfl) threshold threads h

/-- `multi_source` as written in Rust, with its `match parallel { true => .., false => .. }`. -/
def Store.multiSourcePar (s : Store) (weighted : Bool) (sources : List Nat) (target : Option Nat)
    (cutoff2 : Option Int) (firstOnly withPaths : Bool) (threshold threads : Nat) (sched : List Nat) :
    Option (Outcome (List (Nat × List (Nat × SPInfo)))) :=
  match s.multiSourcePre sources target with
  | .ok () => dispatch threshold threads (s.msItem weighted target cutoff2 firstOnly withPaths) sources sched msFold
  | .err k => some (.err k)
  | .panic m => some (.panic m)

theorem C07_model_multi_source_par (s : Store) (weighted : Bool) (sources : List Nat) (target : Option Nat)
    (cutoff2 : Option Int) (firstOnly withPaths : Bool) (threshold threads : Nat) (sched : List Nat)
    (h : Covers sources sched) :
    s.multiSourcePar weighted sources target cutoff2 firstOnly withPaths threshold threads sched
      = some (s.multiSource weighted sources target cutoff2 firstOnly withPaths) := by
  unfold Store.multiSourcePar
  cases hpre : s.multiSourcePre sources target with
  | ok u => exact C07_model_multi_source s weighted sources target cutoff2 firstOnly withPaths hpre threshold threads sched h
  | err k => rw [multiSource_shape, hpre]; rfl
  | panic m => rw [multiSource_shape, hpre]; rfl

/-- Completing schedules exist: e.g. the items finishing in reverse index order. -/
theorem covers_reverse_range {α} (xs : List α) : Covers xs (List.range xs.length).reverse := by
  intro i hi
  simp [hi]

/-- With threshold 0 and two threads the parallel branch of `dispatch` is really the one taken
    (for a non-empty item list), so the theorems above are statements about `parCollect`. -/
theorem dispatch_parallel_branch {α β γ} (f : α → β) (xs : List α) (sched : List Nat) (fold : List β → γ)
    (hne : xs ≠ []) : dispatch 0 2 f xs sched fold = (parCollect f xs sched).map fold := by
  unfold dispatch
  have : xs.length > 0 := List.length_pos_iff.mpr hne
  simp [this]

end Graphrs
