/-
  C20 over the whole crate: what the theorems of the C20Breadth files share besides the calculus of Lemmas/NoPanicCalculus.lean.

  * the guards of `ensure.rs`: no panic site, and what their `Ok` says;
  * on a well-formed store every name a neighbour query returns is a node of the graph (so the next query on it
    cannot fail either).
-/
import GraphrsModel.Props.C20
import GraphrsModel.Props.C18Model
import GraphrsModel.Model.Cluster
import GraphrsModel.Lemmas.C10Base
import GraphrsModel.Lemmas.NoPanicCalculus
namespace Graphrs

/-- the guards of `ensure.rs` have no panic site -/
theorem C20_model_ensure_no_panic (s : Store) :
    s.ensureDirected.isPanic = false ∧ s.ensureUndirected.isPanic = false ∧ s.ensureNotMulti.isPanic = false ∧
    s.ensureWeighted.isPanic = false := by
  refine ⟨?_, ?_, ?_, ?_⟩
  · unfold Store.ensureDirected; split <;> rfl
  · unfold Store.ensureUndirected; split <;> rfl
  · unfold Store.ensureNotMulti; split <;> rfl
  · unfold Store.ensureWeighted; split <;> rfl

namespace C20B

theorem namesOf_ok {x : Outcome (List Node)} {l : List Node} (h : x = .ok l) :
    Store.namesOf x = .ok (l.map (·.name)) := by
  subst h; rfl

theorem ensureUndirected_ok {s : Store} {u : Unit} (h : s.ensureUndirected = .ok u) : s.specs.directed = false := by
  unfold Store.ensureUndirected at h
  cases hd : s.specs.directed with
  | false => rfl
  | true => rw [hd] at h; cases h

theorem ensureNotMulti_ok {s : Store} {u : Unit} (h : s.ensureNotMulti = .ok u) : s.specs.multi = false := by
  unfold Store.ensureNotMulti at h
  cases hm : s.specs.multi with
  | false => rfl
  | true => rw [hm] at h; cases h

theorem hasNode_iff (s : Store) (h : s.wf = true) (x : Nat) : s.hasNode x = true ↔ x ∈ s.names :=
  s.hasNode_names h x

theorem hasNode_false (s : Store) (h : s.wf = true) (x : Nat) : s.hasNode x = false ↔ x ∉ s.names := by
  rw [← hasNode_iff s h x]; simp

theorem hasNodes_iff (s : Store) (h : s.wf = true) (l : List Nat) : s.hasNodes l = true ↔ ∀ x ∈ l, x ∈ s.names := by
  unfold Store.hasNodes
  rw [List.all_eq_true]
  exact forall₂_congr fun x _ => hasNode_iff s h x

theorem ensureHasNodes_np (s : Store) (names : Option (List Nat)) : (s.ensureHasNodes names).isPanic = false := by
  unfold Store.ensureHasNodes
  split
  · split <;> rfl
  · rfl

theorem ensureHasNodes_ok (s : Store) (h : s.wf = true) {names : Option (List Nat)} {u : Unit}
    (he : s.ensureHasNodes names = .ok u) : ∀ l, names = some l → ∀ x ∈ l, x ∈ s.names := by
  rintro l rfl
  unfold Store.ensureHasNodes at he
  cases hh : s.hasNodes l with
  | true => exact (hasNodes_iff s h l).1 hh
  | false => simp only [hh] at he; cases he

theorem hasEdge_names (s : Store) (h : s.wf = true) {x y : Nat} (hxy : s.hasEdge x y = true) :
    x ∈ s.names ∧ y ∈ s.names :=
  s.hasEdge_names h hxy

theorem succOrNbrs (s : Store) (h : s.wf = true) (x : Nat) (hx : x ∈ s.names) :
    ∃ l, s.getSuccessorsOrNeighbors x = .ok l ∧ ∀ y ∈ l.map (·.name), y ∈ s.names := by
  obtain ⟨l, hl, hm, _⟩ := succOrNbrs_ok s h x ((hasNode_iff s h x).2 hx)
  exact ⟨l, hl, fun y hy => (hasEdge_names s h ((hm y).1 hy)).2⟩

theorem nbrNodes (s : Store) (h : s.wf = true) (x : Nat) (hx : x ∈ s.names) :
    ∃ l, s.getNeighborNodes x = .ok l ∧ ∀ y ∈ l.map (·.name), y ∈ s.names := by
  obtain ⟨l, hl, hm, _⟩ := C02_neighborNodes s h x ((hasNode_iff s h x).2 hx)
  refine ⟨l, hl, fun y hy => ?_⟩
  have := (hm y).1 hy
  unfold Abs.nbrs at this
  rw [mem_dedup, List.mem_append] at this
  rcases this with h1 | h1
  · exact (C10M.succ_names s h h1).2
  · exact (C10M.pred_names s h h1).2

end C20B
end Graphrs
