/-
  C05 — betweenness centrality equals its definition.

  The implementation's values are compared on every run with `bcSpec` (Spec/Centrality.lean): the definition by
  enumeration of all shortest paths.  Proved here, about the definition: one entry per node (`C05_bcSpec_keys`), values ≥ 0
  (`C05_bcSpec_nonneg`), the value 0 for the empty and the one-node list (`C05_bcSpec_tiny`); about the model of the code:
  the cases of `get_scale` (`C05_scale_rule`), and that `accumulate` keeps one slot per node and never credits the source
  of a stage.  The identification of the Brandes accumulation with the definition is stated below
  (`C05_full_statement`); it is proved for every store reachable through the mutation API in Props/C05Full.lean, and is
  compared per run on explored graphs.
-/
import GraphrsModel.ObsCen
import GraphrsModel.Lemmas.BcSpec
import Mathlib.Algebra.Order.Field.Rat
namespace Graphrs

private theorem foldl_add_nonneg (l : List Rat) (hl : ∀ x ∈ l, 0 ≤ x) (a : Rat) (ha : 0 ≤ a) :
    0 ≤ l.foldl (· + ·) a := by
  induction l generalizing a with
  | nil => exact ha
  | cons b l ih => exact ih (fun x hx => hl x (List.mem_cons_of_mem _ hx)) _ (add_nonneg ha (hl b List.mem_cons_self))

private theorem sumRat_nonneg (l : List Rat) (hl : ∀ x ∈ l, 0 ≤ x) : 0 ≤ sumRat l :=
  foldl_add_nonneg l hl 0 (le_refl 0)

private theorem foldl_add_zero (l : List Rat) (hl : ∀ x ∈ l, x = 0) : l.foldl (· + ·) (0 : Rat) = 0 := by
  induction l with
  | nil => rfl
  | cons b l ih =>
    simp only [List.foldl_cons]
    rw [hl b (List.mem_cons_self ..), add_zero]
    exact ih (fun x hx => hl x (List.mem_cons_of_mem _ hx))

theorem tightPaths_head (arcs : Arcs) (d : List (Nat × Int)) (s : Nat) :
    ∀ (fuel t : Nat) (p : List Nat), p ∈ Arcs.tightPaths arcs d s fuel t → p.head? = some s := by
  intro fuel
  induction fuel with
  | zero =>
    intro t p hp
    rcases Bc.mem_tightPaths hp with ⟨_, rfl⟩ | ⟨_, _, _, _, h, _⟩
    · rfl
    · cases h
  | succ fuel ih =>
    intro t p hp
    rcases Bc.mem_tightPaths hp with ⟨_, rfl⟩ | ⟨_, _, y, q, h, _, _, hq, rfl⟩
    · rfl
    · cases h
      have := ih y q hq
      cases q with
      | nil => cases this
      | cons x q => exact this

/-- `get_scale`, all cases -/
theorem C05_scale_rule (n : Nat) (normalized directed : Bool) :
    bcScale n normalized directed =
      (if normalized then (if n ≤ 2 then none else some (1 / (((n : Rat) - 1) * ((n : Rat) - 2))))
       else if directed then none else some (1 / 2)) := by
  rfl

/-- the accumulation keeps one slot per node -/
theorem C05_accumulate_length (bc : List Rat) (r : SSR) : (accumulate bc r).length = bc.length := by
  unfold accumulate
  apply foldl_inv (fun (acc : List Rat × List Rat) => acc.1.length = bc.length)
  · rintro ⟨b, dl⟩ w - h
    simp only at h ⊢
    split
    · rw [List.length_set]; exact h
    · exact h
  · rfl

set_option linter.unusedVariables false in
/-- the source of a stage never receives credit from that stage (the proof makes no use of `hnd`) -/
theorem C05_accumulate_source_untouched (bc : List Rat) (r : SSR) (hnd : r.S.Nodup) :
    (accumulate bc r)[r.source]? = bc[r.source]? := by
  unfold accumulate
  apply foldl_inv (fun (acc : List Rat × List Rat) => acc.1[r.source]? = bc[r.source]?)
  · rintro ⟨b, dl⟩ w - h
    simp only at h ⊢
    split
    · rename_i hne
      rw [List.getElem?_set_ne (by simpa using hne)]; exact h
    · exact h
  · rfl

/-- the definition has exactly one entry per node -/
theorem C05_bcSpec_keys (nodes : List Nat) (arcs : Arcs) (directed normalized : Bool) :
    (bcSpec nodes arcs directed normalized).map (·.1) = nodes := by
  unfold bcSpec
  simp only [List.map_map]
  conv => rhs; rw [← List.map_id nodes]
  apply List.map_congr_left
  intro u _
  rfl

/-- every value of the definition is non-negative -/
theorem C05_bcSpec_nonneg (nodes : List Nat) (arcs : Arcs) (directed normalized : Bool) :
    ∀ kv ∈ bcSpec nodes arcs directed normalized, 0 ≤ kv.2 := by
  intro kv hkv
  obtain ⟨v, _, rfl⟩ := List.mem_map.1 hkv
  refine mul_nonneg (sumRat_nonneg _ fun x hx => ?_) ?_
  · obtain ⟨ps, _, rfl⟩ := List.mem_map.1 hx
    cases ps with
    | nil => exact le_refl 0
    | cons p ps =>
      dsimp only
      split
      · exact le_refl 0
      · exact div_nonneg (Nat.cast_nonneg _) (Nat.cast_nonneg _)
  · split
    · split
      · exact zero_le_one
      · exact one_div_nonneg.2 (mul_nonneg (sub_nonneg.2 (Nat.one_le_cast.2 (by omega)))
          (sub_nonneg.2 (Nat.ofNat_le_cast.2 (by omega))))
    · split
      · exact zero_le_one
      · exact one_div_nonneg.2 zero_le_two

/-- over the empty and over a one-node list every value of the definition is 0, whatever the arcs (with two listed nodes
    this needs the arcs to stay among them: a path 1-2-3 to an unlisted node 3 has the interior node 2) -/
theorem C05_bcSpec_tiny (arcs : Arcs) (directed normalized : Bool) (x : Nat) :
    bcSpec [] arcs directed normalized = [] ∧ bcSpec [x] arcs directed normalized = [(x, 0)] := by
  refine ⟨rfl, ?_⟩
  unfold bcSpec
  simp only [List.map_cons, List.map_nil, List.cons.injEq, Prod.mk.injEq, true_and, and_true]
  rw [show ∀ (a b : Rat), a = 0 → a * b = 0 from fun a b h => by rw [h, zero_mul]]
  apply foldl_add_zero
  · intro y hy
    simp only [List.flatMap_cons, List.flatMap_nil, List.append_nil, List.map_map, List.mem_map] at hy
    obtain ⟨kv, _, rfl⟩ := hy
    simp only [Function.comp]
    split
    · rfl
    · rename_i p ps heq
      have hh := tightPaths_head arcs _ x _ _ p (by rw [heq]; exact List.mem_cons_self ..)
      simp [hh]

/-- C05 at model level, over *arbitrary* `Store` records.  In this generality it fails (the record `c05BadStore` of
    Props/C05Full.lean, with a repeated traversal entry: `C05_model_eq_spec_unweighted_counterexample`); for every store
    reachable through the mutation API - every GraphSpecs record, every history - it is `C05_full_statement_reachable`
    (Props/C05Full.lean). -/
def C05_full_statement : Prop :=
  ∀ (s : Store) (weighted normalized : Bool),
    (weighted = true → ∀ e ∈ s.allEdges, ∃ w, e.w = some w ∧ 0 < w) →
    ∀ out, s.betweenness weighted normalized = .ok out →
      ∀ kv ∈ out, alookup (bcSpec s.getAllNodeNames (s.abs.arcs s.specs.directed weighted) s.specs.directed normalized) kv.1 = some kv.2

/-- non-vacuity: the path 1 - 2 - 3 (undirected): node 2 lies on the only shortest path between 1 and 3 -/
example : bcSpec [1, 2, 3] [(1, 2, 1), (2, 1, 1), (2, 3, 1), (3, 2, 1)] false false = [(1, 0), (2, 1), (3, 0)] := by
  decide +kernel

end Graphrs
