/-
  C11 (model level) — `generalized_degree`: on every well-formed undirected store the model
  `Store.generalizedDegree` returns, for exactly the requested nodes, the histogram of the definition
  `Abs.generalizedDegreeAt` (same bindings; a permutation of the definition's list; literally its key-sorted form, which is
  what the comparison tools print).  Error channel (directed graph → WrongMethod, absent name → NodeNotFound) and
  absence of panics.
-/
import GraphrsModel.Props.C11Model
namespace Graphrs
open C11M C11G

private theorem gd_ok (s : Store) (h : s.wf = true) (hd : s.specs.directed = false) (names : Option (List Nat))
    (hn : ∀ x ∈ requestedU s names, s.hasNode x = true) :
    s.generalizedDegree names = .ok ((reqT s names).map fun v => (v, (tadOf s v).gdeg)) := by
  have hnd : (reqT s names).Nodup := reqT_eq s h names ▸ nodup_dedup _
  unfold Store.generalizedDegree
  simp only [ensureUndirected_pass s hd, ensureHasNodes_requestedU s names hn,
    trianglesAndDegrees_requestedU s h hd names hn, bind, Outcome.bind]
  rw [List.foldl_map]
  exact congrArg Outcome.ok ((foldl_ainsert_dedup (fun v => (tadOf s v).gdeg) (reqT s names) []).trans
    (congrArg (List.map _) (dedup_of_nodup _ hnd)))

/-- **generalized_degree(v) = the definition's histogram**, for the full node set (`none`, or an empty list) and for every
    requested subset.  On a well-formed undirected store whose requested names are nodes the model returns `.ok m` where
    * the keys of `m` are exactly the requested nodes (in request order, first occurrences), and
    * for every requested `x` the entry `g` of `m` at `x` has the same bindings as `s.abs.generalizedDegreeAt x`
      (`alookup` on both sides), is a permutation of it, and is literally that list sorted by key — the form in which
      the tools compare the two. -/
theorem C11_model_generalized_degree (s : Store) (h : s.wf = true) (hd : s.specs.directed = false) (names : Option (List Nat))
    (hn : ∀ x ∈ requestedU s names, s.hasNode x = true) :
    ∃ m, s.generalizedDegree names = .ok m ∧
      m.map (·.1) = dedup (requestedU s names) ∧
      (∀ x, x ∈ m.map (·.1) ↔ x ∈ requestedU s names) ∧
      ∀ x ∈ requestedU s names, ∃ g, alookup m x = some g ∧
        (∀ t, alookup g t = alookup (s.abs.generalizedDegreeAt x) t) ∧
        g.Perm (s.abs.generalizedDegreeAt x) ∧
        g = isort (fun a b : Nat × Nat => decide (a.1 ≤ b.1)) (s.abs.generalizedDegreeAt x) := by
  have hkeys : ((reqT s names).map fun v => (v, (tadOf s v).gdeg)).map (·.1) = reqT s names := by
    rw [List.map_map]
    exact List.map_id'' (fun _ => rfl) _
  refine ⟨_, gd_ok s h hd names hn, ?_, ?_, ?_⟩
  · rw [hkeys, reqT_eq s h names]
  · intro x
    rw [hkeys, mem_reqT]
  · intro x hx
    refine ⟨(tadOf s x).gdeg, ?_, tad_gdeg s h hd x (hn x hx)⟩
    rw [C09M.alookup_map_self, if_pos ((mem_reqT s names x).2 hx)]

/-- the same statement in the shape of `C11_model_triangles`: about any `.ok` result of the model -/
theorem C11_model_generalized_degree_of_ok (s : Store) (h : s.wf = true) (hd : s.specs.directed = false)
    (names : Option (List Nat)) (hn : ∀ x ∈ requestedU s names, s.hasNode x = true)
    (m : List (Nat × List (Nat × Nat))) (hm : s.generalizedDegree names = .ok m) :
    (∀ x, x ∈ m.map (·.1) ↔ x ∈ requestedU s names) ∧
    ∀ x ∈ requestedU s names, ∃ g, alookup m x = some g ∧
      (∀ t, alookup g t = alookup (s.abs.generalizedDegreeAt x) t) ∧
      g.Perm (s.abs.generalizedDegreeAt x) ∧
      g = isort (fun a b : Nat × Nat => decide (a.1 ≤ b.1)) (s.abs.generalizedDegreeAt x) := by
  obtain ⟨m', hm', _, h1, h2⟩ := C11_model_generalized_degree s h hd names hn
  cases hm.symm.trans hm'
  exact ⟨h1, h2⟩

/-- the restriction to a subset returns the full computation's histograms for exactly those nodes -/
theorem C11_model_generalized_degree_subset (s : Store) (h : s.wf = true) (hd : s.specs.directed = false) (S : List Nat)
    (hS : S ≠ []) (hn : ∀ x ∈ S, s.hasNode x = true) (mAll mS : List (Nat × List (Nat × Nat)))
    (h1 : s.generalizedDegree none = .ok mAll) (h2 : s.generalizedDegree (some S) = .ok mS) :
    ∀ x ∈ S, alookup mS x = alookup mAll x := by
  have hS' := requestedU_some s hS
  have t1 := (C11_model_generalized_degree_of_ok s h hd none (requestedU_none s h) mAll h1).2
  have t2 := (C11_model_generalized_degree_of_ok s h hd (some S) (hS'.symm ▸ hn) mS h2).2
  intro x hx
  obtain ⟨g1, e1, _, _, q1⟩ := t1 x ((s.hasNode_names h x).1 (hn x hx))
  obtain ⟨g2, e2, _, _, q2⟩ := t2 x (hS'.symm ▸ hx)
  rw [e1, e2, q1, q2]

/-- **error channel**: a directed graph is refused with `WrongMethod` whatever is requested; on an undirected graph a
    requested name that is not a node gives `NodeNotFound` (no well-formedness needed for either) -/
theorem C11_model_generalized_degree_errors (s : Store) (names : Option (List Nat)) :
    (s.specs.directed = true → s.generalizedDegree names = .err .WrongMethod) ∧
    (s.specs.directed = false → ∀ l, names = some l → (∃ x ∈ l, s.hasNode x = false) →
      s.generalizedDegree names = .err .NodeNotFound) := by
  constructor
  · intro hd
    unfold Store.generalizedDegree Store.ensureUndirected
    rw [hd]
    rfl
  · rintro hd l rfl ⟨x, hx, hxn⟩
    have hnot : s.hasNodes l = false :=
      List.all_eq_false.2 ⟨x, hx, by rw [hxn]; exact Bool.false_ne_true⟩
    unfold Store.generalizedDegree
    simp only [ensureUndirected_pass s hd, Store.ensureHasNodes, hnot, bind, Outcome.bind]
    rfl

/-- **every outcome is classified, and none is a panic**: on a well-formed store `generalized_degree` answers
    `WrongMethod` (directed), `NodeNotFound` (some requested name is absent) or `.ok` — none of the `unwrap` sites of
    `get_neighbors_of_nodes` / `get_triangles_and_degrees` is reachable -/
theorem C11_model_generalized_degree_outcome (s : Store) (h : s.wf = true) (names : Option (List Nat)) :
    (s.specs.directed = true ∧ s.generalizedDegree names = .err .WrongMethod) ∨
    (s.specs.directed = false ∧ (∃ l, names = some l ∧ ∃ x ∈ l, s.hasNode x = false) ∧
      s.generalizedDegree names = .err .NodeNotFound) ∨
    (s.specs.directed = false ∧ (∀ x ∈ requestedU s names, s.hasNode x = true) ∧
      ∃ m, s.generalizedDegree names = .ok m) := by
  by_cases hd : s.specs.directed = true
  · exact .inl ⟨hd, (C11_model_generalized_degree_errors s names).1 hd⟩
  · have hd' : s.specs.directed = false := by simpa using hd
    right
    by_cases hex : ∃ l, names = some l ∧ ∃ x ∈ l, s.hasNode x = false
    · obtain ⟨l, hl, hx⟩ := hex
      exact .inl ⟨hd', ⟨l, hl, hx⟩, (C11_model_generalized_degree_errors s names).2 hd' l hl hx⟩
    · right
      have hn : ∀ x ∈ requestedU s names, s.hasNode x = true :=
        requestedU_forall s names _ (requestedU_none s h) fun l hl x hx =>
          Classical.byContradiction fun hxn => hex ⟨l, hl, x, hx, Bool.eq_false_iff.2 hxn⟩
      obtain ⟨m, hm, _⟩ := C11_model_generalized_degree s h hd' names hn
      exact ⟨hd', hn, m, hm⟩

theorem C11_model_generalized_degree_no_panic (s : Store) (h : s.wf = true) (names : Option (List Nat)) :
    (s.generalizedDegree names).isPanic = false := by
  rcases C11_model_generalized_degree_outcome s h names with ⟨_, e⟩ | ⟨_, _, e⟩ | ⟨_, _, m, e⟩ <;> rw [e] <;> rfl

/-- non-vacuity: a triangle 3-5-6 with a pendant node 1, a self-loop at 3 and an isolated node 7 satisfies the hypotheses
    (all nodes, a subset with a repeated name, the empty list); the model's answers and the definition's histograms — at
    node 3 the definition lists `[(1, 2), (0, 1)]` and the model its key-sorted form `[(0, 1), (1, 2)]` -/
example :
    let s := (Store.run ⟨false, false, true, .error, .create, .error⟩
      [Op.addEdgeTuple 3 5, Op.addEdgeTuple 5 6, Op.addEdgeTuple 3 6, Op.addEdgeTuple 1 3, Op.addEdgeTuple 3 3,
       Op.addNode ⟨7, none⟩]).1
    s.wf = true ∧ s.specs.directed = false ∧
    (∀ x ∈ requestedU s none, s.hasNode x = true) ∧ (∀ x ∈ requestedU s (some [3, 1, 3]), s.hasNode x = true) ∧
    (∀ x ∈ requestedU s (some []), s.hasNode x = true) ∧
    (s.generalizedDegree none).toOption = some [(3, [(0, 1), (1, 2)]), (5, [(1, 2)]), (6, [(1, 2)]), (1, [(0, 1)]), (7, [])] ∧
    (s.generalizedDegree (some [3, 1, 3])).toOption = some [(3, [(0, 1), (1, 2)]), (1, [(0, 1)])] ∧
    (s.generalizedDegree (some [])).toOption = (s.generalizedDegree none).toOption ∧
    s.abs.generalizedDegreeAt 3 = [(1, 2), (0, 1)] ∧ s.abs.generalizedDegreeAt 7 = [] ∧
    (s.generalizedDegree (some [1, 9])).isErr = true := by
  decide +kernel

end Graphrs
