/-
  Source tie for C12 (translator `tools/formulas.py`): the per-community expression of `modularity` in
  src/algorithms/community/partitions.rs together with its `m` and `norm`, regenerated into `Generated/FormulasC12.lean`,
  is Newman's term (`Louvain.termDirected` / `termUndirected`, the summand of `Abs.modularitySpec`);
  `C12_src_model_expressions` writes the four expressions out as they stand in the text of `Store.modularity`
  (Model/Community.lean).
-/
import GraphrsModel.Generated.FormulasC12
import GraphrsModel.Model.Louvain
import Mathlib.Tactic.Ring
import Mathlib.Tactic.FieldSimp
import Mathlib.Algebra.Order.Field.Rat
namespace Graphrs

/-- directed: L_c/m − γ·out_c·in_c/m² -/
theorem C12_src_contribution_directed (lc m res o i : Rat) (hm : m ≠ 0) :
    Src.C12.contribution lc m res o i (Src.C12.normDirected m) = Louvain.termDirected m res lc o i := by
  unfold Src.C12.contribution Src.C12.normDirected Louvain.termDirected
  field_simp

/-- undirected: with m = Σdeg/2 and out = in = deg_c: L_c/m − γ·(deg_c/2m)² -/
theorem C12_src_contribution_undirected (lc degSum res d : Rat) (h : degSum ≠ 0) :
    Src.C12.contribution lc (Src.C12.mUndirected degSum) res d d (Src.C12.normUndirected degSum) =
      Louvain.termUndirected (Src.C12.mUndirected degSum) res lc d := by
  unfold Src.C12.contribution Src.C12.normUndirected Src.C12.mUndirected Louvain.termUndirected
  field_simp

/-- `(1/m)²` as the model writes it; both are 0 at `m = 0` -/
private theorem sq_inv (m : Rat) : (1 / m) ^ 2 = (if m == 0 then (0 : Rat) else 1 / m * (1 / m)) := by
  by_cases h : m = 0
  · subst h; simp
  · rw [if_neg (by simpa using h)]; ring

/-- the expressions as `Store.modularity` (Model/Community.lean) writes them -/
theorem C12_src_model_expressions (lc m res o i nm degSum : Rat) :
    Src.C12.contribution lc m res o i nm = lc / m - res * o * i * nm ∧
    Src.C12.normDirected m = (if m == 0 then (0 : Rat) else (1 / m) * (1 / m)) ∧
    Src.C12.mUndirected degSum = degSum / 2 ∧
    Src.C12.normUndirected degSum = (if degSum == 0 then (0 : Rat) else (1 / degSum) * (1 / degSum)) :=
  ⟨rfl, sq_inv m, rfl, sq_inv degSum⟩

end Graphrs
