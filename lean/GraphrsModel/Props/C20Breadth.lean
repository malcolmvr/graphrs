/-
  C20 breadth — no model of a public function panics on a well-formed store.

  In the executable models every `unwrap`, slice index and `usize` subtraction of the Rust code is an explicit
  `Outcome.panic site`.  Props/C20.lean and Props/C20Model.lean prove "no panic on any well-formed store" for the read API
  of query.rs, `bfs_equal_size_partitions`, betweenness, closeness (hop count), strong components, Louvain,
  single_source (non-negative weights) and modularity.  This file (with its parts C20BreadthBase / Core / Cluster / Eigen /
  Paths) closes the list: EVERY remaining model function that models a `pub fn` of the crate
  (tools/pubfns_covered.txt) has a theorem

      theorem C20_model_<name>_no_panic (s : Store) (h : s.wf = true) (args...) : (s.<fn> args).isPanic = false

  with no hypothesis besides `s.wf = true` - absent names, the wrong graph kind, empty subsets, every `k`, NaN and
  negative weights are all covered - and, for the functions that have no error channel in the crate
  (`-> Vec<T>` / `-> HashMap<..>`), "names that exist" (as the quantifier of C20 says).

  Negative weights.  On the directed graph 1 -5-> 2, 1 -6-> 3, 3 -(-10)-> 2 (well-formed, reachable, all names exist)
  `single_source(weighted)` returns Err(ContradictoryPaths) through its Result.  Before the crate's `fix:` commit
  `all_pairs(.., with_paths = true)`, `multi_source` and `get_all_shortest_paths_involving` `unwrap`ped that Err and
  panicked; since then the per-source iterators yield Results and `all_pairs` / `multi_source` propagate the first error
  with `?`.  The model mirrors that code, and the statement holds at full strength:
  `C20_model_shortest_paths_no_panic_full` has no hypothesis on weights, and `C20_negative_weights_repaired` evaluates the
  three functions on that very store (`.err .ContradictoryPaths`, `.err .ContradictoryPaths`, `.ok []`).

  function of the crate (model function)                      theorem                                             hypotheses beyond wf
  ----------------------------------------------------------  --------------------------------------------------  --------------------
  query.rs
    get_edge, get_edges                                       C20_pair_queries_no_panic (C20.lean)                -
    get_edges_for_node, get_in/out_edges_for_node             C20_node_edge_lists_no_panic (C20.lean)             -
    get_edges_for_nodes, get_in/out_edges_for_nodes           C20_node_set_queries_no_panic (C20.lean)            -
    get_successor/predecessor/neighbor_nodes (+ *_node_names) C20_adjacency_queries_no_panic (C20.lean)           -
    get_successors_or_neighbors (-> Vec)                      C20_succ_or_nbrs_no_panic (C20.lean)                name exists
    breadth_first_search (-> Vec)                             C20_model_bfs_no_panic                              name exists
    get_node_index                                            C20_model_getNodeIndex_no_panic                     - (not even wf)
    get_node, get_node_by_index, has_node(s), get_all_*,      total by type (Option / Bool / List / Nat: the model
    edges_have_weight, number_of_*, size, get_*_map             has no `Outcome`, hence no panic site)
  degree.rs
    get_node_*degree (Option)                                 total by type; values: C09_model_degree, C20_absent_name_channel
    get_(in_/out_)degree_for_all_nodes, weighted degree map   C20_degree_maps_no_panic (C20.lean)                  -
    get_weighted_in/out_degree_for_all_nodes                  C20_model_weighted_in_out_degree_maps_no_panic      -
  density.rs get_density, centrality/degree.rs                total by type (Option Rat) / C20_degree_maps_no_panic
  matrix.rs get_sparse_adjacency_matrix (triplets)            C20_degree_maps_no_panic (C20.lean)                 -
  ensure.rs ensure_*                                          C20_model_ensure_no_panic                           - (not even wf)
  convert.rs / subgraph.rs
    get_subgraph                                              C20_model_subgraph_no_panic (+ result wf)           -
    reverse                                                   C20_model_reverse_no_panic (+ result wf)            -
    set_all_edge_weights                                      C20_model_set_all_edge_weights_no_panic (+ wf)      -
    to_single_edges                                           C20_model_to_single_edges_no_panic (+ result wf)    -
  creation.rs
    add_node(s), add_edge(s), add_edge_tuple(s)               C20_model_mutations_no_panic (`poisoned` never set) -
    new_from_nodes_and_edges                                  C20_model_new_from_no_panic                         - (not even wf)
  components
    connected_components                                      C20_model_connected_components_no_panic             -
    number_of_connected_components                            C20_model_number_of_connected_components_no_panic   -
    node_connected_component                                  C20_model_node_connected_component_no_panic         -
    weakly_connected_components                               C20_model_weak_components_no_panic                  -
    strongly_connected_components                             C20_model_strong_components_no_panic (C20Model)     -
    bfs_equal_size_partitions                                 C20_equal_size_no_panic (C20.lean)                  k ≥ 1
  cluster
    triangles                                                 C20_model_triangles_no_panic                        -
    generalized_degree                                        C20_model_generalized_degree_no_panic (C11GenDeg)   -
    transitivity                                              C20_model_transitivity_no_panic                     -
    clustering (unweighted)                                   C20_model_clustering_unweighted_no_panic            -
    clustering (weighted), every scalar / Float               C20_model_clustering_weighted_no_panic / _float_    -
    average_clustering                                        `averageOfG` is total by type (over the coefficients above)
    square_clustering (-> HashMap), both graph kinds          C20_model_square_clustering_no_panic                names exist
    helpers in private modules (not reachable from outside the crate):
      get_neighbors_of_nodes                                  C20_model_neighbors_of_nodes_no_panic               names exist
      get_adjacent_nodes_without                              C20_model_adjacent_nodes_without_no_panic           directed, name exists
                                                              (panics on an undirected graph: `example` in Cluster part)
      get_triangles_and_degrees                               C20_model_triangles_and_degrees_no_panic            undirected, names exist
      get_directed_triangles_and_degrees                      C20_model_directed_triangles_and_degrees_no_panic   directed, names exist
      get_weighted_triangles_and_degrees                      C20_model_weighted_triangles_and_degrees_no_panic   names exist
      get_directed_weighted_triangles_and_degrees             C20_model_all_directed_triangles_no_panic           directed, lists of nodes
      get_normalized_edge_weight                              total by type
  centrality
    betweenness_centrality                                    C20_model_betweenness_no_panic (C20Model)           -
    closeness_centrality, both modes                          C20_model_closeness_any_no_panic                    -
    degree_centrality                                         C20_degree_maps_no_panic (C20.lean)                 -
    eigenvector_centrality, every scalar / Float              C20_model_eigenvector_no_panic / _float_            -
  community
    louvain_partitions / louvain_communities                  C20_model_louvain_no_panic (C20Model)               -
    modularity                                                C20_model_modularity_no_panic (C20Model)            communities duplicate-free (HashSet)
    is_partition                                              total by type (Bool)
  shortest_path/dijkstra.rs
    single_source                                             C20_model_single_source_any_no_panic                -  (any weights, any target)
    multi_source                                              C20_model_multi_source_no_panic                     -  (any weights, absent names)
    all_pairs                                                 C20_model_all_pairs_no_panic                        -  (any weights, absent target)
    get_all_shortest_paths_involving (-> Vec)                 C20_model_paths_involving_no_panic                  -  (any name, present or absent)
      ... all three, at full strength                         C20_model_shortest_paths_no_panic_full              -
      ... absent source / target: the error kinds             C20_model_shortest_paths_absent_channel             -
      ... the negative-weight store above                     C20_negative_weights_repaired                       (closed fact)
      ... values (not ContradictoryPaths) for weights ≥ 0     C20B.singleSource_ok, C20B.idxArcs_nonneg_of_wf     Store.costsOk
    contains_path_through_node                                total by type (Bool)
  generators
    complete_graph                                            C20_model_complete_graph_no_panic (+ result wf)     - (every n, both kinds)
    fast_gnp_random_graph                                     C20_model_fast_gnp_no_panic                         - (every n, every skip sequence)
    karate_club_graph                                         C20_model_karate_no_panic                           -
  readwrite/graphml.rs
    read_graphml_string / _file (on the event list)           C20_model_read_graphml_no_panic                     - (every event list)
    write_graphml_string / _file                              `writeEvents` is total by type
  edge.rs, node.rs, graph_specs.rs, adjacent_node.rs          constructors: total by type
-/
import GraphrsModel.Props.C20BreadthCore
import GraphrsModel.Props.C20BreadthCluster
import GraphrsModel.Props.C20BreadthEigen
import GraphrsModel.Props.C20BreadthPaths
namespace Graphrs
open LouvainFull

/-- **C20 breadth, collected**: on every well-formed store - of any of the 8 kinds, the empty graph included - and for
    EVERY argument (names present or absent, any subset, any weights, any iteration count, any scalar), none of the models
    of the public functions that return a `Result` reaches a panic site - the shortest-path functions included, whatever
    the weights.  (Functions without an error channel, on names that exist: `C20_breadth_summary_names`.) -/
theorem C20_breadth_summary (s : Store) (h : s.wf = true) (x y : Nat) (S : List Nat) (names : Option (List Nat)) (w : W)
    (weighted flag : Bool) (target : Option Nat) (cutoff2 : Option Int) (firstOnly withPaths : Bool) (maxIter : Nat)
    (tol : Float) (res thr : Rat) (perms : List (List Nat)) (sources : List Nat) :
    -- query / degree / matrix (C20.lean)
    (s.getEdge x y).isPanic = false ∧ (s.getEdges x y).isPanic = false ∧
    (s.getEdgesForNode x).isPanic = false ∧ (s.getInEdgesForNode x).isPanic = false ∧ (s.getOutEdgesForNode x).isPanic = false ∧
    (s.getEdgesForNodes S).isPanic = false ∧ (s.getInEdgesForNodes S).isPanic = false ∧ (s.getOutEdgesForNodes S).isPanic = false ∧
    (s.getSuccessorNodes x).isPanic = false ∧ (s.getPredecessorNodes x).isPanic = false ∧ (s.getNeighborNodes x).isPanic = false ∧
    s.getDegreeForAllNodes.isPanic = false ∧ s.getInDegreeForAllNodes.isPanic = false ∧ s.getOutDegreeForAllNodes.isPanic = false ∧
    s.getWeightedDegreeForAllNodes.isPanic = false ∧ s.getWeightedInDegreeForAllNodes.isPanic = false ∧
    s.getWeightedOutDegreeForAllNodes.isPanic = false ∧ s.getAdjacencyTriplets.isPanic = false ∧
    -- derived graphs
    (s.getSubgraph S).isPanic = false ∧ s.reverse.isPanic = false ∧ (s.setAllEdgeWeights w).isPanic = false ∧
    s.toSingleEdges.isPanic = false ∧
    -- components
    s.connectedComponents.isPanic = false ∧ s.numberOfConnectedComponents.isPanic = false ∧
    (s.nodeConnectedComponent x).isPanic = false ∧ s.weaklyConnectedComponents.isPanic = false ∧
    s.stronglyConnectedComponents.isPanic = false ∧
    -- cluster
    (s.triangles names).isPanic = false ∧ (s.generalizedDegree names).isPanic = false ∧ s.transitivity.isPanic = false ∧
    (s.clusteringUnweighted names).isPanic = false ∧ (s.clusteringWeighted names).isPanic = false ∧
    -- centrality
    s.degreeCentrality.isPanic = false ∧ (s.betweenness weighted flag).isPanic = false ∧
    (s.closeness weighted flag).isPanic = false ∧ (s.eigenvector weighted maxIter tol).isPanic = false ∧
    -- community
    (louvainPartitions s weighted res thr perms).isPanic = false ∧
    -- shortest paths
    (s.singleSource weighted x target cutoff2 firstOnly withPaths).isPanic = false ∧
    (s.multiSource weighted sources target cutoff2 firstOnly withPaths).isPanic = false ∧
    (s.allPairs weighted target cutoff2 firstOnly withPaths).isPanic = false ∧
    (s.pathsInvolving x weighted).isPanic = false := by
  obtain ⟨a1, a2⟩ := C20_pair_queries_no_panic s h x y
  obtain ⟨b1, b2, b3⟩ := C20_node_edge_lists_no_panic s h x
  obtain ⟨c1, c2, c3⟩ := C20_node_set_queries_no_panic s S
  obtain ⟨d1, d2, d3⟩ := C20_adjacency_queries_no_panic s h x
  obtain ⟨e1, e2, e3, e4, e5, e6⟩ := C20_degree_maps_no_panic s h
  obtain ⟨f1, f2⟩ := C20_model_weighted_in_out_degree_maps_no_panic s h
  exact ⟨a1, a2, b1, b2, b3, c1, c2, c3, d1, d2, d3, e1, e2, e3, e4, f1, f2, e6,
    (C20_model_subgraph_no_panic s h S).1, (C20_model_reverse_no_panic s h).1,
    (C20_model_set_all_edge_weights_no_panic s h w).1, (C20_model_to_single_edges_no_panic s h).1,
    C20_model_connected_components_no_panic s h, C20_model_number_of_connected_components_no_panic s h,
    C20_model_node_connected_component_no_panic s h x, C20_model_weak_components_no_panic s h,
    C20_model_strong_components_no_panic s h,
    C20_model_triangles_no_panic s h names, C20_model_generalized_degree_no_panic s h names,
    C20_model_transitivity_no_panic s h, C20_model_clustering_unweighted_no_panic s h names,
    C20_model_clustering_weighted_float_no_panic s h names,
    e5, C20_model_betweenness_no_panic s h weighted flag, C20_model_closeness_any_no_panic s h weighted flag,
    C20_model_eigenvector_float_no_panic s h weighted maxIter tol,
    C20_model_louvain_no_panic s h weighted res thr perms,
    C20_model_single_source_any_no_panic s h weighted x target cutoff2 firstOnly withPaths,
    C20_model_multi_source_no_panic s h weighted sources target cutoff2 firstOnly withPaths,
    C20_model_all_pairs_no_panic s h weighted target cutoff2 firstOnly withPaths,
    C20_model_paths_involving_no_panic s h x weighted⟩

/-- the functions without an error channel in the crate (`-> Vec<T>`, `-> HashMap<T, f64>`), on names that exist, and
    `bfs_equal_size_partitions` for `k ≥ 1` -/
theorem C20_breadth_summary_names (s : Store) (h : s.wf = true) (x : Nat) (hx : s.hasNode x = true) (S : List Nat)
    (hS : ∀ y ∈ S, s.hasNode y = true) (k : Nat) (hk : 0 < k) :
    (s.getSuccessorsOrNeighbors x).isPanic = false ∧ (s.breadthFirstSearch x).isPanic = false ∧
    (s.squareClustering none).isPanic = false ∧ (s.squareClustering (some S)).isPanic = false ∧
    (s.bfsEqualSizePartitions k).isPanic = false :=
  ⟨C20_succ_or_nbrs_no_panic s h x hx, C20_model_bfs_no_panic s h x hx,
   C20_model_square_clustering_no_panic s h none (fun l hl => by cases hl),
   C20_model_square_clustering_no_panic s h (some S) (fun l hl => by cases hl; exact hS),
   C20_equal_size_no_panic s h k hk⟩

/-- `multi_source`, `all_pairs`, `get_all_shortest_paths_involving`: no hypothesis besides `wf` - both modes, any weights
    (negative and NaN included), absent sources / targets / names included -/
theorem C20_breadth_summary_paths (s : Store) (h : s.wf = true) (weighted : Bool)
    (sources : List Nat) (x : Nat) (target : Option Nat) (cutoff2 : Option Int) (firstOnly withPaths : Bool) :
    (s.multiSource weighted sources target cutoff2 firstOnly withPaths).isPanic = false ∧
    (s.allPairs weighted target cutoff2 firstOnly withPaths).isPanic = false ∧
    (s.pathsInvolving x weighted).isPanic = false :=
  C20_model_shortest_paths_no_panic_full s h weighted sources x target cutoff2 firstOnly withPaths

/-- generators, construction and the GraphML reader: no store is given, nothing is assumed -/
theorem C20_breadth_summary_constructors (n : Nat) (m : Int) (directed : Bool) (skips : List Int) (sp : Specs)
    (ns : List Node) (es : List Edge) (evs : List Xml.Event) :
    (completeGraph n directed).isPanic = false ∧ (fastGnp m directed skips).isPanic = false ∧
    karateGraph.isPanic = false ∧ (Store.newFrom sp ns es).isPanic = false ∧ (Xml.readEvents sp evs).isPanic = false :=
  ⟨(C20_model_complete_graph_no_panic n directed).1, C20_model_fast_gnp_no_panic m directed skips,
   C20_model_karate_no_panic, C20_model_new_from_no_panic sp ns es, C20_model_read_graphml_no_panic sp evs⟩

/-- in particular on the empty graph of EVERY GraphSpecs record -/
theorem C20_breadth_empty_graph (sp : Specs) (x : Nat) (S : List Nat) (names : Option (List Nat))
    (weighted : Bool) (target : Option Nat) (cutoff2 : Option Int) (firstOnly withPaths : Bool) (maxIter : Nat)
    (tol : Float) :
    ((Store.new sp).triangles names).isPanic = false ∧ (Store.new sp).transitivity.isPanic = false ∧
    ((Store.new sp).clusteringUnweighted names).isPanic = false ∧ ((Store.new sp).clusteringWeighted names).isPanic = false ∧
    (Store.new sp).connectedComponents.isPanic = false ∧ (Store.new sp).weaklyConnectedComponents.isPanic = false ∧
    ((Store.new sp).eigenvector weighted maxIter tol).isPanic = false ∧
    ((Store.new sp).allPairs weighted target cutoff2 firstOnly withPaths).isPanic = false ∧
    ((Store.new sp).multiSource weighted S target cutoff2 firstOnly withPaths).isPanic = false ∧
    ((Store.new sp).pathsInvolving x weighted).isPanic = false := by
  have h := C01_new_wf sp
  have hp := C20_breadth_summary_paths (Store.new sp) h weighted S x target cutoff2 firstOnly withPaths
  exact ⟨C20_model_triangles_no_panic _ h names, C20_model_transitivity_no_panic _ h,
    C20_model_clustering_unweighted_no_panic _ h names, C20_model_clustering_weighted_float_no_panic _ h names,
    C20_model_connected_components_no_panic _ h, C20_model_weak_components_no_panic _ h,
    C20_model_eigenvector_float_no_panic _ h weighted maxIter tol, hp.2.1, hp.1, hp.2.2⟩

/-- non-vacuity: a directed multigraph with parallel arcs, a self-loop, a NEGATIVE and a NaN weight and an isolated node,
    and an undirected graph with a self-loop, satisfy the only hypothesis (`wf`); the second one also satisfies `costsOk`
    (the hypothesis of the value-level lemmas `C20B.singleSource_ok` / `C20B.idxArcs_nonneg_of_wf`) -/
example :
    (Store.run ⟨true, true, true, .keepFirst, .create, .drop⟩
      [Op.addEdge ⟨1, 2, some 2, none⟩, Op.addEdge ⟨1, 2, some (-3), none⟩, Op.addEdge ⟨2, 2, none, none⟩,
       Op.addNode ⟨7, none⟩]).1.wf = true ∧
    (Store.run ⟨false, false, true, .keepFirst, .create, .drop⟩
      [Op.addEdge ⟨3, 1, some 2, none⟩, Op.addEdge ⟨3, 3, some 0, none⟩, Op.addNode ⟨7, none⟩]).1.wf = true ∧
    (∀ e ∈ (Store.run ⟨false, false, true, .keepFirst, .create, .drop⟩
      [Op.addEdge ⟨3, 1, some 2, none⟩, Op.addEdge ⟨3, 3, some 0, none⟩, Op.addNode ⟨7, none⟩]).1.allEdges,
        ∃ c, e.w = some c ∧ 0 ≤ c) := by
  refine ⟨Core_reachable_wf _ _, Core_reachable_wf _ _, ?_⟩
  decide

end Graphrs
