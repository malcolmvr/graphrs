/-
  C10 — component functions partition the nodes by the right reachability relation.

  The checkers of Spec/Components.lean are what `tools/check.py` runs on the real implementation's answers
  (connected / weakly / strongly connected components, node component, BFS, equal-size partitions) and on the
  model's; here they are proved sound: an accepted answer *is* the partition the property describes.  Then
  `ReachR` (reachability along a neighbour function) is defined and the pure level search of Lemmas/C10Bfs.lean is
  proved to list, start node first, exactly the reachable nodes (`C10M.BfsInv`, `C10M.lvBfs_correct`); the two
  search loops of the model are instances (`C10_bfs_correct`, `C10_bfs_ordered_correct`).  The strong-components
  algorithm is proved correct in Props/C10Model.lean (`C10_model_strong_components`).  Namespace `C10M` holds the
  helper lemmas of the C10 theorems.
-/
import GraphrsModel.Lemmas.ListSet
import GraphrsModel.Lemmas.Outcome
import GraphrsModel.Lemmas.C10Bfs
import GraphrsModel.ObsComp
import Mathlib.Data.List.Perm.Subperm
namespace Graphrs

namespace C10M

theorem nodup_of_length_dedup {α} [DecidableEq α] {l : List α} (h : (dedup l).length = l.length) : l.Nodup :=
  have hsub : (dedup l).Subperm l := (nodup_dedup l).subperm fun x hx => (mem_dedup l x).mp hx
  (hsub.perm_of_length_le (Nat.le_of_eq h.symm)).nodup_iff.mp (nodup_dedup l)

theorem perm_of_sortNat_eq {a b : List Nat} (h : sortNat a = sortNat b) : a.Perm b :=
  (sortNat_perm a).symm.trans (h ▸ sortNat_perm b)

theorem flat_nodup_unique (comps : List (List Nat)) (hnd : (comps.flatMap id).Nodup)
    {c c' : List Nat} (hc : c ∈ comps) (hc' : c' ∈ comps) {x : Nat} (hx : x ∈ c) (hx' : x ∈ c') :
    c = c' := by
  induction comps with
  | nil => cases hc
  | cons d ds ih =>
    rw [List.flatMap_cons, List.nodup_append] at hnd
    obtain ⟨_, hds, hdisj⟩ := hnd
    have hflat : ∀ e ∈ ds, x ∈ e → x ∈ ds.flatMap id := fun e he hxe =>
      List.mem_flatMap.mpr ⟨e, he, hxe⟩
    rcases List.mem_cons.mp hc with rfl | hc1
    · rcases List.mem_cons.mp hc' with rfl | hc2
      · rfl
      · exact absurd rfl (hdisj x hx x (hflat _ hc2 hx'))
    · rcases List.mem_cons.mp hc' with rfl | hc2
      · exact absurd rfl (hdisj x hx' x (hflat _ hc1 hx))
      · exact ih hds hc1 hc2

theorem ite_some_eq_none {α} {c : Prop} [Decidable c] {a : α} {r : Option α} :
    (if c then some a else r) = none ↔ ¬c ∧ r = none := by
  by_cases hc : c
  · rw [if_pos hc]; exact ⟨fun h => (nomatch h), fun h => absurd hc h.1⟩
  · rw [if_neg hc]; exact ⟨fun h => ⟨hc, h⟩, fun h => h.2⟩

end C10M

/-- **soundness of the partition checker**: non-empty, pairwise disjoint sets that together contain every node exactly
    once, two nodes of one set are related, and related nodes share a set -/
theorem C10_checkPartitionBy_sound (nodes : List Nat) (rel : Nat → Nat → Bool) (comps : List (List Nat))
    (h : checkPartitionBy nodes rel comps = none) :
    (∀ c ∈ comps, c ≠ []) ∧ (comps.flatMap id).Nodup ∧ (∀ x, x ∈ comps.flatMap id ↔ x ∈ nodes) ∧
    (∀ c ∈ comps, ∀ x ∈ c, ∀ y ∈ c, rel x y = true) ∧
    (∀ x ∈ nodes, ∀ y ∈ nodes, rel x y = true → ∀ c ∈ comps, x ∈ c → y ∈ c) := by
  simp only [checkPartitionBy, C10M.ite_some_eq_none] at h
  obtain ⟨h1, h2, h3, h4, h5, _⟩ := h
  simp only [bne_iff_ne, ne_eq, Decidable.not_not] at h2 h3
  have hnd : (comps.flatMap id).Nodup := C10M.nodup_of_length_dedup h2.symm
  have hperm : (comps.flatMap id).Perm nodes := C10M.perm_of_sortNat_eq h3
  simp only [List.any_eq_true, not_exists, not_and, Bool.not_eq_true', Bool.not_eq_false,
    Bool.and_eq_true, bne_iff_ne, ne_eq, Decidable.not_not, List.isEmpty_iff] at h1 h4 h5
  have hfind : ∀ z ∈ nodes, ∃ d, comps.find? (·.contains z) = some d ∧ d ∈ comps ∧ z ∈ d := by
    intro z hz
    obtain ⟨e, he, hze⟩ := List.mem_flatMap.mp (hperm.mem_iff.mpr hz)
    cases hf : comps.find? (·.contains z) with
    | none => exact absurd (List.contains_iff_mem.mpr hze) (List.find?_eq_none.mp hf e he)
    | some d =>
      exact ⟨d, rfl, List.mem_of_find?_eq_some hf,
        List.contains_iff_mem.mp (List.find?_some (p := fun d : List Nat => d.contains z) hf)⟩
  refine ⟨h1, hnd, fun x => hperm.mem_iff, ?_, ?_⟩
  · intro c hc x hx y hy
    have := h4 c hc x hx y hy
    simpa using this
  · intro x hx y hy hrel c hc hxc
    obtain ⟨d, hfd, hd, hxd⟩ := hfind x hx
    obtain ⟨e, hfe, he, hye⟩ := hfind y hy
    have h := h5 x hx y hy hrel
    rw [hfd, hfe] at h
    have hde : d.Perm e := C10M.perm_of_sortNat_eq (Option.some.inj h)
    rw [C10M.flat_nodup_unique comps hnd hc hd hxc hxd]
    exact hde.mem_iff.mpr hye

/-- soundness of the equal-size checker: k parts, every node in exactly one, each of size at most n/k + 1 -/
theorem C10_checkEqualSize_sound (nodes : List Nat) (k : Nat) (parts : List (List Nat))
    (h : checkEqualSize nodes k parts = none) :
    parts.length = k ∧ (parts.flatMap id).Perm nodes ∧ ∀ p ∈ parts, p.length ≤ nodes.length / k + 1 := by
  simp only [checkEqualSize, C10M.ite_some_eq_none] at h
  obtain ⟨h1, h2, h3, _⟩ := h
  simp only [bne_iff_ne, ne_eq, Decidable.not_not] at h1 h2
  refine ⟨h1, C10M.perm_of_sortNat_eq h2, fun p hp => ?_⟩
  simp only [List.any_eq_true, not_exists, not_and, decide_eq_true_eq] at h3
  exact Nat.le_of_not_gt (h3 p hp)

/-- soundness of the BFS checker: the start node first, no repeats, exactly the given reachable set -/
theorem C10_checkBfs_sound (reach : List Nat) (x : Nat) (out : List Nat) (h : checkBfs reach x out = none) :
    out.head? = some x ∧ out.Nodup ∧ out.Perm reach := by
  simp only [checkBfs, C10M.ite_some_eq_none] at h
  obtain ⟨h1, h2, h3, _⟩ := h
  simp only [bne_iff_ne, ne_eq, Decidable.not_not] at h1 h2 h3
  exact ⟨h1, C10M.nodup_of_length_dedup h2.symm, C10M.perm_of_sortNat_eq h3⟩

/-- the arithmetic behind `partition_max_size = n / k + 1`: k parts of that size have room for all n nodes
    (core's `Nat.lt_mul_div_succ`) -/
theorem C10_equal_size_arith (n k : Nat) (hk : 0 < k) : n < k * (n / k + 1) :=
  Nat.lt_mul_div_succ n hk

/-- reachability along a neighbour function -/
inductive ReachR (nb : Nat → List Nat) : Nat → Nat → Prop
  | refl (x : Nat) : ReachR nb x x
  | step {x y z : Nat} : ReachR nb x y → z ∈ nb y → ReachR nb x z

namespace C10M

/-- the loop invariant: `seen` lists nodes reachable from `x` without repeats, `x` first, the pending level holds
    reachable nodes, and `seen` is closed under `nb` up to that level -/
structure BfsInv (nb : Nat → List Nat) (x : Nat) (level seen : List Nat) : Prop where
  nodup : seen.Nodup
  seenR : ∀ y ∈ seen, ReachR nb x y
  levelR : ∀ y ∈ level, ReachR nb x y
  closed : ∀ y ∈ seen, ∀ z ∈ nb y, z ∈ seen ∨ z ∈ level
  head : (seen = [] ∧ level = [x]) ∨ seen.head? = some x

theorem BfsInv.done {nb : Nat → List Nat} {x : Nat} {level seen : List Nat} (h : BfsInv nb x level seen)
    (hdone : ∀ y ∈ level, y ∈ seen) :
    seen.head? = some x ∧ seen.Nodup ∧ ∀ y, y ∈ seen ↔ ReachR nb x y := by
  have hh : seen.head? = some x := by
    rcases h.head with ⟨h1, h2⟩ | h
    · have : x ∈ seen := hdone x (by rw [h2]; exact List.mem_singleton.mpr rfl)
      rw [h1] at this; cases this
    · exact h
  refine ⟨hh, h.nodup, fun y => ⟨h.seenR y, ?_⟩⟩
  intro hy
  induction hy with
  | refl => exact List.mem_of_head? hh
  | step _ hz ih => exact (h.closed _ ih _ hz).elim id (hdone _)

/-- a round that adds nothing empties the next level, any other round lengthens `seen`, which cannot grow beyond
    `names`: with fuel above the number of names the search ends by itself, with the answer -/
theorem lvBfs_spec (emit : Nat → List Nat) (grow : List Nat → Nat → List Nat) (pre : List Nat → List Nat)
    (nb : Nat → List Nat) (x : Nat) (names : List Nat)
    (hpre : ∀ l y, y ∈ pre l ↔ y ∈ l)
    (hgrow : ∀ v, ReachR nb x v → ∀ next y, y ∈ grow next v ↔ y ∈ next ∨ y ∈ nb v)
    (hnames : ∀ v, ReachR nb x v → v ∈ names) :
    ∀ (fuel : Nat) (level seen out : List Nat), BfsInv nb x level seen →
      ((∀ y ∈ level, y ∈ seen) ∨ names.length < seen.length + fuel) →
      ∃ ext, lvBfs emit grow pre fuel level seen out = out ++ ext.flatMap emit ∧
        (seen ++ ext).head? = some x ∧ (seen ++ ext).Nodup ∧ ∀ y, y ∈ seen ++ ext ↔ ReachR nb x y := by
  intro fuel
  have hstop : ∀ (level seen out : List Nat), BfsInv nb x level seen → (∀ y ∈ level, y ∈ seen) →
      ∃ ext, out = out ++ ext.flatMap emit ∧
        (seen ++ ext).head? = some x ∧ (seen ++ ext).Nodup ∧ ∀ y, y ∈ seen ++ ext ↔ ReachR nb x y :=
    fun level seen out h hdone => ⟨[], (List.append_nil out).symm, by rw [List.append_nil]; exact h.done hdone⟩
  induction fuel with
  | zero =>
    intro level seen out h hfuel
    rcases hfuel with hdone | hlt
    · exact hstop level seen out h hdone
    · exact absurd hlt (Nat.not_lt.mpr (h.nodup.subperm fun y hy => hnames y (h.seenR y hy)).length_le)
  | succ fuel ih =>
    intro level seen out h hfuel
    rw [lvBfs]
    by_cases hemp : level.isEmpty = true
    · rw [if_pos hemp]
      refine hstop level seen out h ?_
      rw [List.isEmpty_iff.mp hemp]
      exact fun y hy => nomatch hy
    · rw [if_neg hemp]
      have hplevel : ∀ v ∈ pre level, ReachR nb x v := fun v hv => h.levelR v ((hpre level v).mp hv)
      obtain ⟨ext, next', hf, hnd', hsub, hcov, hnext⟩ :=
        lvLevel_spec emit grow nb (pre level) (fun v hv => hgrow v (hplevel v hv)) seen out []
      simp only [hf]
      have hext : ∀ v ∈ ext, ReachR nb x v := fun v hv => hplevel v (hsub v hv)
      obtain ⟨ext2, e1, e2, e3, e4⟩ := ih next' (seen ++ ext) (out ++ ext.flatMap emit)
        { nodup := hnd' h.nodup
          seenR := fun y hy => (List.mem_append.mp hy).elim (h.seenR y) (hext y)
          levelR := fun y hy => by
            obtain ⟨v, hv, hyv⟩ := ((hnext y).mp hy).resolve_left (List.not_mem_nil)
            exact ReachR.step (hext v hv) hyv
          closed := fun y hy z hz => by
            rcases List.mem_append.mp hy with hy | hy
            · exact Or.inl ((h.closed y hy z hz).elim (List.mem_append_left _)
                fun hz' => hcov z ((hpre level z).mpr hz'))
            · exact Or.inr ((hnext z).mpr (Or.inr ⟨y, hy, hz⟩))
          head := Or.inr (by
            rcases h.head with ⟨hs, hl⟩ | hh
            · subst hs
              have hx : x ∈ [] ++ ext := hcov x ((hpre level x).mpr (by rw [hl]; exact List.mem_singleton.mpr rfl))
              cases ext with
              | nil => cases hx
              | cons a t =>
                have ha : a ∈ level := (hpre level a).mp (hsub a List.mem_cons_self)
                rw [hl, List.mem_singleton] at ha
                rw [ha]; rfl
            · cases seen with
              | nil => cases hh
              | cons a t => exact hh) }
        (by
          cases ext with
          | nil =>
            left
            intro y hy
            obtain ⟨v, hv, _⟩ := ((hnext y).mp hy).resolve_left (List.not_mem_nil)
            cases hv
          | cons a t =>
            right
            rcases hfuel with hdone | hlt
            · have ha : a ∈ seen := hdone a ((hpre level a).mp (hsub a List.mem_cons_self))
              exact absurd rfl ((List.nodup_append.mp (hnd' h.nodup)).2.2 a ha a List.mem_cons_self)
            · rw [List.length_append, List.length_cons]
              omega)
      refine ⟨ext ++ ext2, ?_, ?_, ?_, ?_⟩
      · rw [e1, List.flatMap_append, List.append_assoc]
      · rwa [← List.append_assoc]
      · rwa [← List.append_assoc]
      · rwa [← List.append_assoc]

theorem lvBfs_correct (emit : Nat → List Nat) (grow : List Nat → Nat → List Nat) (pre : List Nat → List Nat)
    (nb : Nat → List Nat) (x : Nat) (names : List Nat)
    (hpre : ∀ l y, y ∈ pre l ↔ y ∈ l)
    (hgrow : ∀ v, ReachR nb x v → ∀ next y, y ∈ grow next v ↔ y ∈ next ∨ y ∈ nb v)
    (hnames : ∀ v, ReachR nb x v → v ∈ names) (fuel : Nat) (hfuel : names.length < fuel) :
    ∃ ext : List Nat, lvBfs emit grow pre fuel [x] [] [] = ext.flatMap emit ∧
      ext.head? = some x ∧ ext.Nodup ∧ ∀ y, y ∈ ext ↔ ReachR nb x y :=
  lvBfs_spec emit grow pre nb x names hpre hgrow hnames fuel [x] [] []
    ⟨List.nodup_nil, fun y hy => (nomatch hy), fun y hy => by rw [List.mem_singleton.mp hy]; exact ReachR.refl x,
      fun y hy => (nomatch hy), Or.inl ⟨rfl, rfl⟩⟩
    (Or.inr (by rw [List.length_nil, Nat.zero_add]; exact hfuel))

/-- both searches of the model at once: `L` is `bfsLevels` (`pre = id`) or `bfsLevelsOrdered` (`pre = sortNat`) -/
theorem bfsLoop_correct (s : Store) (nb : Nat → List Nat) (x : Nat) (out : List Nat) (hx : x ∈ s.getAllNodeNames)
    (hnb : ∀ y ∈ s.getAllNodeNames, ∃ l, s.getSuccessorsOrNeighbors y = .ok l ∧
              (∀ z, z ∈ l.map (·.name) ↔ z ∈ nb y) ∧ (∀ z ∈ nb y, z ∈ s.getAllNodeNames))
    (pre : List Nat → List Nat) (hpre : ∀ l y, y ∈ pre l ↔ y ∈ l)
    (L : Nat → List Nat → List Nat → List Nat → Outcome (List Nat))
    (hL : IsBfsLoop s pre L)
    (h : L (s.numNodes + 2) [x] [] [] = .ok out) :
    out.head? = some x ∧ out.Nodup ∧ ∀ y, y ∈ out ↔ ReachR nb x y := by
  have hnames : ∀ v, ReachR nb x v → v ∈ s.getAllNodeNames := by
    intro v hv
    induction hv with
    | refl => exact hx
    | step _ hz ih =>
      obtain ⟨_, _, _, h3⟩ := hnb _ ih
      exact h3 _ hz
  rw [bfsLoop_eq s pre (fun l y => (hpre l y).mp) L hL
    (fun v hv => (hnb v hv).imp fun l hl => ⟨hl.1, fun z hz => hl.2.2 z ((hl.2.1 z).mp hz)⟩)
    _ _ _ _ (fun v hv => by rw [List.mem_singleton.mp hv]; exact hx)] at h
  obtain ⟨ext, he, h1, h2, h3⟩ := lvBfs_correct (fun v => [v]) (growBy (nblOf s)) pre nb x s.getAllNodeNames hpre
    (fun v hv next y => by
      obtain ⟨l, hl, hm, _⟩ := hnb v (hnames v hv)
      rw [mem_growBy, nblOf, hl, hm])
    hnames (s.numNodes + 2) (length_names_lt s)
  rw [he, List.flatMap_singleton'] at h
  cases h
  exact ⟨h1, h2, h3⟩

end C10M

/-- **`breadthFirstSearch` (levels visited in the order they were collected) is correct on every graph**: whenever it
    answers, it lists the start node first and then every reachable node exactly once.  `nb` is any neighbour function
    `get_successors_or_neighbors` computes up to order and repetition (C02 relates it to the edge list).  The
    hypothesis `hnd` is not used. -/
theorem C10_bfs_correct (s : Store) (nb : Nat → List Nat) (x : Nat) (out : List Nat)
    (hnd : s.getAllNodeNames.Nodup) (hx : x ∈ s.getAllNodeNames)
    (hnb : ∀ y ∈ s.getAllNodeNames, ∃ l, s.getSuccessorsOrNeighbors y = .ok l ∧
              (∀ z, z ∈ l.map (·.name) ↔ z ∈ nb y) ∧ (∀ z ∈ nb y, z ∈ s.getAllNodeNames))
    (h : s.breadthFirstSearch x = .ok out) :
    out.head? = some x ∧ out.Nodup ∧ ∀ y, y ∈ out ↔ ReachR nb x y :=
  have _ := hnd
  C10M.bfsLoop_correct s nb x out hx hnb id (fun _ _ => Iff.rfl) s.bfsLevels (C10M.isBfsLoop_bfsLevels s) h

/-- **`breadthFirstSearchOrdered` (every level visited in name order: the code since the F24 repair,
    `this_level.sort()`) is correct on every graph**: whenever it answers, start node first, every reachable node
    exactly once.  `nb` as in `C10_bfs_correct`; `hnd` is not used. -/
theorem C10_bfs_ordered_correct (s : Store) (nb : Nat → List Nat) (x : Nat) (out : List Nat)
    (hnd : s.getAllNodeNames.Nodup) (hx : x ∈ s.getAllNodeNames)
    (hnb : ∀ y ∈ s.getAllNodeNames, ∃ l, s.getSuccessorsOrNeighbors y = .ok l ∧
              (∀ z, z ∈ l.map (·.name) ↔ z ∈ nb y) ∧ (∀ z ∈ nb y, z ∈ s.getAllNodeNames))
    (h : s.breadthFirstSearchOrdered x = .ok out) :
    out.head? = some x ∧ out.Nodup ∧ ∀ y, y ∈ out ↔ ReachR nb x y :=
  have _ := hnd
  C10M.bfsLoop_correct s nb x out hx hnb sortNat (fun l y => mem_sortNat y l) s.bfsLevelsOrdered
    (C10M.isBfsLoop_bfsLevelsOrdered s) h

/-- The property of `strongly_connected_components` in terms of the Boolean checker and `reachSet`, for every directed
    store, without the coupling invariant.  No theorem proves or refutes it; `C10_model_strong_components`
    (Props/C10Model.lean) proves the partition by mutual `ReachR` for stores satisfying `wf`. -/
def C10_scc_full_statement : Prop :=
  ∀ (s : Store), s.specs.directed = true →
    ∀ comps, s.stronglyConnectedComponents = .ok comps →
      checkPartitionBy s.getAllNodeNames
        (fun p q => (reachSet (fun y => (alookup s.succ y).getD []) s.numNodes p).contains q &&
                    (reachSet (fun y => (alookup s.succ y).getD []) s.numNodes q).contains p) comps = none

/-- non-vacuity of the partition checker -/
example : checkPartitionBy [1, 2, 3] (fun a b => (a == b) || (a != 3 && b != 3)) [[2, 1], [3]] = none := by
  decide

end Graphrs
