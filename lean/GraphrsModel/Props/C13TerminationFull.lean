/-
  C13 — Louvain: the whole step-level model `louvainPartitions` terminates (in exact arithmetic).

  Model/LouvainFull.lean runs `computeOneLevel` with the hard-coded sweep fuel `4 n² + 16` and the level loop with
  the level fuel `n + 2`; both return `.ok none` when the fuel runs out - and also when a `risky` near-tie was met or
  a modularity value is undefined.  This file separates the reasons and proves that fuel is never one of them once
  the sweep fuel is `≥ n^n + 1` and the level fuel `≥ n + 2`.

  * `louvainPartitionsF sweepFuel levelFuel` (Lemmas/LouvainFullDefs.lean) is `louvainPartitions` with the two fuels
    as parameters (`levelLoop` of the model already takes both); `louvainPartitions = louvainPartitionsF (4n²+16) (n+2)`
    (`C13_model_is_F`).
  * `louvainPartitionsW sweepFuel levelFuel` is the same function returning `Except Stop _` instead of `Option _`:
    `Stop.sweepFuel`, `Stop.levelFuel`, `Stop.risky`, `Stop.modularityUndefined` say WHY there is no list of levels;
    erasing the reason gives `louvainPartitionsF` back (`C13_model_W_erase`).

  * Monotonicity (`C13_sweeps_mono`, `C13_computeOneLevel_mono`, `C13_levelLoop_mono`, `C13_model_F_mono`,
     `C13_model_W_mono`): more fuel never changes a result that was not caused by the fuel.
  * Level loop (`C13_level_shrinks`, `C13_levelLoop_level_fuel_suffices`, `C13_model_level_fuel_suffices`): a call
     of `compute_one_level` that reports an improvement returns strictly fewer communities than its graph has nodes
     (a node only moves into a non-empty community, and the first move empties a singleton), so every continuing
     iteration of the level loop strictly decreases the number of nodes of the level graph and the level fuel `n + 2`
     is never exhausted - for every store, `m`, resolution, threshold, shuffle and sweep fuel.
  * `C13_model_terminates`: on every well-formed store without negative weights (NaN allowed; unweighted mode: no
     condition), total weight `m > 0`, `res ≥ 0`, every threshold and shuffle family: with sweep fuel `≥ n^n + 1` and
     level fuel `≥ n + 2`, `louvainPartitionsW` returns `.ok r` with `r` neither `sweepFuel` nor `levelFuel`; hence
     `louvainPartitionsF` returns `.ok none` only for `risky` / `modularityUndefined` (`C13_model_none_reason`) and the
     result does not depend on the fuels (`C13_model_fuel_independent`).  Both are read off `C13_model_stops`.
  * `C13_model_agrees_with_unbounded`: whenever the model with its hard-coded fuels returns `some levels`, every
     larger pair of fuels returns the same levels.
-/
import GraphrsModel.Lemmas.LouvainFullLoop
import GraphrsModel.Props.C13Model
namespace Graphrs
open LouvainFull

/-- the total edge weight of the input as `louvain_partitions` sees it: the sum of the weights (`0` if one is NaN)
    in weighted mode, the number of edges in unweighted mode -/
def LouvainFull.totalWeight (s : Store) (weighted : Bool) : Rat :=
  if weighted then ratW s.sizeWeighted else (s.sizeUnweighted : Rat)

/-! ### the generalised functions are the model -/

/-- **the model is `louvainPartitionsF` at its hard-coded fuels** -/
theorem C13_model_is_F (s : Store) (h : s.wf = true) (weighted : Bool) (res threshold : Rat) (perms : List (List Nat)) :
    louvainPartitions s weighted res threshold perms =
      louvainPartitionsF (4 * s.numNodes * s.numNodes + 16) (s.numNodes + 2) s weighted res threshold perms := by
  obtain ⟨lv, hlv, _, _, hnum, _, _⟩ := LF.convertGraph_spec s h weighted
  rw [LF.louvainPartitions_eq_tail]
  unfold louvainPartitionsF
  simp only [bind, hlv, Outcome.bind, hnum]

/-- **`louvainPartitionsW` is `louvainPartitionsF` with the reason for `none` made explicit** -/
theorem C13_model_W_erase (sweepFuel levelFuel : Nat) (s : Store) (weighted : Bool) (res threshold : Rat)
    (perms : List (List Nat)) :
    louvainPartitionsF sweepFuel levelFuel s weighted res threshold perms =
      (louvainPartitionsW sweepFuel levelFuel s weighted res threshold perms).map' Except.toOption := by
  unfold louvainPartitionsF louvainPartitionsW
  simp only [bind, Outcome.bind]
  cases convertGraph s weighted with
  | err k => rfl
  | panic k => rfl
  | ok lv => exact LF.lpTail_erase sweepFuel levelFuel lv weighted res threshold perms

theorem C13_level_W_erase (lv : Level) (m res : Rat) (partition : List (List Nat)) (perm : List Nat) (fuel : Nat) :
    computeOneLevel lv m res partition perm fuel = (computeOneLevelW lv m res partition perm fuel).map' Except.toOption :=
  LF.computeOneLevel_erase lv m res partition perm fuel

theorem C13_levelLoop_W_erase (weighted : Bool) (res threshold m : Rat) (perms : List (List Nat)) (sweepFuel fuel : Nat)
    (lv : Level) (partition inner : List (List Nat)) (improvement : Bool) (modularity : Rat) (acc : List (List (List Nat))) :
    levelLoop weighted res threshold m perms sweepFuel fuel lv partition inner improvement modularity acc =
      (levelLoopW weighted res threshold m perms sweepFuel fuel lv partition inner improvement modularity acc).map'
        Except.toOption :=
  LF.levelLoop_erase weighted res threshold m perms sweepFuel fuel lv partition inner improvement modularity acc

/-! ### monotonicity in the fuel -/

/-- if `sweeps` returns `some st'` with fuel `F`, it returns the same `some st'` with every fuel `≥ F` -/
theorem C13_sweeps_mono {lv : Level} {m res : Rat} {order : List Nat} {F F' : Nat} {st st' : LState} (hle : F ≤ F')
    (h : sweeps lv m res order F st = .ok (some st')) : sweeps lv m res order F' st = .ok (some st') := by
  rw [LF.sweeps_fuel_mono lv m res order F F' st hle (by rw [h]; nofun), h]

theorem C13_computeOneLevel_mono {lv : Level} {m res : Rat} {partition : List (List Nat)} {perm : List Nat} {F F' : Nat}
    {r : List (List Nat) × List (List Nat) × Bool} (hle : F ≤ F')
    (h : computeOneLevel lv m res partition perm F = .ok (some r)) :
    computeOneLevel lv m res partition perm F' = .ok (some r) := by
  rw [LF.computeOneLevel_eq_some] at h ⊢
  rw [LF.computeOneLevelW_fuel_mono hle (by rw [h]; nofun), h]

theorem C13_levelLoop_mono {weighted : Bool} {res threshold m : Rat} {perms : List (List Nat)} {F1 F1' F2 F2' : Nat}
    (h1 : F1 ≤ F1') (h2 : F2 ≤ F2') {lv : Level} {partition inner : List (List Nat)} {improvement : Bool}
    {modularity : Rat} {acc levels : List (List (List Nat))}
    (h : levelLoop weighted res threshold m perms F1 F2 lv partition inner improvement modularity acc = .ok (some levels)) :
    levelLoop weighted res threshold m perms F1' F2' lv partition inner improvement modularity acc = .ok (some levels) := by
  rw [LF.levelLoop_erase, Outcome.map'_toOption_eq_some] at h ⊢
  rw [LF.levelLoopW_fuel_mono weighted res threshold m perms F1 F1' h1 F2 F2' lv partition inner improvement modularity acc h2
    (by rw [h]; exact ⟨nofun, nofun⟩), h]

/-- a stop that is not a fuel stop (`risky`, `modularityUndefined`) is also the result for all larger fuels -/
theorem C13_model_W_mono {F1 F1' F2 F2' : Nat} (h1 : F1 ≤ F1') (h2 : F2 ≤ F2') (s : Store) (weighted : Bool)
    (res threshold : Rat) (perms : List (List Nat))
    (h : louvainPartitionsW F1 F2 s weighted res threshold perms ≠ .ok (.error .sweepFuel) ∧
         louvainPartitionsW F1 F2 s weighted res threshold perms ≠ .ok (.error .levelFuel)) :
    louvainPartitionsW F1' F2' s weighted res threshold perms = louvainPartitionsW F1 F2 s weighted res threshold perms := by
  unfold louvainPartitionsW at h ⊢
  simp only [bind, Outcome.bind] at h ⊢
  cases hc : convertGraph s weighted with
  | err k => rfl
  | panic k => rfl
  | ok lv =>
    rw [hc] at h
    exact LF.lpTailW_fuel_mono h1 h2 lv weighted res threshold perms h

theorem C13_model_F_mono {F1 F1' F2 F2' : Nat} (h1 : F1 ≤ F1') (h2 : F2 ≤ F2') {s : Store} {weighted : Bool}
    {res threshold : Rat} {perms : List (List Nat)} {levels : List (List (List Nat))}
    (h : louvainPartitionsF F1 F2 s weighted res threshold perms = .ok (some levels)) :
    louvainPartitionsF F1' F2' s weighted res threshold perms = .ok (some levels) := by
  rw [C13_model_W_erase, Outcome.map'_toOption_eq_some] at h ⊢
  rw [C13_model_W_mono h1 h2 s weighted res threshold perms (by rw [h]; exact ⟨nofun, nofun⟩), h]

/-- what the two stops of one level mean: `sweepFuel` = `sweeps` returned `none`; `risky` = `sweeps` finished in a state
    whose `risky` flag is set -/
theorem C13_level_stop_meaning {lv : Level} {n k : Nat} (hg : LF.GoodLevel lv n k) {partition : List (List Nat)}
    (hin : LF.InputOK lv k partition) (m res : Rat) (perm : List Nat) (fuel : Nat) (st : Stop)
    (h : computeOneLevelW lv m res partition perm fuel = .ok (.error st)) :
    ∃ di, degreeInformation lv.g k = .ok di ∧
      ((st = .sweepFuel ∧
          sweeps lv m res (perm.filterMap fun i => lv.g.getAllNodeNames[i]?) fuel (LT.initState partition k di) = .ok none) ∨
       (st = .risky ∧ ∃ s', sweeps lv m res (perm.filterMap fun i => lv.g.getAllNodeNames[i]?) fuel
          (LT.initState partition k di) = .ok (some s') ∧ s'.risky = true)) := by
  obtain ⟨di, o, hdi, hsw, hr⟩ := LF.computeOneLevelW_ok hg hin h
  refine ⟨di, hdi, ?_⟩
  rcases LF.levelResult_error hr.symm with ⟨rfl, hst⟩ | ⟨s', rfl, hrisky, hst⟩
  · exact Or.inl ⟨hst, hsw⟩
  · exact Or.inr ⟨hst, s', hsw, hrisky⟩

/-! ### the level loop -/

/-- **every continuing iteration shrinks the level graph**: on a good level graph with `k` nodes, a call of
    `compute_one_level` returns at most `k` communities, and strictly fewer than `k` when it reports an improvement
    (the next level graph, built by `generate_graph`, has one node per returned community) -/
theorem C13_level_shrinks {lv : Level} {n k : Nat} (hg : LF.GoodLevel lv n k) {partition : List (List Nat)}
    (hin : LF.InputOK lv k partition) {m res : Rat} {perm : List Nat} {fuel : Nat}
    {p i : List (List Nat)} {imp : Bool}
    (h : computeOneLevel lv m res partition perm fuel = .ok (some (p, i, imp))) :
    i.length ≤ k ∧ (imp = true → i.length < k) :=
  LF.computeOneLevelW_count hg hin (LF.computeOneLevel_eq_some.1 h)

/-- **the level fuel is never exhausted** (level loop): on every good level graph, for every `m`, resolution,
    threshold, shuffle family and sweep fuel, a level fuel `≥ inner.length + 2` is never the reason why the loop stops -/
theorem C13_levelLoop_level_fuel_suffices (weighted : Bool) (res threshold m : Rat) (perms : List (List Nat))
    (sweepFuel n : Nat) (levelFuel : Nat) (lv : Level) (k : Nat) (partition inner : List (List Nat)) (improvement : Bool)
    (modularity : Rat) (acc : List (List (List Nat)))
    (hg : LF.GoodLevel lv n k) (hwf : lv.g.wf = true) (hmulti : lv.g.specs.multi = false) (hpi : LF.PI lv k partition inner)
    (hfuel : inner.length + 2 ≤ levelFuel) :
    ∃ r, levelLoopW weighted res threshold m perms sweepFuel levelFuel lv partition inner improvement modularity acc = .ok r ∧
      r ≠ .error .levelFuel := by
  obtain ⟨r, hr, hlf, -⟩ := LF.levelLoopW_stops weighted res threshold m perms sweepFuel n levelFuel lv k partition inner
    improvement modularity acc hg hwf hmulti hpi
  exact ⟨r, hr, hlf (by omega) (fun _ => hfuel)⟩

/-- `m > 0` for the converted graph -/
theorem LF.mOf_pos (s : Store) (h : s.wf = true) (weighted : Bool) (lv : Level) (hc : convertGraph s weighted = .ok lv)
    (hm : 0 < totalWeight s weighted) : 0 < mOf lv weighted := by
  unfold totalWeight at hm
  unfold mOf
  cases weighted with
  | true =>
    simp only [if_true] at hm ⊢
    rw [LF.convertGraph_sizeWeighted s h lv hc]
    exact hm
  | false =>
    simp only [Bool.false_eq_true, if_false] at hm ⊢
    have : 0 < s.sizeUnweighted := by exact_mod_cast hm
    exact_mod_cast (LF.convertGraph_sizeUnweighted s h lv hc).1 this

/-- in weighted mode `m` is exactly the total weight of the input; in unweighted mode on a single-edge graph it is
    the number of edges -/
theorem C13_model_m_is_total_weight (s : Store) (h : s.wf = true) (weighted : Bool) (lv : Level)
    (hc : convertGraph s weighted = .ok lv) (hs : weighted = true ∨ s.specs.multi = false) :
    mOf lv weighted = totalWeight s weighted := by
  unfold totalWeight mOf
  cases weighted with
  | true => simp only [if_true]; rw [LF.convertGraph_sizeWeighted s h lv hc]
  | false =>
    simp only [Bool.false_eq_true, if_false]
    rcases hs with hs | hs
    · cases hs
    · rw [(LF.convertGraph_sizeUnweighted s h lv hc).2 hs]

/-- **The model always returns, and fuel is not the reason for `none` once there is enough of it.**  For every
    well-formed store, `louvainPartitionsW` returns `.ok r` for all fuels (no panic, no error).  With a level fuel
    `≥ n + 2`, `r` is not `levelFuel`, whatever the sweep fuel, `m`, resolution, threshold and shuffles.  When the weights
    are NaN or non-negative (weighted mode), the total weight is positive, `res ≥ 0` and the sweep fuel is `≥ n^n + 1`,
    `r` is not `sweepFuel`. -/
theorem C13_model_stops (s : Store) (h : s.wf = true) (weighted : Bool) (res threshold : Rat)
    (perms : List (List Nat)) (sweepFuel levelFuel : Nat) :
    ∃ r, louvainPartitionsW sweepFuel levelFuel s weighted res threshold perms = .ok r ∧
      (s.numNodes + 2 ≤ levelFuel → r ≠ .error .levelFuel) ∧
      ((weighted = true → LF.EdgesNN s) → 0 < totalWeight s weighted → 0 ≤ res →
        s.numNodes ^ s.numNodes + 1 ≤ sweepFuel → r ≠ .error .sweepFuel) := by
  obtain ⟨lv, hlv, hwf, hmulti, hnum, hg, hmem⟩ := LF.convertGraph_spec s h weighted
  obtain ⟨r, hr, hlf, hsf⟩ := LF.lpTailW_stops lv s.numNodes hg hwf hmulti hnum hmem weighted res threshold perms
    sweepFuel levelFuel
  refine ⟨r, ?_, hlf, fun hw hm hres hF1 => ?_⟩
  · show Outcome.bind (convertGraph s weighted) _ = _
    rw [hlv, Outcome.bind_ok]
    exact hr
  · exact hsf (LF.mOf_pos s h weighted lv hlv hm) hres (LF.convertGraph_edgesNN s h weighted lv hlv hw) hF1

/-- **the level fuel `n + 2` is never exhausted** (whole model): for every well-formed store, both weight modes, every
    resolution, threshold, shuffle family and every sweep fuel -/
theorem C13_model_level_fuel_suffices (s : Store) (h : s.wf = true) (weighted : Bool) (res threshold : Rat)
    (perms : List (List Nat)) (sweepFuel levelFuel : Nat) (hF2 : s.numNodes + 2 ≤ levelFuel) :
    ∃ r, louvainPartitionsW sweepFuel levelFuel s weighted res threshold perms = .ok r ∧ r ≠ .error .levelFuel := by
  obtain ⟨r, hr, hlf, -⟩ := C13_model_stops s h weighted res threshold perms sweepFuel levelFuel
  exact ⟨r, hr, hlf hF2⟩

/-- in particular the hard-coded model never returns `none` because of its level fuel -/
theorem C13_model_hardcoded_level_fuel (s : Store) (h : s.wf = true) (weighted : Bool) (res threshold : Rat)
    (perms : List (List Nat)) :
    louvainPartitions s weighted res threshold perms =
      (louvainPartitionsW (4 * s.numNodes * s.numNodes + 16) (s.numNodes + 2) s weighted res threshold perms).map'
        Except.toOption ∧
    ∃ r, louvainPartitionsW (4 * s.numNodes * s.numNodes + 16) (s.numNodes + 2) s weighted res threshold perms = .ok r ∧
      r ≠ .error .levelFuel :=
  ⟨by rw [C13_model_is_F s h, C13_model_W_erase],
   C13_model_level_fuel_suffices s h weighted res threshold perms _ _ (le_refl _)⟩

/-- **C13 (termination of the whole model).**  For every well-formed store `s` with `n` nodes whose weights, in
    weighted mode, are NaN or non-negative, with positive total weight, for `res ≥ 0`, every threshold and every family
    of shuffle permutations: with a sweep fuel `≥ n^n + 1` and a level fuel `≥ n + 2` the model returns `.ok r` where
    `r` is a list of levels, or `Stop.risky` (a level finished in a state flagged `risky`), or
    `Stop.modularityUndefined` (`modularity` returned `None`) - never `Stop.sweepFuel`, never `Stop.levelFuel`. -/
theorem C13_model_terminates (s : Store) (h : s.wf = true) (weighted : Bool) (res threshold : Rat)
    (perms : List (List Nat))
    (hw : weighted = true → ∀ e ∈ s.allEdges, ∀ w, e.w = some w → 0 ≤ w)
    (hm : 0 < totalWeight s weighted) (hres : 0 ≤ res)
    (sweepFuel levelFuel : Nat) (hF1 : s.numNodes ^ s.numNodes + 1 ≤ sweepFuel) (hF2 : s.numNodes + 2 ≤ levelFuel) :
    ∃ r, louvainPartitionsW sweepFuel levelFuel s weighted res threshold perms = .ok r ∧
      r ≠ .error .sweepFuel ∧ r ≠ .error .levelFuel := by
  obtain ⟨r, hr, hlf, hsf⟩ := C13_model_stops s h weighted res threshold perms sweepFuel levelFuel
  exact ⟨r, hr, hsf hw hm hres hF1, hlf hF2⟩

/-- the result is a list of levels, `risky` or `modularityUndefined` -/
theorem C13_model_result_cases (s : Store) (h : s.wf = true) (weighted : Bool) (res threshold : Rat)
    (perms : List (List Nat))
    (hw : weighted = true → ∀ e ∈ s.allEdges, ∀ w, e.w = some w → 0 ≤ w)
    (hm : 0 < totalWeight s weighted) (hres : 0 ≤ res)
    (sweepFuel levelFuel : Nat) (hF1 : s.numNodes ^ s.numNodes + 1 ≤ sweepFuel) (hF2 : s.numNodes + 2 ≤ levelFuel) :
    (∃ levels, louvainPartitionsW sweepFuel levelFuel s weighted res threshold perms = .ok (.ok levels)) ∨
    louvainPartitionsW sweepFuel levelFuel s weighted res threshold perms = .ok (.error .risky) ∨
    louvainPartitionsW sweepFuel levelFuel s weighted res threshold perms = .ok (.error .modularityUndefined) := by
  obtain ⟨r, hr, h1, h2⟩ := C13_model_terminates s h weighted res threshold perms hw hm hres sweepFuel levelFuel hF1 hF2
  rw [hr]
  cases r with
  | ok levels => exact Or.inl ⟨levels, rfl⟩
  | error st =>
    cases st with
    | sweepFuel => exact absurd rfl h1
    | levelFuel => exact absurd rfl h2
    | risky => exact Or.inr (Or.inl rfl)
    | modularityUndefined => exact Or.inr (Or.inr rfl)

/-- **`none` is never caused by fuel**: under the hypotheses of `C13_model_terminates`, `louvainPartitionsF` returns
    `.ok none` only because a level was flagged `risky` or a modularity value was undefined -/
theorem C13_model_none_reason (s : Store) (h : s.wf = true) (weighted : Bool) (res threshold : Rat)
    (perms : List (List Nat))
    (hw : weighted = true → ∀ e ∈ s.allEdges, ∀ w, e.w = some w → 0 ≤ w)
    (hm : 0 < totalWeight s weighted) (hres : 0 ≤ res)
    (sweepFuel levelFuel : Nat) (hF1 : s.numNodes ^ s.numNodes + 1 ≤ sweepFuel) (hF2 : s.numNodes + 2 ≤ levelFuel)
    (hnone : louvainPartitionsF sweepFuel levelFuel s weighted res threshold perms = .ok none) :
    louvainPartitionsW sweepFuel levelFuel s weighted res threshold perms = .ok (.error .risky) ∨
    louvainPartitionsW sweepFuel levelFuel s weighted res threshold perms = .ok (.error .modularityUndefined) := by
  rcases C13_model_result_cases s h weighted res threshold perms hw hm hres sweepFuel levelFuel hF1 hF2 with
    ⟨levels, hl⟩ | hr | hr
  · rw [C13_model_W_erase, hl] at hnone
    cases hnone
  · exact Or.inl hr
  · exact Or.inr hr

/-- `louvainPartitionsW` always returns `.ok _` (no panic, no error), for all fuels -/
theorem C13_model_F_always_ok (s : Store) (h : s.wf = true) (weighted : Bool) (res threshold : Rat)
    (perms : List (List Nat)) (sweepFuel levelFuel : Nat) :
    ∃ r, louvainPartitionsW sweepFuel levelFuel s weighted res threshold perms = .ok r := by
  obtain ⟨r, hr, -⟩ := C13_model_stops s h weighted res threshold perms sweepFuel levelFuel
  exact ⟨r, hr⟩

/-- **the result does not depend on the fuels** once they are `≥ n^n + 1` and `≥ n + 2` -/
theorem C13_model_fuel_independent (s : Store) (h : s.wf = true) (weighted : Bool) (res threshold : Rat)
    (perms : List (List Nat))
    (hw : weighted = true → ∀ e ∈ s.allEdges, ∀ w, e.w = some w → 0 ≤ w)
    (hm : 0 < totalWeight s weighted) (hres : 0 ≤ res)
    (F1 F2 : Nat) (hF1 : s.numNodes ^ s.numNodes + 1 ≤ F1) (hF2 : s.numNodes + 2 ≤ F2) :
    louvainPartitionsW F1 F2 s weighted res threshold perms =
      louvainPartitionsW (s.numNodes ^ s.numNodes + 1) (s.numNodes + 2) s weighted res threshold perms ∧
    louvainPartitionsF F1 F2 s weighted res threshold perms =
      louvainPartitionsF (s.numNodes ^ s.numNodes + 1) (s.numNodes + 2) s weighted res threshold perms := by
  obtain ⟨r, hr, h1, h2⟩ := C13_model_terminates s h weighted res threshold perms hw hm hres
    (s.numNodes ^ s.numNodes + 1) (s.numNodes + 2) (le_refl _) (le_refl _)
  have hnf : LF.NotFuel (louvainPartitionsW (s.numNodes ^ s.numNodes + 1) (s.numNodes + 2) s weighted res threshold perms) := by
    rw [hr]
    exact ⟨fun hc => h1 (by injection hc), fun hc => h2 (by injection hc)⟩
  have hW := C13_model_W_mono hF1 hF2 s weighted res threshold perms hnf
  exact ⟨hW, by rw [C13_model_W_erase, C13_model_W_erase, hW]⟩

/-! ### the hard-coded fuels against larger ones -/

/-- **the hard-coded fuels agree with unbounded fuel whenever they produce a result**: if the model returns
    `some levels`, so does `louvainPartitionsF` for all fuels `≥ 4 n² + 16` and `≥ n + 2` - in particular for fuels that
    are also `≥ n^n + 1`, for which (`C13_model_terminates`) fuel is never the reason for `none` -/
theorem C13_model_agrees_with_unbounded (s : Store) (h : s.wf = true) (weighted : Bool) (res threshold : Rat)
    (perms : List (List Nat)) (levels : List (List (List Nat)))
    (hl : louvainPartitions s weighted res threshold perms = .ok (some levels))
    (F1 F2 : Nat) (hF1 : 4 * s.numNodes * s.numNodes + 16 ≤ F1) (hF2 : s.numNodes + 2 ≤ F2) :
    louvainPartitionsF F1 F2 s weighted res threshold perms = .ok (some levels) := by
  rw [C13_model_is_F s h] at hl
  exact C13_model_F_mono hF1 hF2 hl

/-- conversely, when the model returns `none` although larger fuels give levels, the reason was its sweep fuel
    `4 n² + 16` (never its level fuel) -/
theorem C13_model_none_vs_unbounded (s : Store) (h : s.wf = true) (weighted : Bool) (res threshold : Rat)
    (perms : List (List Nat)) (hnone : louvainPartitions s weighted res threshold perms = .ok none)
    (F1 F2 : Nat) (hF1 : 4 * s.numNodes * s.numNodes + 16 ≤ F1) (hF2 : s.numNodes + 2 ≤ F2)
    (levels : List (List (List Nat))) (hl : louvainPartitionsF F1 F2 s weighted res threshold perms = .ok (some levels)) :
    louvainPartitionsW (4 * s.numNodes * s.numNodes + 16) (s.numNodes + 2) s weighted res threshold perms =
      .ok (.error .sweepFuel) := by
  obtain ⟨r, hr, hlf⟩ := C13_model_level_fuel_suffices s h weighted res threshold perms
    (4 * s.numNodes * s.numNodes + 16) (s.numNodes + 2) (le_refl _)
  by_contra hsf
  have hnf : LF.NotFuel (louvainPartitionsW (4 * s.numNodes * s.numNodes + 16) (s.numNodes + 2) s weighted res threshold perms) := by
    refine ⟨hsf, ?_⟩
    rw [hr]
    intro hc
    exact hlf (by injection hc)
  have hW := C13_model_W_mono hF1 hF2 s weighted res threshold perms hnf
  rw [C13_model_is_F s h, C13_model_W_erase] at hnone
  rw [C13_model_W_erase, hW] at hl
  rw [hnone] at hl
  cases hl

/-- the triangle with a pendant node of Props/C13Termination.lean (weights 2, 1, 1, 1) meets the hypotheses of
    `C13_model_terminates` in weighted mode ... -/
theorem C13T.exStore_hyps : C13T.exStore.wf = true ∧ C13T.exStore.numNodes = 4 ∧
    (∀ e ∈ C13T.exStore.allEdges, ∀ w, e.w = some w → 0 ≤ w) ∧ totalWeight C13T.exStore true = 5 ∧
    totalWeight C13T.exStore false = 4 := by
  -- one `decide` for all conjuncts: the store is evaluated once
  have heval : C13T.exStore.numNodes = 4 ∧ C13T.exStore.sizeWeighted = some 5 ∧ C13T.exStore.sizeUnweighted = 4 := by
    decide +kernel
  obtain ⟨hn, hw, hu⟩ := heval
  refine ⟨Core_reachable_wf _ _, hn, C13T.exLevel_ok.2.2.2.1, ?_, ?_⟩
  · show (if true = true then ratW C13T.exStore.sizeWeighted else _) = 5
    rw [if_pos rfl, hw]
    exact Int.cast_ofNat 5
  · show (if false = true then _ else (C13T.exStore.sizeUnweighted : Rat)) = 4
    rw [if_neg Bool.false_ne_true, hu]
    exact Nat.cast_ofNat

example (threshold : Rat) (perms : List (List Nat)) :
    ∃ r, louvainPartitionsW (4 ^ 4 + 1) 6 C13T.exStore true 1 threshold perms = .ok r ∧
      r ≠ .error .sweepFuel ∧ r ≠ .error .levelFuel := by
  obtain ⟨hwf, hn, hw, hm, _⟩ := C13T.exStore_hyps
  have := C13_model_terminates C13T.exStore hwf true 1 threshold perms (fun _ => hw) (by rw [hm]; norm_num) (by norm_num)
    (4 ^ 4 + 1) 6 (by rw [hn]) (by rw [hn])
  exact this

/-- ... and in unweighted mode -/
example (threshold : Rat) (perms : List (List Nat)) :
    ∃ r, louvainPartitionsW (4 ^ 4 + 1) 6 C13T.exStore false (3 / 2) threshold perms = .ok r ∧
      r ≠ .error .sweepFuel ∧ r ≠ .error .levelFuel := by
  obtain ⟨hwf, hn, _, _, hm⟩ := C13T.exStore_hyps
  exact C13_model_terminates C13T.exStore hwf false (3 / 2) threshold perms (fun hc => by cases hc) (by rw [hm]; norm_num)
    (by norm_num) (4 ^ 4 + 1) 6 (by rw [hn]) (by rw [hn])

/-- the directed example of Props/C13Termination.lean -/
theorem C13T.exStoreD_hyps : C13T.exStoreD.wf = true ∧ C13T.exStoreD.numNodes = 3 ∧
    (∀ e ∈ C13T.exStoreD.allEdges, ∀ w, e.w = some w → 0 ≤ w) ∧ totalWeight C13T.exStoreD true = 5 := by
  have heval : C13T.exStoreD.numNodes = 3 ∧ C13T.exStoreD.sizeWeighted = some 5 := by decide +kernel
  refine ⟨Core_reachable_wf _ _, heval.1, C13T.exLevelD_ok.2.2.2.2.1, ?_⟩
  show (if true = true then ratW C13T.exStoreD.sizeWeighted else _) = 5
  rw [if_pos rfl, heval.2]
  exact Int.cast_ofNat 5

example (threshold : Rat) (perms : List (List Nat)) (F1 F2 : Nat) (h1 : 28 ≤ F1) (h2 : 5 ≤ F2) :
    louvainPartitionsF F1 F2 C13T.exStoreD true 1 threshold perms =
      louvainPartitionsF 28 5 C13T.exStoreD true 1 threshold perms := by
  obtain ⟨hwf, hn, hw, hm⟩ := C13T.exStoreD_hyps
  have := (C13_model_fuel_independent C13T.exStoreD hwf true 1 threshold perms (fun _ => hw) (by rw [hm]; norm_num)
    (by norm_num) F1 F2 (by rw [hn]; exact h1) (by rw [hn]; exact h2)).2
  rw [hn] at this
  exact this

end Graphrs
