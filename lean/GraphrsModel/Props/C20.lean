/-
  C20 — valid calls on degenerate graphs return values or errors, never panic.

  In the models every `unwrap`, slice index and integer subtraction of the Rust code is an explicit `panic`
  outcome (or, inside mutations, the `poisoned` flag).  Under the coupling invariant - which holds on every
  reachable store of any of the 8 kinds, including the empty graph, a single node, edgeless graphs, self-loops
  and parallel edges - none of the modelled read functions reaches a panic site, for ANY argument (present or
  absent names, any node set); absent names and wrong graph kinds come back through the error channel
  (`NodeNotFound`, `WrongMethod`).
-/
import GraphrsModel.Props.C01
import GraphrsModel.Props.C02
import GraphrsModel.ObsDegen
import GraphrsModel.Lemmas.NoPanic
import GraphrsModel.Lemmas.EqualSize
namespace Graphrs
open Store

private theorem indexes_of_guard {s : Store} {u v : Nat}
    (hc : ¬ (!acontains s.nodesMap u || !acontains s.nodesMap v) = true) :
    ∃ ui vi, alookup s.nodesMap u = some ui ∧ alookup s.nodesMap v = some vi := by
  simp only [Bool.or_eq_true, Bool.not_eq_true', not_or, Bool.not_eq_false] at hc
  obtain ⟨ui, hui⟩ := Option.isSome_iff_exists.mp hc.1
  obtain ⟨vi, hvi⟩ := Option.isSome_iff_exists.mp hc.2
  exact ⟨ui, vi, hui, hvi⟩

theorem C20_pair_queries_no_panic (s : Store) (h : s.wf = true) (u v : Nat) :
    (s.getEdge u v).isPanic = false ∧ (s.getEdges u v).isPanic = false := by
  have he := ((Store.wf_iff s).mp h).2.1
  constructor
  · unfold Store.getEdge
    split; · rfl
    split; · rfl
    rename_i _ hc
    obtain ⟨ui, vi, hui, hvi⟩ := indexes_of_guard hc
    rw [NP.getNodeIndex_unwrap _ hui, NP.getNodeIndex_unwrap _ hvi]
    show (s.getEdgeByIndexes ui vi).isPanic = false
    unfold Store.getEdgeByIndexes
    split
    · rfl
    · rename_i hl; exact (NP.emap_ne_nil he hl).elim
    · rfl
  · unfold Store.getEdges
    split; · rfl
    split; · rfl
    rename_i _ hc
    obtain ⟨ui, vi, hui, hvi⟩ := indexes_of_guard hc
    rw [NP.getNodeIndex_unwrap _ hui, NP.getNodeIndex_unwrap _ hvi]
    show (match s.edgesByIdx ui vi with | none => Outcome.err .EdgeNotFound | some l => .ok l).isPanic = false
    split <;> rfl

namespace NP

/-- for a name that is present the per-node edge lists are the values `Props/C02` describes -/
theorem getEdgesForNode_ok {s : Store} (h : s.wf = true) {x : Nat} (hx : x ∈ s.names) :
    ∃ l, s.getEdgesForNode x = .ok l :=
  (C02_edgesForNode s h x ((hasNode_iff ((Store.wf_iff s).mp h).1 x).mpr hx)).imp fun _ => And.left

theorem getInEdgesForNode_ok {s : Store} (h : s.wf = true) {x : Nat} (hx : x ∈ s.names)
    (hd : s.specs.directed = true) : ∃ l, s.getInEdgesForNode x = .ok l :=
  (C02_inEdges s h hd x ((hasNode_iff ((Store.wf_iff s).mp h).1 x).mpr hx)).imp fun _ => And.left

theorem getOutEdgesForNode_ok {s : Store} (h : s.wf = true) {x : Nat} (hx : x ∈ s.names)
    (hd : s.specs.directed = true) : ∃ l, s.getOutEdgesForNode x = .ok l :=
  (C02_outEdges s h hd x ((hasNode_iff ((Store.wf_iff s).mp h).1 x).mpr hx)).imp fun _ => And.left

end NP

theorem C20_node_edge_lists_no_panic (s : Store) (h : s.wf = true) (x : Nat) :
    (s.getEdgesForNode x).isPanic = false ∧ (s.getInEdgesForNode x).isPanic = false ∧
    (s.getOutEdgesForNode x).isPanic = false := by
  obtain ⟨hn, he, hadj, hvec⟩ := (Store.wf_iff _).mp h
  by_cases hx : x ∈ s.names
  · refine ⟨C20B.np_of_ok (NP.getEdgesForNode_ok h hx), ?_, ?_⟩
    · cases hd : s.specs.directed with
      | true => exact C20B.np_of_ok (NP.getInEdgesForNode_ok h hx hd)
      | false => unfold Store.getInEdgesForNode; rw [hd]; rfl
    · cases hd : s.specs.directed with
      | true => exact C20B.np_of_ok (NP.getOutEdgesForNode_ok h hx hd)
      | false => unfold Store.getOutEdgesForNode; rw [hd]; rfl
  · have hg := NP.getNode_none hn hx
    refine ⟨?_, ?_, ?_⟩
    · rw [NP.getEdgesForNode_absent hn hx]; rfl
    · unfold Store.getInEdgesForNode; rw [if_pos hg]; split <;> rfl
    · unfold Store.getOutEdgesForNode; rw [if_pos hg]; split <;> rfl

private theorem np_ite {α} (c : Prop) [Decidable c] {x y : Outcome α} (hx : x.isPanic = false)
    (hy : y.isPanic = false) : (if c then x else y).isPanic = false := by
  split <;> assumption

theorem C20_node_set_queries_no_panic (s : Store) (S : List Nat) :
    (s.getEdgesForNodes S).isPanic = false ∧ (s.getInEdgesForNodes S).isPanic = false ∧
    (s.getOutEdgesForNodes S).isPanic = false :=
  ⟨np_ite _ rfl rfl, np_ite _ rfl (np_ite _ rfl rfl), np_ite _ rfl (np_ite _ rfl rfl)⟩

theorem C20_adjacency_queries_no_panic (s : Store) (h : s.wf = true) (x : Nat) :
    (s.getSuccessorNodes x).isPanic = false ∧ (s.getPredecessorNodes x).isPanic = false ∧
    (s.getNeighborNodes x).isPanic = false := by
  obtain ⟨hn, he, hadj, hvec⟩ := (Store.wf_iff _).mp h
  have A := (C02.adjOk_iff s).1 hadj
  have hadjN : ∀ m, (∀ i l, alookup m i = some l → ∀ j ∈ l, j < s.nodesVec.length) →
      (s.getAdjNodes m x).isPanic = false := by
    intro m hm
    by_cases hx : x ∈ s.names
    · exact C20B.np_of_ok (NP.getAdjNodes_ok hn m hm hx)
    · rw [NP.getAdjNodes_absent hn m hx]; rfl
  refine ⟨?_, ?_, ?_⟩
  · unfold Store.getSuccessorNodes
    split
    · rfl
    · exact hadjN _ (fun i l hl => (A.okSuccMap.2 _ (AL.lookup_mem hl)).2.2)
  · unfold Store.getPredecessorNodes
    split
    · rfl
    · exact hadjN _ (fun i l hl => (A.okPredMap.2 _ (AL.lookup_mem hl)).2.2)
  · by_cases hx : x ∈ s.names
    · exact C20B.np_of_ok (NP.getNeighborNodes_ok hn hvec hx)
    · rw [NP.getNeighborNodes_absent hn hx]; rfl

/-- functions without an error channel do not panic on names that exist -/
theorem C20_succ_or_nbrs_no_panic (s : Store) (h : s.wf = true) (x : Nat) (hx : s.hasNode x = true) :
    (s.getSuccessorsOrNeighbors x).isPanic = false := by
  obtain ⟨hn, he, hadj, hvec⟩ := (Store.wf_iff _).mp h
  have A := (C02.adjOk_iff s).1 hadj
  have hx := (NP.hasNode_iff hn x).mp hx
  unfold Store.getSuccessorsOrNeighbors
  split
  · rename_i hd
    obtain ⟨l, hl⟩ := NP.getAdjNodes_ok hn s.succMap (fun i l hl => (A.okSuccMap.2 _ (AL.lookup_mem hl)).2.2) hx
    unfold Store.getSuccessorNodes
    rw [hd, if_neg (by exact Bool.false_ne_true), hl]; rfl
  · obtain ⟨l, hl⟩ := NP.getNeighborNodes_ok hn hvec hx
    rw [hl]; rfl

/-- the degree maps (they `unwrap` a per-node degree) -/
theorem C20_degree_maps_no_panic (s : Store) (h : s.wf = true) :
    s.getDegreeForAllNodes.isPanic = false ∧ s.getInDegreeForAllNodes.isPanic = false ∧
    s.getOutDegreeForAllNodes.isPanic = false ∧ s.getWeightedDegreeForAllNodes.isPanic = false ∧
    s.degreeCentrality.isPanic = false ∧ s.getAdjacencyTriplets.isPanic = false := by
  obtain ⟨hn, he, hadj, hvec⟩ := (Store.wf_iff _).mp h
  -- a per-node function that matches on an edge list which is there returns `some`
  have hall : ∀ {α} (site : String) (f : Nat → Option α),
      (∀ n ∈ s.nodesVec, (f n.name).isSome = true) → (s.forAllNodes site f).isPanic = false :=
    fun site f hf => C20B.np_of_ok (NP.forAllNodes_ok s site f hf)
  have hdeg : ∀ n ∈ s.nodesVec, (s.getNodeDegree n.name).isSome = true := by
    intro n hnm
    obtain ⟨l, hl⟩ := NP.getEdgesForNode_ok h (List.mem_map_of_mem hnm)
    unfold Store.getNodeDegree; rw [hl]; rfl
  refine ⟨hall _ _ hdeg, ?_, ?_, hall _ _ ?_, ?_, ?_⟩
  · unfold Store.getInDegreeForAllNodes
    split
    · rfl
    · rename_i hd
      refine hall _ _ fun n hnm => ?_
      obtain ⟨l, hl⟩ := NP.getInEdgesForNode_ok h (List.mem_map_of_mem hnm)
        (by simpa only [Bool.not_eq_true', Bool.not_eq_false] using hd)
      unfold Store.getNodeInDegree; rw [hl]; rfl
  · unfold Store.getOutDegreeForAllNodes
    split
    · rfl
    · rename_i hd
      refine hall _ _ fun n hnm => ?_
      obtain ⟨l, hl⟩ := NP.getOutEdgesForNode_ok h (List.mem_map_of_mem hnm)
        (by simpa only [Bool.not_eq_true', Bool.not_eq_false] using hd)
      unfold Store.getNodeOutDegree; rw [hl]; rfl
  · intro n hnm
    obtain ⟨l, hl⟩ := NP.getEdgesForNode_ok h (List.mem_map_of_mem hnm)
    unfold Store.getNodeWeightedDegree; rw [hl]; rfl
  · unfold Store.degreeCentrality
    simp only
    split
    · rfl
    · refine hall _ _ fun n hnm => ?_
      obtain ⟨d, hd⟩ := Option.isSome_iff_exists.mp (hdeg n hnm)
      rw [hd]; rfl
  · unfold Store.getAdjacencyTriplets
    split
    · rfl
    · refine C20B.np_of_ok (Outcome.foldl_ok_exists₀ _ s.edgesMap (fun b kv hkv => ?_) [])
      obtain ⟨k, l⟩ := kv
      cases l with
      | nil => exact (NP.emap_ne_nil he (AL.mem_lookup he.emap_nodup hkv)).elim
      | cons e l => exact ⟨_, rfl⟩

/-- absent names come back through the error channel (Result -> NodeNotFound, Option -> None), never as a wrong value -/
theorem C20_absent_name_channel (s : Store) (h : s.wf = true) (x : Nat) (hx : s.hasNode x = false) :
    s.getEdgesForNode x = .err .NodeNotFound ∧ s.getNeighborNodes x = .err .NodeNotFound ∧
    s.getNodeDegree x = none ∧ s.getNodeInDegree x = none ∧ s.getNodeOutDegree x = none ∧
    s.getNodeWeightedDegree x = none ∧
    (s.specs.directed = true → s.getInEdgesForNode x = .err .NodeNotFound ∧ s.getOutEdgesForNode x = .err .NodeNotFound ∧
        s.getSuccessorNodes x = .err .NodeNotFound ∧ s.getPredecessorNodes x = .err .NodeNotFound) := by
  obtain ⟨hn, he, hadj, hvec⟩ := (Store.wf_iff _).mp h
  have hx' : x ∉ s.names := by
    intro hm
    rw [(NP.hasNode_iff hn x).mpr hm] at hx; cases hx
  have hg := NP.getNode_none hn hx'
  have h1 := NP.getEdgesForNode_absent hn hx'
  have hin : ∃ k, s.getInEdgesForNode x = .err k := by
    unfold Store.getInEdgesForNode; rw [if_pos hg]; split <;> exact ⟨_, rfl⟩
  have hout : ∃ k, s.getOutEdgesForNode x = .err k := by
    unfold Store.getOutEdgesForNode; rw [if_pos hg]; split <;> exact ⟨_, rfl⟩
  refine ⟨h1, NP.getNeighborNodes_absent hn hx', ?_, ?_, ?_, ?_, ?_⟩
  · simp [Store.getNodeDegree, h1]
  · obtain ⟨k, hk⟩ := hin; simp [Store.getNodeInDegree, hk]
  · obtain ⟨k, hk⟩ := hout; simp [Store.getNodeOutDegree, hk]
  · simp [Store.getNodeWeightedDegree, h1]
  · intro hd
    refine ⟨?_, ?_, ?_, ?_⟩
    · unfold Store.getInEdgesForNode; rw [if_pos hg]; simp [hd]
    · unfold Store.getOutEdgesForNode; rw [if_pos hg]; simp [hd]
    · unfold Store.getSuccessorNodes; simp [hd, NP.getAdjNodes_absent hn _ hx']
    · unfold Store.getPredecessorNodes; simp [hd, NP.getAdjNodes_absent hn _ hx']

private theorem ensureDirected_err {s : Store} (hd : s.specs.directed = false) :
    s.ensureDirected = .err .WrongMethod := by
  unfold Store.ensureDirected; rw [hd]; rfl

private theorem ensureUndirected_err {s : Store} (hd : s.specs.directed = true) :
    s.ensureUndirected = .err .WrongMethod := by
  unfold Store.ensureUndirected; rw [hd]; rfl

private theorem ensureNotMulti_err {s : Store} (hm : s.specs.multi = true) :
    s.ensureNotMulti = .err .WrongMethod := by
  unfold Store.ensureNotMulti; rw [hm]; rfl

/-- the wrong kind of graph comes back as WrongMethod / None -/
theorem C20_wrong_kind_channel (s : Store) (x : Nat) (S : List Nat) :
    (s.specs.directed = false →
        s.getInEdgesForNode x = .err .WrongMethod ∧ s.getOutEdgesForNode x = .err .WrongMethod ∧
        s.getInEdgesForNodes S = .err .WrongMethod ∧ s.getOutEdgesForNodes S = .err .WrongMethod ∧
        s.getNodeInDegree x = none ∧ s.getNodeOutDegree x = none ∧
        s.getInDegreeForAllNodes = .err .WrongMethod ∧ s.getOutDegreeForAllNodes = .err .WrongMethod ∧
        s.reverse = .err .WrongMethod ∧ s.weaklyConnectedComponents = .err .WrongMethod ∧
        s.stronglyConnectedComponents = .err .WrongMethod) ∧
    (s.specs.directed = true →
        s.connectedComponents = .err .WrongMethod ∧ s.nodeConnectedComponent x = .err .WrongMethod ∧
        s.triangles (some S) = .err .WrongMethod ∧ s.transitivity = .err .WrongMethod ∧
        s.generalizedDegree none = .err .WrongMethod) ∧
    (s.specs.multi = true → s.getAdjacencyTriplets = .err .WrongMethod ∧ s.clusteringUnweighted (some S) = .err .WrongMethod) := by
  refine ⟨fun hd => ?_, fun hd => ?_, fun hm => ?_⟩
  · -- every one of these starts with the test `!directed`, or with `ensure_directed()?`
    have hg : (!s.specs.directed) = true := by rw [hd]; rfl
    have h1 : s.getInEdgesForNode x = .err .WrongMethod := if_pos hg
    have h2 : s.getOutEdgesForNode x = .err .WrongMethod := if_pos hg
    refine ⟨h1, h2, if_pos hg, if_pos hg, ?_, ?_, if_pos hg, if_pos hg, if_pos hg, ?_, ?_⟩
    · unfold Store.getNodeInDegree; rw [h1]
    · unfold Store.getNodeOutDegree; rw [h2]
    · unfold Store.weaklyConnectedComponents; rw [ensureDirected_err hd]; rfl
    · unfold Store.stronglyConnectedComponents; rw [ensureDirected_err hd]; rfl
  · have hu := ensureUndirected_err hd
    refine ⟨?_, ?_, ?_, ?_, ?_⟩
    · unfold Store.connectedComponents; rw [hu]; rfl
    · unfold Store.nodeConnectedComponent; rw [hu]; rfl
    · unfold Store.triangles; rw [hu]; rfl
    · unfold Store.transitivity; rw [hu]; rfl
    · unfold Store.generalizedDegree; rw [hu]; rfl
  · refine ⟨if_pos hm, ?_⟩
    unfold Store.clusteringUnweighted; rw [ensureNotMulti_err hm]; rfl

/-- `bfs_equal_size_partitions(k)`, k ≥ 1: the part index never runs out of range and the search for an unvisited node
    never fails (the arithmetic of `partition_max_size = n / k + 1`) -/
theorem C20_equal_size_no_panic (s : Store) (h : s.wf = true) (k : Nat) (hk : 0 < k) :
    (s.bfsEqualSizePartitions k).isPanic = false := by
  exact NP.bfsEqualSizePartitions_noPanic s ((Store.wf_iff _).mp h).1 ((Store.wf_iff _).mp h).2.2.2 k hk

/-- non-vacuity: the sweep's own empty and single-node graphs satisfy the invariant -/
example : (Store.new ⟨true, true, true, .error, .create, .drop⟩).wf = true ∧
    ((Store.new ⟨false, false, true, .keepFirst, .create, .drop⟩).addNode ⟨2, none⟩).wf = true := by
  decide +kernel

end Graphrs
