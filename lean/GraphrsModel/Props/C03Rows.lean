/-
  C03, entry level. `Store.vecOk` (part of `wf`) ties, per pair of nodes, only the *minimum* listed weight to the minimum
  stored weight. The two predicates of Spec/Inv.lean `rowsNodup` and `entriesStored` pin every single entry of
  `successors_vec` / `predecessors_vec`; they are invariants of the stores reachable through the mutation API
  (`wf` alone admits states that violate them), proved here for every GraphSpecs record and every history.
-/
import GraphrsModel.Props.Core
import GraphrsModel.Lemmas.C03Ent
namespace Graphrs

/-- both entry-level predicates -/
def Store.entOk (s : Store) : Bool := s.rowsNodup && s.entriesStored

theorem C03_rows_new (sp : Specs) : (Store.new sp).entOk = true := by
  rfl

private theorem entOk_iff (s : Store) (hw : s.wf = true) : s.entOk = true ↔ C03E.EntP s := by
  have hv := C03.preV_of_pre s (C03.pre_of_wf s hw)
  unfold Store.entOk
  rw [Bool.and_eq_true]
  constructor
  · intro h; exact C03E.entP_of_bool s h.1 h.2
  · intro h; exact C03E.bool_of_entP s hv h

theorem C03_rows_addNode (s : Store) (n : Node) (hw : s.wf = true) (h : s.entOk = true) : (s.addNode n).entOk = true := by
  rw [entOk_iff _ (Core_addNode_wf s n hw)]
  exact C03E.entP_addNode s n (C03.pre_of_wf s hw) ((entOk_iff s hw).1 h)

theorem C03_rows_addEdge (s : Store) (e : Edge) (hw : s.wf = true) (h : s.entOk = true) : (s.addEdge e).1.entOk = true := by
  rw [entOk_iff _ (Core_addEdge_wf s e hw)]
  exact C03E.entP_addEdge s e (C03.pre_of_wf s hw) ((entOk_iff s hw).1 h)

private theorem rows_new (sp : Specs) : (Store.new sp).wf = true ∧ (Store.new sp).entOk = true :=
  ⟨C01_new_wf sp, C03_rows_new sp⟩

private theorem rows_addNode (s : Store) (n : Node) (h : s.wf = true ∧ s.entOk = true) :
    (s.addNode n).wf = true ∧ (s.addNode n).entOk = true :=
  ⟨Core_addNode_wf s n h.1, C03_rows_addNode s n h.1 h.2⟩

private theorem rows_addEdge (s : Store) (e : Edge) (h : s.wf = true ∧ s.entOk = true) :
    (s.addEdge e).1.wf = true ∧ (s.addEdge e).1.entOk = true :=
  ⟨Core_addEdge_wf s e h.1, C03_rows_addEdge s e h.1 h.2⟩

/-- every call of the mutation API preserves the entry-level invariant -/
theorem C03_rows_step (s : Store) (op : Op) (hw : s.wf = true) (h : s.entOk = true) : (s.step op).1.entOk = true :=
  (Store.step_ind rows_new rows_addNode rows_addEdge s op ⟨hw, h⟩).2

/-- **on every reachable store**, for every GraphSpecs record and every history -/
theorem C03_rows_reachable (sp : Specs) (ops : List Op) : (Store.run sp ops).1.entOk = true :=
  (Store.run_ind rows_new rows_addNode rows_addEdge sp ops).2

/-- `Graph::new_from_nodes_and_edges` (and with it every derived graph: subgraph, reverse, set_all_edge_weights,
    to_single_edges are rebuilt through it) -/
theorem C03_rows_newFrom (sp : Specs) (ns : List Node) (es : List Edge) (t : Store)
    (h : Store.newFrom sp ns es = .ok t) : t.entOk = true :=
  (Store.newFrom_ind rows_new rows_addNode (fun s e _ => rows_addEdge s e) h).2

private theorem wts_single (row : List Adj) (p : Nat → Bool) (hnd : ((row.map (·.1)).filter p).Nodup)
    (a : Adj) (ha : a ∈ row) (hp : p a.1 = true) : C03.wts row a.1 = [a.2] := by
  induction row with
  | nil => simp at ha
  | cons b r ih =>
    rw [C03.wts_cons]
    simp only [List.map_cons] at hnd
    by_cases hb : b.1 = a.1
    · rw [if_pos hb]
      have hpb : p b.1 = true := by rw [hb]; exact hp
      rw [List.filter_cons_of_pos hpb, List.nodup_cons] at hnd
      have hno : ∀ c ∈ r, c.1 ≠ a.1 := by
        intro c hc e
        apply hnd.1
        rw [List.mem_filter]
        exact ⟨List.mem_map.2 ⟨c, hc, by rw [e, hb]⟩, hpb⟩
      rw [C03.wts_eq_nil r a.1 hno]
      rcases List.mem_cons.1 ha with h | h
      · rw [h]
      · exact absurd rfl (hno a h)
    · rw [if_neg hb]
      have hnd' : ((r.map (·.1)).filter p).Nodup := by
        by_cases hpb : p b.1 = true
        · rw [List.filter_cons_of_pos hpb, List.nodup_cons] at hnd; exact hnd.2
        · rw [List.filter_cons_of_neg hpb] at hnd; exact hnd
      rcases List.mem_cons.1 ha with h | h
      · exact absurd (by rw [h]) hb
      · exact ih hnd' h

private theorem hoff_filter (dir : Bool) (i j : Nat) (hoff : dir = true ∨ j ≠ i) : (dir || j != i) = true := by
  rcases hoff with h | h
  · simp [h]
  · simp [h]

/-- an entry outside the doubled self-loop entries is the whole weight list of its pair, so it is the expected minimum -/
private theorem entry_min {names : List Nat} {vec : List (List Adj)} {f : Nat → Nat → Option W} {d : Bool}
    (hV : C03.VecInv names vec f) (hN : C03E.Nd d vec) {i : Nat} {row : List Adj} (hrow : vec[i]? = some row)
    {a : Adj} (ha : a ∈ row) (hoff : d = true ∨ a.1 ≠ i) :
    ∃ x y, names[i]? = some x ∧ names[a.1]? = some y ∧ some a.2 = f x y := by
  have hi : i < names.length := hV.len ▸ Store.getElem?_lt hrow
  have hj := hV.bnd i row hrow a ha
  have hv := hV.val i a.1 _ _ (List.getElem?_eq_getElem hi) (List.getElem?_eq_getElem hj)
  rw [C03.rowMin_of_row hrow, wts_single row _ (hN i row hrow) a ha (hoff_filter _ _ _ hoff)] at hv
  exact ⟨names[i], names[a.1], List.getElem?_eq_getElem hi, List.getElem?_eq_getElem hj, hv⟩

/-- **every entry is exact**: under `wf` and the entry-level invariant, an entry `(j, w)` of row `i` of `successors_vec`
    (other than the doubled entry of an undirected self-loop) carries exactly the minimum stored weight between the two nodes -/
theorem C03_entry_exact (s : Store) (hw : s.wf = true) (h : s.entOk = true) (i : Nat) (row : List Adj)
    (hrow : s.succVec[i]? = some row) (a : Adj) (ha : a ∈ row) (hoff : s.specs.directed = true ∨ a.1 ≠ i) :
    ∃ x y, s.names[i]? = some x ∧ s.names[a.1]? = some y ∧ some a.2 = Abs.minW (s.weightsBetween x y) :=
  entry_min (C03.pre_of_wf s hw).vS ((entOk_iff s hw).1 h).nS hrow ha hoff

/-- the same for `predecessors_vec` (weights of the edges *into* the node) -/
theorem C03_entry_exact_pred (s : Store) (hw : s.wf = true) (h : s.entOk = true) (i : Nat) (row : List Adj)
    (hrow : s.predVec[i]? = some row) (a : Adj) (ha : a ∈ row) (hoff : s.specs.directed = true ∨ a.1 ≠ i) :
    ∃ x y, s.names[i]? = some x ∧ s.names[a.1]? = some y ∧ some a.2 = Abs.minW (s.weightsBetween y x) := by
  obtain ⟨x, y, hx, hy, hv⟩ := entry_min (C03.pre_of_wf s hw).vP ((entOk_iff s hw).1 h).nP hrow ha hoff
  refine ⟨x, y, hx, hy, ?_⟩
  rw [C03.weightsBetween_eq]
  cases hd : s.specs.directed with
  | true => rw [hd] at hv; exact hv
  | false => rw [hd] at hv; cases hv

private theorem stored_weighted (s : Store) (hall : ∀ e ∈ s.allEdges, ∃ c, e.w = some c) (x y : Nat) (w : W)
    (hw : w ∈ s.weightsBetween x y) : ∃ c, w = some c := by
  unfold Store.weightsBetween at hw
  rw [List.mem_map] at hw
  obtain ⟨e, he, rfl⟩ := hw
  cases hl : alookup s.edges (nameKey s.specs.directed x y) with
  | none => rw [hl] at he; simp at he
  | some l =>
    rw [hl] at he
    simp only [Option.getD_some] at he
    apply hall e
    rw [C03.mem_allEdges]
    exact ⟨_, AL.lookup_mem hl, he⟩

private theorem stB_weighted (s : Store) (vec : List (List Adj)) (wb : Nat → Nat → List W)
    (hwb : ∀ x y w, w ∈ wb x y → ∃ c, w = some c) (h : C03E.stB s.names vec wb = true) :
    ∀ row ∈ vec, ∀ a ∈ row, ∃ c, a.2 = some c := by
  rw [C03E.stB_iff] at h
  intro row hrow a ha
  obtain ⟨i, hi⟩ := List.mem_iff_getElem?.1 hrow
  obtain ⟨x, y, _, _, hm⟩ := h i row hi a ha
  exact hwb x y _ hm

/-- when every stored edge carries a weight, so does every entry the algorithms traverse -/
theorem C03_entries_weighted (s : Store) (h : s.entOk = true) (hall : ∀ e ∈ s.allEdges, ∃ c, e.w = some c) :
    (∀ row ∈ s.succVec, ∀ a ∈ row, ∃ c, a.2 = some c) ∧ (∀ row ∈ s.predVec, ∀ a ∈ row, ∃ c, a.2 = some c) := by
  unfold Store.entOk at h
  rw [Bool.and_eq_true, C03E.entriesStored_eq, Bool.and_eq_true] at h
  exact ⟨stB_weighted s _ _ (fun x y w hw => stored_weighted s hall x y w hw) h.2.1,
    stB_weighted s _ _ (fun x y w hw => stored_weighted s hall y x w hw) h.2.2⟩

/-- non-vacuity: an undirected multigraph with a doubled self-loop entry and a NaN-weighted parallel edge -/
example :
    let s := (Store.run { directed := false, multi := true, selfLoops := true, dedupe := .keepLast, missing := .create, slFalse := .error }
      [.addEdge ⟨1, 2, some 5, none⟩, .addEdge ⟨2, 1, some 3, none⟩, .addEdge ⟨2, 2, some 4, none⟩, .addEdge ⟨1, 2, none, none⟩]).1
    s.wf = true ∧ s.entOk = true ∧ s.succVec = [[(1, some 3)], [(0, some 3), (1, some 4), (1, some 4)]] := by
  decide +kernel

end Graphrs
