/-
  C13 (model level) — the step-level model of Louvain (Model/LouvainFull.lean) returns, whenever it returns, a
  non-empty list of levels, each a partition of the node ranks into non-empty communities, each level a coarsening
  of the previous one - for every graph, every resolution / threshold and EVERY family of shuffle permutations.
-/
import GraphrsModel.Props.Core
import GraphrsModel.Model.LouvainFull
import GraphrsModel.Props.C13
import GraphrsModel.Lemmas.LouvainVisit
import GraphrsModel.Lemmas.LouvainSweep
import GraphrsModel.Lemmas.LouvainGraphs
import GraphrsModel.Lemmas.LouvainNoPanic
import Mathlib.Data.List.Chain
namespace Graphrs
open LouvainFull

/-- `l` is a partition of `{0, …, n-1}` into non-empty sets -/
def IsPartitionOfRange (n : Nat) (l : List (List Nat)) : Prop :=
  (∀ c ∈ l, c ≠ []) ∧ (l.flatMap id).Nodup ∧ ∀ x, x ∈ l.flatMap id ↔ x < n

/-- every set of `fine` lies inside one set of `coarse` -/
def Coarsens (coarse fine : List (List Nat)) : Prop := ∀ f ∈ fine, ∃ c ∈ coarse, ∀ x ∈ f, x ∈ c

/-- one visit keeps `node2com` inside `inner`: a node recorded in community `c` is listed in `inner[c]` (the full
    invariant of the visiting loop is `LF.SInv`, kept by `LF.SInv.visit`) -/
theorem C13_visit_preserves_assignment (lv : Level) (m res : Rat) (st st' : LState) (u : Nat)
    (hv : visit lv m res st u = .ok st')
    (hcons : ∀ x c, alookup st.node2com x = some c → x ∈ (st.inner[c]?.getD [])) :
    ∀ x c, alookup st'.node2com x = some c → x ∈ (st'.inner[c]?.getD []) := by
  obtain ⟨cur, w2c, best, hcur, hw, hbest, -, -, -, -, -, -, hcase⟩ := LF.visit_ok hv
  rcases hcase with ⟨hne, hst⟩ | ⟨-, hst⟩
  · obtain ⟨v, hv2⟩ := LF.neighborWeights_keys hw best (hbest.resolve_left hne)
    have hbl : best < st.inner.length := LF.lt_length_of_mem_getD (hcons v best hv2)
    have hcl : cur < st.inner.length := LF.lt_length_of_mem_getD (hcons u cur hcur)
    intro x c hx
    rw [hst] at hx ⊢
    have hx' : alookup (ainsert st.node2com u best) x = some c := hx
    rw [AL.lookup_insert] at hx'
    rw [LF.moved_inner lv st u _ _ hne hcl hbl]
    by_cases hux : u = x
    · rw [if_pos hux] at hx'
      cases hx'
      rw [if_pos rfl, mem_sinsert]
      exact Or.inr hux.symm
    · rw [if_neg hux] at hx'
      have hmem := hcons x c hx'
      by_cases hbc : best = c
      · subst hbc
        rw [if_pos rfl, mem_sinsert]
        exact Or.inl hmem
      · rw [if_neg hbc]
        by_cases hcc : cur = c
        · subst hcc
          rw [if_pos rfl, List.mem_filter, bne_iff_ne]
          exact ⟨hmem, fun h => hux h.symm⟩
        · rw [if_neg hcc]
          exact hmem
  · intro x c hx
    rw [hst] at hx ⊢
    exact hcons x c hx

namespace LF

/-- the level loop returns, and the levels it returns are partitions of `0..n-1`, each a coarsening of the one before -/
theorem levelLoop_spec (weighted : Bool) (res threshold m : Rat) (perms : List (List Nat)) (sweepFuel n : Nat) :
    ∀ (fuel : Nat) (lv : Level) (k : Nat) (partition inner : List (List Nat)) (improvement : Bool) (modularity : Rat)
      (acc : List (List (List Nat))),
    GoodLevel lv n k → lv.g.wf = true → lv.g.specs.multi = false → PI lv k partition inner →
    ∃ r, levelLoop weighted res threshold m perms sweepFuel fuel lv partition inner improvement modularity acc = .ok r ∧
      ∀ levels, r = some levels → (∀ l ∈ acc, PartOfRange n l) →
        List.IsChain (fun fine coarse => Coarsens coarse fine) acc → (∀ x ∈ acc.getLast?, Coarsens partition x) →
        (∀ l ∈ levels, PartOfRange n l) ∧ List.IsChain (fun fine coarse => Coarsens coarse fine) levels ∧
        ((improvement = true ∨ acc ≠ []) → levels ≠ []) := by
  intro fuel
  induction fuel with
  | zero => intro lv k partition inner improvement modularity acc _ _ _ _; exact ⟨none, rfl, nofun⟩
  | succ fuel ih =>
    intro lv k partition inner improvement modularity acc hg hwf hm hpi
    unfold levelLoop
    cases improvement
    · refine ⟨some acc, rfl, fun levels h hacc hchain _ => ?_⟩
      cases h
      exact ⟨hacc, hchain, fun hh => hh.resolve_left Bool.false_ne_true⟩
    · -- what is known of `acc ++ [partition]`, the list handed on
      have hnext : (∀ l ∈ acc, PartOfRange n l) → List.IsChain (fun fine coarse => Coarsens coarse fine) acc →
          (∀ x ∈ acc.getLast?, Coarsens partition x) → (∀ l ∈ acc ++ [partition], PartOfRange n l) ∧
          List.IsChain (fun fine coarse => Coarsens coarse fine) (acc ++ [partition]) := by
        intro hacc hchain hlast
        refine ⟨fun l hl => ?_, ?_⟩
        · rw [List.mem_append, List.mem_singleton] at hl
          rcases hl with hl | rfl
          · exact hacc l hl
          · exact hpi.partition hg
        · rw [List.isChain_append]
          refine ⟨hchain, List.isChain_singleton _, fun x hx y hy => ?_⟩
          cases hy
          exact hlast x hx
      obtain ⟨hp, hnm⟩ := isPartition_of_part hg hwf hpi.inner_part
      obtain ⟨omod, hmod⟩ := modularity_ok lv.g hwf inner hp hnm weighted res
      rw [if_neg (by decide), hmod]
      cases omod with
      | none => exact ⟨none, rfl, nofun⟩
      | some newMod =>
        show ∃ r, (if newMod - modularity ≤ threshold then _ else _) = Outcome.ok r ∧ _
        split
        · refine ⟨_, rfl, fun levels h hacc hchain hlast => ?_⟩
          cases h
          exact ⟨(hnext hacc hchain hlast).1, (hnext hacc hchain hlast).2, fun _ => List.append_ne_nil_of_right_ne_nil _ (List.cons_ne_nil _ _)⟩
        · obtain ⟨lv', hgen, hwf', hm', _, hg', hmem'⟩ := generateGraph_spec lv n k hg hwf inner hpi.inner_part
          have hin' : InputOK lv' inner.length partition := hpi.inputOK hmem'
          rw [hm] at hm'
          obtain ⟨r, hr⟩ := computeOneLevel_exists hg' hwf' hm' hin' m res (perms[lv'.g.numNodes]?.getD []) sweepFuel
          rw [hgen]
          show ∃ r', Outcome.bind (computeOneLevel lv' m res partition (perms[lv'.g.numNodes]?.getD []) sweepFuel) _ = Outcome.ok r' ∧ _
          rw [hr]
          cases r with
          | none => exact ⟨none, rfl, nofun⟩
          | some r =>
            obtain ⟨p, i, imp⟩ := r
            obtain ⟨hpi', hco⟩ := computeOneLevel_post hg' hin' hr
            obtain ⟨r', hr', hpost⟩ := ih lv' inner.length p i imp newMod (acc ++ [partition]) hg' hwf' hm' hpi'
            refine ⟨r', hr', fun levels h hacc hchain hlast => ?_⟩
            obtain ⟨h1, h2, h3⟩ := hpost levels h (hnext hacc hchain hlast).1 (hnext hacc hchain hlast).2
              (by intro x hx; rw [List.getLast?_concat] at hx; cases hx; exact hco)
            exact ⟨h1, h2, fun _ => h3 (Or.inr (List.append_ne_nil_of_right_ne_nil _ (List.cons_ne_nil _ _)))⟩

/-- the model returns on every well-formed store; levels it returns are non-empty, partitions of the ranks, and nested -/
theorem louvainPartitions_spec (s : Store) (h : s.wf = true) (weighted : Bool) (res threshold : Rat)
    (perms : List (List Nat)) :
    ∃ r, louvainPartitions s weighted res threshold perms = .ok r ∧ ∀ levels, r = some levels →
      levels ≠ [] ∧ (∀ l ∈ levels, PartOfRange s.numNodes l) ∧
      List.IsChain (fun fine coarse => Coarsens coarse fine) levels := by
  obtain ⟨lv, hlv, hwf, hm, hnum, hg, hmem⟩ := convertGraph_spec s h weighted
  have hin := InputOK.singletons (lv := lv) s.numNodes hmem
  obtain ⟨hp, hnm⟩ := isPartition_of_part hg hwf (singletons_part s.numNodes)
  obtain ⟨omod, hmod⟩ := modularity_ok lv.g hwf _ hp hnm weighted res
  unfold louvainPartitions
  simp only [bind, Outcome.bind, hlv, hnum, hmod, Outcome.unwrap]
  cases omod with
  | none => exact ⟨none, rfl, nofun⟩
  | some mod0 =>
    simp only
    obtain ⟨r, hr⟩ := computeOneLevel_exists hg hwf hm hin
      (if weighted = true then ratW lv.g.sizeWeighted else (lv.g.sizeUnweighted : Rat)) res
      (perms[s.numNodes]?.getD []) (4 * s.numNodes * s.numNodes + 16)
    simp only [hr]
    cases r with
    | none => exact ⟨none, rfl, nofun⟩
    | some r =>
      obtain ⟨p, i, imp⟩ := r
      simp only
      obtain ⟨hpi, _⟩ := computeOneLevel_post hg hin hr
      obtain ⟨r', hr', hpost⟩ := levelLoop_spec weighted res threshold _ perms _ s.numNodes _ lv s.numNodes p i true
        mod0 [] hg hwf hm hpi
      refine ⟨r', hr', fun levels hl => ?_⟩
      obtain ⟨h1, h2, h3⟩ := hpost levels hl nofun List.isChain_nil nofun
      exact ⟨h3 (Or.inl rfl), h1, h2⟩

end LF

/-- **levels are partitions and nested** -/
theorem C13_model_levels (s : Store) (h : s.wf = true) (weighted : Bool) (res threshold : Rat) (perms : List (List Nat))
    (levels : List (List (List Nat))) (hl : louvainPartitions s weighted res threshold perms = .ok (some levels)) :
    levels ≠ [] ∧ (∀ l ∈ levels, IsPartitionOfRange s.numNodes l) ∧
    (∀ i, ∀ fine coarse, levels[i]? = some fine → levels[i + 1]? = some coarse → Coarsens coarse fine) := by
  obtain ⟨r, hr, hpost⟩ := LF.louvainPartitions_spec s h weighted res threshold perms
  obtain ⟨h1, h2, h3⟩ := hpost levels (Outcome.ok.inj (hr.symm.trans hl))
  refine ⟨h1, h2, fun j fine coarse hf hc => ?_⟩
  obtain ⟨hj, rfl⟩ := List.getElem?_eq_some_iff.1 hc
  obtain ⟨_, rfl⟩ := List.getElem?_eq_some_iff.1 hf
  exact List.isChain_iff_getElem.1 h3 j hj

/-- the model never reaches a panic site on a well-formed store (the hypothesis on the weights is not used: see
    `C13_model_always_ok`) -/
theorem C13_model_no_panic (s : Store) (h : s.wf = true) (weighted : Bool) (res threshold : Rat) (perms : List (List Nat))
    (hw : weighted = true → s.edgesHaveWeight = true) :
    (louvainPartitions s weighted res threshold perms).isPanic = false := by
  -- stronger: the model always returns `.ok _` on a well-formed store (`hw` is not needed)
  have _ := hw
  obtain ⟨r, hr, _⟩ := LF.louvainPartitions_spec s h weighted res threshold perms
  rw [hr]
  rfl

/-- (stronger than `C13_model_no_panic`) on every well-formed store, for every resolution / threshold / shuffle family and both
    weight modes, the model returns `.ok _`: no panic site and no error is reachable (`.ok none` = fuel exhausted, undefined
    modularity or a flagged near-tie) -/
theorem C13_model_always_ok (s : Store) (h : s.wf = true) (weighted : Bool) (res threshold : Rat) (perms : List (List Nat)) :
    ∃ r, louvainPartitions s weighted res threshold perms = .ok r :=
  (LF.louvainPartitions_spec s h weighted res threshold perms).imp fun _ h => h.1

/-- the slice-index sites of one visit (`_partition[com]`, `inner_partition[com]`; explicit `idxGuard`s in the model) are in range
    on every state satisfying the bookkeeping invariant `LF.SInv` of the visiting loop: both the community left and the community
    entered are `<` the lengths of `part` and `inner` (see `C13_model_index_sites_safe` for the `stot*` vectors) -/
theorem C13_visit_indices_in_range (lv : Level) (n k : Nat) (m res : Rat) (st st' : LState) (u : Nat)
    (hg : LF.GoodLevel lv n k) (hs : LF.SInv lv k st) (hv : visit lv m res st u = .ok st') :
    ∃ cur best, alookup st.node2com u = some cur ∧ alookup st'.node2com u = some best ∧
      cur < st.part.length ∧ best < st.part.length ∧ cur < st.inner.length ∧ best < st.inner.length ∧
      LF.SInv lv k st' := by
  have hs' := hs.visit hg hv
  obtain ⟨cur, hcur, _⟩ := LF.visit_eq_ok.1 hv
  obtain ⟨best, hbest⟩ := hs'.n2c_total u (hs.n2c_lt u cur hcur).1
  have h1 := (hs.n2c_lt u cur hcur).2
  have h2 := (hs'.n2c_lt u best hbest).2
  exact ⟨cur, best, hcur, hbest, by rw [hs.part_len]; exact h1, by rw [hs.part_len]; exact h2,
    by rw [hs.inner_len]; exact h1, by rw [hs.inner_len]; exact h2, hs'⟩

/-- **no index-site panic.**  Every slice-index expression of the Rust code (`_partition[n2c]`, `inner_partition[n2c]`,
    `_partition[best_com]`, `inner_partition[best_com]`, `stot*[best_com] -=`, `stot*[nbr_com]`, `stot*[best_com] +=`) is an explicit
    `idxGuard` in the model: out of range = `.panic site`.  On a well-formed single-edge level graph with nodes `0..k-1`
    (`LF.GoodLevel`; every level graph built from a wf store is one: `LF.convertGraph_spec`, `LF.generateGraph_spec`) and a state
    satisfying the invariant of the visiting loop (`LF.SInv`: `part` and `inner` have `k` slots and all community ids are `< k`;
    `LF.DegOK`: the degree maps are total and the `stot*` vectors have `k` slots):
    (a) every community id in use is a valid index of all five vectors;
    (b) `visit` returns `.ok` (so none of its guards, and no `unwrap`, fails) and re-establishes the invariant;
    (c) `computeOneLevel` returns `.ok` for every shuffle, every fuel and every input partition listing the member blocks. -/
theorem C13_model_index_sites_safe (lv : Level) (n k : Nat) (hg : LF.GoodLevel lv n k) (hwf : lv.g.wf = true)
    (hm : lv.g.specs.multi = false) :
    (∀ (st : LState), LF.SInv lv k st → LF.DegOK lv.g k st.di → ∀ x c, alookup st.node2com x = some c →
      c < st.part.length ∧ c < st.inner.length ∧
      (lv.g.specs.directed = true → c < st.di.stotIn.length ∧ c < st.di.stotOut.length) ∧
      (lv.g.specs.directed = false → c < st.di.stot.length)) ∧
    (∀ (st : LState) (m res : Rat) (u : Nat), LF.SInv lv k st → LF.DegOK lv.g k st.di → u ∈ lv.g.getAllNodeNames →
      ∃ st', visit lv m res st u = .ok st' ∧ LF.SInv lv k st' ∧ LF.DegOK lv.g k st'.di) ∧
    (∀ (partition : List (List Nat)) (m res : Rat) (perm : List Nat) (fuel : Nat), LF.InputOK lv k partition →
      ∃ r, computeOneLevel lv m res partition perm fuel = .ok r) := by
  refine ⟨?_, ?_, ?_⟩
  · intro st hs hd x c hx
    have hc := (hs.n2c_lt x c hx).2
    refine ⟨by rw [hs.part_len]; exact hc, by rw [hs.inner_len]; exact hc, ?_, ?_⟩
    · intro hdir
      obtain ⟨_, _, h1, h2⟩ := hd.dir hdir
      exact ⟨by rw [h1]; exact hc, by rw [h2]; exact hc⟩
    · intro hdir
      obtain ⟨_, h1⟩ := hd.undir hdir
      rw [h1]; exact hc
  · intro st m res u hs hd hu
    obtain ⟨st', hv⟩ := LF.visit_exists hg hwf hm hs hd m res u hu
    exact ⟨st', hv, hs.visit hg hv, LF.visit_degOK hv hd⟩
  · intro partition m res perm fuel hin
    exact LF.computeOneLevel_exists hg hwf hm hin m res perm fuel

end Graphrs
