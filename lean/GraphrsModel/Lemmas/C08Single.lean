/-
  One `single_source`-style search by position followed by the renaming (`runOne` then `spToNames`), on a store with the
  coupling and the entry-level invariant: success, the bindings of the result, exactness, validity of the renamed paths.
-/
import GraphrsModel.Lemmas.C08Sim
namespace Graphrs
namespace C08A
open C06T

/-- a list of positions renamed through `names[·]?` without a miss: every position has a name, and any function that
    agrees with `names` renames the list the same way -/
theorem map_names {names : List Nat} : ∀ (q p' : List Nat), q.map (fun i => names[i]?) = p'.map some →
    (∀ i ∈ q, ∃ x, names[i]? = some x) ∧
      ∀ f : Nat → Nat, (∀ i x, names[i]? = some x → f i = x) → q.map f = p' := by
  intro q
  induction q with
  | nil =>
    intro p' h
    cases p' with
    | nil => exact ⟨fun _ hi => (nomatch hi), fun _ _ => rfl⟩
    | cons a b => cases h
  | cons i q ih =>
    intro p' h
    cases p' with
    | nil => cases h
    | cons a b =>
      rw [List.map_cons, List.map_cons] at h
      obtain ⟨h1, h2⟩ := List.cons.inj h
      obtain ⟨ih1, ih2⟩ := ih b h2
      refine ⟨fun j hj => (List.mem_cons.1 hj).elim (fun e => e ▸ ⟨a, h1⟩) (ih1 j), fun f hf => ?_⟩
      rw [List.map_cons, hf i a h1, ih2 f hf]

def tgtIndex (s : Store) : Option Nat → Outcome (Option Nat)
  | some t => (s.getNodeIndex t).map' some
  | none => .ok none

theorem singleSource_eq (s : Store) (weighted : Bool) (src : Nat) (target : Option Nat) (c : Option Int) (f w : Bool) :
    s.singleSource weighted src target c f w =
      (s.getNodeIndex src).bind fun si => (tgtIndex s target).bind fun ti =>
        (s.runOne weighted si ti target c f w).bind s.spToNames := by
  unfold Store.singleSource
  cases target <;> rfl

theorem singleSource_inv (s : Store) (weighted : Bool) (src : Nat) (target : Option Nat) (c : Option Int) (f w : Bool)
    (out : List (Nat × SPInfo)) (hout : s.singleSource weighted src target c f w = .ok out) :
    ∃ si ti r, s.getNodeIndex src = .ok si ∧ (target = none → ti = none) ∧
      s.runOne weighted si ti target c f w = .ok r ∧ s.spToNames r = .ok out := by
  rw [singleSource_eq] at hout
  obtain ⟨si, h1, h⟩ := Outcome.bind_eq_ok.1 hout
  obtain ⟨ti, h2, h⟩ := Outcome.bind_eq_ok.1 h
  obtain ⟨r, h3, h4⟩ := Outcome.bind_eq_ok.1 h
  refine ⟨si, ti, r, h1, fun e => ?_, h3, h4⟩
  subst e
  exact (Outcome.ok.inj h2).symm

theorem singleSource_none_eq (s : Store) (weighted : Bool) (src si : Nat) (c : Option Int) (f w : Bool)
    (hsi : s.getNodeIndex src = .ok si) :
    s.singleSource weighted src none c f w = (s.runOne weighted si none none c f w).bind s.spToNames := by
  rw [singleSource_eq, hsi]
  rfl

/-- what one search by position delivers, by names -/
structure Single (s : Store) (weighted : Bool) (si src : Nat) (ti : Option Nat) (cutoff2 : Option Int) (withPaths : Bool)
    (r : List (Nat × SPInfo)) : Prop where
  /-- the renaming succeeds -/
  conv_ok : ∃ out, s.spToNames r = .ok out
  nodup : ∀ out, s.spToNames r = .ok out → (out.map (·.1)).Nodup
  /-- every binding of the renamed result is a reached position with a walk of the reported cost -/
  sound : ∀ out, s.spToNames r = .ok out → ∀ y i, alookup out y = some i →
    ∃ t info, (t, info) ∈ r ∧ s.names[t]? = some y ∧ i = conv s (t, info) ∧
      Walk (s.idxArcs weighted) si t info.dist
  complete : ∀ out, s.spToNames r = .ok out → ∀ t info, (t, info) ∈ r →
    ∃ y, s.names[t]? = some y ∧ alookup out y = some (conv s (t, info))
  exact : ti = none → cutoff2 = none → ∀ t d, (∃ info, (t, info) ∈ r ∧ info.dist = d) ↔ IsDist (s.idxArcs weighted) si t d
  paths : withPaths = true → ∀ t info, (t, info) ∈ r → ∀ q ∈ info.paths,
    ∃ p' : List Nat, q.map (fun i => s.names[i]?) = p'.map some ∧ q.head? = some si ∧ q.getLast? = some t ∧
      Arcs.walkCost (s.abs.arcs s.specs.directed weighted) p' = some info.dist

theorem single_run (s : Store) (h : s.wf = true) (hent : s.entOk = true) (weighted : Bool)
    (hc : weighted = true → ∀ e ∈ s.allEdges, ∃ c, e.w = some c ∧ 0 ≤ c)
    (si src : Nat) (hsi : s.names[si]? = some src) (ti tgt : Option Nat) (cutoff2 : Option Int) (firstOnly withPaths : Bool) :
    ∃ r, s.runOne weighted si ti tgt cutoff2 firstOnly withPaths = .ok r ∧ Single s weighted si src ti cutoff2 withPaths r := by
  have hn := s.names_nodup h
  have S := store_sim s h hent weighted hc
  have hnn := idxArcs_nonneg s h weighted hc
  have hlt : si < s.nodesVec.length := lt_of_names s hsi
  obtain ⟨dist, paths, hrun, hwalk, hpaths, hexact⟩ :=
    runOne_run s weighted si ti tgt cutoff2 firstOnly withPaths (vecWf_of_wf s h) hlt hnn
  refine ⟨_, hrun, ?_⟩
  have hent1 : ∀ t info, (t, info) ∈ spInfos dist paths withPaths →
      Walk (s.idxArcs weighted) si t info.dist ∧ ∃ y, s.names[t]? = some y := by
    intro t info hm
    obtain ⟨d, hd, e⟩ := (mem_spInfos ..).1 hm
    subst e
    exact ⟨hwalk t d hd, S.target hsi (hwalk t d hd)⟩
  have hdet : ∀ t i1 i2, (t, i1) ∈ spInfos dist paths withPaths → (t, i2) ∈ spInfos dist paths withPaths → i1 = i2 :=
    fun t i1 i2 h1 h2 =>
      have hk := AL.mem_iff_lookup (Graphrs.spInfos_keys_nodup dist paths withPaths) t
      Option.some.inj (((hk i1).1 h1).symm.trans ((hk i2).1 h2))
  have hpth : withPaths = true → ∀ t info, (t, info) ∈ spInfos dist paths withPaths → ∀ q ∈ info.paths,
      ∃ p' : List Nat, q.map (fun i => s.names[i]?) = p'.map some ∧ q.head? = some si ∧ q.getLast? = some t ∧
        Arcs.walkCost (s.abs.arcs s.specs.directed weighted) p' = some info.dist := by
    intro hp t info hm q hq
    obtain ⟨d, hd, e⟩ := (mem_spInfos ..).1 hm
    subst e
    subst hp
    simp only [if_true] at hq ⊢
    obtain ⟨h1, h2, h3⟩ := hpaths rfl t d hd q hq
    obtain ⟨p', hp', hw'⟩ := sim_walkCost hn S q d h3 (fun i hi => by
      rw [h1] at hi
      cases hi
      exact ⟨src, hsi⟩)
    exact ⟨p', hp', h1, h2, hw'⟩
  have hvalid : ∀ p ∈ spInfos dist paths withPaths, valid s p := by
    intro p hp
    obtain ⟨t, info⟩ := p
    obtain ⟨_, y, hy⟩ := hent1 t info hp
    refine ⟨(isIdx_of_names s h hy).1, ?_⟩
    intro q hq i hi
    cases hwp : withPaths with
    | false =>
      obtain ⟨d, hd, e⟩ := (mem_spInfos ..).1 hp
      subst e
      subst hwp
      simp at hq
    | true =>
      obtain ⟨p', hp', _⟩ := hpth hwp t info hp q hq
      obtain ⟨x, hx⟩ := (map_names q p' hp').1 i hi
      exact (isIdx_of_names s h hx).1
  have hsound : ∀ out, s.spToNames (spInfos dist paths withPaths) = .ok out → ∀ y i, alookup out y = some i →
      ∃ t info, (t, info) ∈ spInfos dist paths withPaths ∧ s.names[t]? = some y ∧ i = conv s (t, info) ∧
        Walk (s.idxArcs weighted) si t info.dist := by
    intro out ho y i hl
    obtain ⟨_, _, _, h4⟩ := spToNames_spec s _ out ho
    obtain ⟨⟨t, info⟩, hm, hk, hv⟩ := h4 y i hl
    obtain ⟨hw, y', hy'⟩ := hent1 t info hm
    have := (isIdx_of_names s h hy').2
    simp only at hk
    rw [this] at hk
    subst hk
    exact ⟨t, info, hm, hy', hv, hw⟩
  refine ⟨spToNames_ok s _ hvalid, fun out ho => (spToNames_spec s _ out ho).2.1, hsound, ?_, ?_, hpth⟩
  · intro out ho t info hm
    obtain ⟨_, y, hy⟩ := hent1 t info hm
    refine ⟨y, hy, ?_⟩
    obtain ⟨_, _, h3, _⟩ := spToNames_spec s _ out ho
    have hsome : (alookup out y).isSome = true := by
      rw [h3 y, List.any_eq_true]
      exact ⟨(t, info), hm, by simp [(isIdx_of_names s h hy).2]⟩
    cases hl : alookup out y with
    | none => rw [hl] at hsome; cases hsome
    | some i =>
      obtain ⟨t', info', hm', hy', hi, _⟩ := hsound out ho y i hl
      have e : t' = t := C03.names_inj hn hy' hy
      subst e
      have := hdet t' info' info hm' hm
      subst this
      rw [hi]
  · intro h1 h2 t d
    rw [spInfos_dist_iff]
    exact hexact h1 h2 t d

end C08A
end Graphrs
