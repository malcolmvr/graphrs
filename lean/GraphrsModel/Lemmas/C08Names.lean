/-
  `convert_shortest_path_info_vec_to_t_map` (`Store.spToNames`): it succeeds iff every index it meets is a node position,
  and then it binds `name(index) ↦ ⟨dist, paths renamed⟩` for every entry.
  Namespace `C08A`: C08 at the level of the API, by node names (this file and Lemmas/C08Sim, C08Single, C08Multi).
  `pathH`, `pathsH`, `infoH` (and `msH`, `apH` in C08Multi) are the bodies of the nested folds - the `h` of `foldRel h`.
-/
import GraphrsModel.Model.Dijkstra
import GraphrsModel.Lemmas.C08Fold
namespace Graphrs
namespace C08A
open C08F

def nameD (s : Store) (i : Nat) : Nat := ((s.getNodeByIndex i).map (·.name)).getD 0

def isIdx (s : Store) (i : Nat) : Prop := ∃ nd, s.getNodeByIndex i = some nd

def pathH (s : Store) (l : List Nat) (i : Nat) : Outcome (List Nat) :=
  (Outcome.ofOption "convert: get_node_by_index().unwrap()" (s.getNodeByIndex i)).bind fun nd => .ok (l ++ [nd.name])

def convPath (s : Store) (path : List Nat) : Outcome (List Nat) :=
  path.foldl (fun nacc i => Outcome.bind nacc (fun l => pathH s l i)) (.ok [])

def pathsH (s : Store) (ps : List (List Nat)) (path : List Nat) : Outcome (List (List Nat)) :=
  (convPath s path).bind fun np => .ok (ps ++ [np])

def convPaths (s : Store) (paths : List (List Nat)) : Outcome (List (List Nat)) :=
  paths.foldl (fun pacc path => Outcome.bind pacc (fun ps => pathsH s ps path)) (.ok [])

def infoH (s : Store) (out : List (Nat × SPInfo)) (p : Nat × SPInfo) : Outcome (List (Nat × SPInfo)) :=
  (Outcome.ofOption "convert: get_node_by_index().unwrap()" (s.getNodeByIndex p.1)).bind fun name =>
    (convPaths s p.2.paths).bind fun paths => .ok (ainsert out name.name ⟨p.2.dist, paths⟩)

theorem spToNames_eq (s : Store) (l : List (Nat × SPInfo)) :
    s.spToNames l = l.foldl (fun acc p => Outcome.bind acc (fun out => infoH s out p)) (.ok []) := rfl

theorem getNodeByIndex_some {s : Store} {i : Nat} {nd : Node} (h : s.getNodeByIndex i = some nd) :
    isIdx s i ∧ nameD s i = nd.name :=
  ⟨⟨nd, h⟩, by rw [nameD, h]; rfl⟩

theorem pathH_ok (s : Store) (l : List Nat) (i : Nat) (l' : List Nat) :
    pathH s l i = .ok l' ↔ isIdx s i ∧ l' = l ++ [nameD s i] := by
  simp only [pathH, Outcome.bind_eq_ok, Outcome.ofOption_eq_ok, Outcome.ok.injEq]
  constructor
  · rintro ⟨nd, h, rfl⟩
    obtain ⟨h1, h2⟩ := getNodeByIndex_some h
    exact ⟨h1, by rw [h2]⟩
  · rintro ⟨⟨nd, h⟩, rfl⟩
    exact ⟨nd, h, by rw [(getNodeByIndex_some h).2]⟩

theorem convPath_ok (s : Store) (path r : List Nat) :
    convPath s path = .ok r ↔ (∀ i ∈ path, isIdx s i) ∧ r = path.map (nameD s) := by
  rw [convPath, foldl_ok_iff, foldRel_snoc _ _ _ (pathH_ok s), List.nil_append]

theorem pathsH_ok (s : Store) (ps : List (List Nat)) (path : List Nat) (ps' : List (List Nat)) :
    pathsH s ps path = .ok ps' ↔ (∀ i ∈ path, isIdx s i) ∧ ps' = ps ++ [path.map (nameD s)] := by
  simp only [pathsH, Outcome.bind_eq_ok, convPath_ok, Outcome.ok.injEq]
  constructor
  · rintro ⟨_, ⟨h, rfl⟩, rfl⟩
    exact ⟨h, rfl⟩
  · rintro ⟨h, rfl⟩
    exact ⟨_, ⟨h, rfl⟩, rfl⟩

theorem convPaths_ok (s : Store) (paths r : List (List Nat)) :
    convPaths s paths = .ok r ↔
      (∀ path ∈ paths, ∀ i ∈ path, isIdx s i) ∧ r = paths.map (fun path => path.map (nameD s)) := by
  rw [convPaths, foldl_ok_iff, foldRel_snoc _ _ _ (pathsH_ok s), List.nil_append]

def valid (s : Store) (p : Nat × SPInfo) : Prop :=
  isIdx s p.1 ∧ ∀ path ∈ p.2.paths, ∀ i ∈ path, isIdx s i

def conv (s : Store) (p : Nat × SPInfo) : SPInfo := ⟨p.2.dist, p.2.paths.map (fun path => path.map (nameD s))⟩

theorem infoH_ok (s : Store) (out out' : List (Nat × SPInfo)) (p : Nat × SPInfo) :
    infoH s out p = .ok out' ↔ valid s p ∧ out' = ainsert out (nameD s p.1) (conv s p) := by
  simp only [infoH, Outcome.bind_eq_ok, Outcome.ofOption_eq_ok, convPaths_ok, Outcome.ok.injEq, valid, conv]
  constructor
  · rintro ⟨nd, h, _, ⟨h3, rfl⟩, rfl⟩
    obtain ⟨h1, h2⟩ := getNodeByIndex_some h
    exact ⟨⟨h1, h3⟩, by rw [h2]⟩
  · rintro ⟨⟨⟨nd, h⟩, h3⟩, rfl⟩
    exact ⟨nd, h, _, ⟨h3, rfl⟩, by rw [(getNodeByIndex_some h).2]⟩

theorem spToNames_spec (s : Store) (l out : List (Nat × SPInfo)) (h : s.spToNames l = .ok out) :
    (∀ p ∈ l, valid s p) ∧
    (out.map (·.1)).Nodup ∧
    (∀ k, (alookup out k).isSome = l.any (fun p => nameD s p.1 == k)) ∧
    (∀ k v, alookup out k = some v → ∃ p ∈ l, nameD s p.1 = k ∧ v = conv s p) := by
  rw [spToNames_eq, foldl_ok_iff] at h
  have hst : ∀ b x b', infoH s b x = .ok b' → ∃ v, v = conv s x ∧ b' = ainsert b (nameD s x.1) v := by
    intro b x b' hb
    exact ⟨_, rfl, ((infoH_ok ..).1 hb).2⟩
  obtain ⟨i1, i2, i3⟩ := foldRel_insert (infoH s) (fun p => nameD s p.1) (fun p v => v = conv s p) hst l [] out h
  refine ⟨?_, i3 (by simp), ?_, ?_⟩
  · intro p hp
    obtain ⟨b1, b2, hb⟩ := foldRel_steps _ l _ _ h p hp
    exact ((infoH_ok ..).1 hb).1
  · intro k; rw [i1 k]; simp [alookup]
  · intro k v hv
    rcases i2 k v hv with h1 | h1
    · exact h1
    · simp [alookup] at h1

theorem spToNames_ok (s : Store) (l : List (Nat × SPInfo)) (hall : ∀ p ∈ l, valid s p) :
    ∃ out, s.spToNames l = .ok out := by
  obtain ⟨r, hr⟩ := foldRel_exists (infoH s) l (fun p hp b => ⟨_, (infoH_ok s b _ p).2 ⟨hall p hp, rfl⟩⟩) []
  exact ⟨r, by rw [spToNames_eq, foldl_ok_iff]; exact hr⟩

end C08A
end Graphrs
