/-
  The index arcs `Store.idxArcs` of a reachable store against the abstract name arcs: simulation, non-negativity,
  `Store.vecWf`; transfer of `walkCost` along the simulation; the run of `Store.runOne`.
-/
import GraphrsModel.Props.C04Model
import GraphrsModel.Props.C03Rows
import GraphrsModel.Lemmas.C06Transfer
import GraphrsModel.Lemmas.C08Names
import GraphrsModel.Lemmas.DijkstraRun
namespace Graphrs
namespace C08A
open C06T

theorem nodesP (s : Store) (h : s.wf = true) : C02.NodesP s := C02.nodesP_of s (s.wf_parts h).1

theorem vecWf_of_wf (s : Store) (h : s.wf = true) : s.vecWf := by
  refine ⟨(nodesP s h).succVecLen, ?_⟩
  intro row hrow a ha
  obtain ⟨i, hi⟩ := List.mem_iff_getElem?.1 hrow
  exact C03_indexes_in_range s h i a (Or.inl (by rw [hi]; exact ha))

theorem mem_idxArcs (s : Store) (weighted : Bool) (u x : Nat) (w : Int) :
    (u, x, w) ∈ s.idxArcs weighted ↔ (u, x, w) ∈ rowArcs weighted u (s.succVec[u]?.getD []) :=
  ⟨(idxArcs_rowsOk s weighted).sub u x w, (idxArcs_rowsOk s weighted).sup u _⟩

theorem lt_of_row_mem (s : Store) (h : s.wf = true) (u : Nat) (a : Adj) (ha : a ∈ s.succVec[u]?.getD []) :
    u < s.nodesVec.length := by
  rw [← (nodesP s h).succVecLen]
  cases hr : s.succVec[u]? with
  | none => rw [hr] at ha; simp at ha
  | some row => exact (List.getElem?_eq_some_iff.1 hr).1

theorem mem_rowArcs_false (v : Nat) (row : List Adj) (u x : Nat) (w : Int) :
    (u, x, w) ∈ rowArcs false v row ↔ (u = v ∧ w = 1 ∧ ∃ a ∈ row, a.1 = x) := by
  unfold rowArcs
  simp only [Bool.false_eq_true, if_false, Option.map_some, List.mem_filterMap, Option.some.injEq, Prod.mk.injEq]
  constructor
  · rintro ⟨a, ha, e1, e2, e3⟩
    exact ⟨e1.symm, e3.symm, a, ha, e2⟩
  · rintro ⟨e1, e3, a, ha, e2⟩
    exact ⟨a, ha, e1.symm, e2, e3.symm⟩

theorem mem_idxArcs_false (s : Store) (h : s.wf = true) (u x : Nat) (w : Int) :
    (u, x, w) ∈ s.idxArcs false ↔ (u < s.nodesVec.length ∧ w = 1 ∧ ∃ a ∈ s.succVec[u]?.getD [], a.1 = x) := by
  rw [mem_idxArcs, mem_rowArcs_false]
  constructor
  · rintro ⟨_, hw, a, ha, e⟩
    exact ⟨lt_of_row_mem s h u a ha, hw, a, ha, e⟩
  · rintro ⟨_, hw, a, ha, e⟩
    exact ⟨rfl, hw, a, ha, e⟩

theorem mem_idxArcs_true (s : Store) (h : s.wf = true) (u x : Nat) (w : Int) :
    (u, x, w) ∈ s.idxArcs true ↔ (u < s.nodesVec.length ∧ (x, some w) ∈ s.succVec[u]?.getD []) := by
  rw [mem_idxArcs, mem_rowArcs_true]
  constructor
  · rintro ⟨_, ha⟩
    exact ⟨lt_of_row_mem s h u _ ha, ha⟩
  · rintro ⟨_, ha⟩
    exact ⟨rfl, ha⟩

/-- **index arcs and abstract arcs simulate each other** on a store with the coupling and the entry-level invariant -/
theorem store_sim (s : Store) (h : s.wf = true) (hent : s.entOk = true) (weighted : Bool)
    (hc : weighted = true → ∀ e ∈ s.allEdges, ∃ c, e.w = some c ∧ 0 ≤ c) :
    ArcSim s.names (s.idxArcs weighted) (s.abs.arcs s.specs.directed weighted) := by
  cases weighted with
  | false => exact store_sim_unit s h _ (mem_idxArcs_false s h)
  | true =>
    have hall : ∀ e ∈ s.allEdges, ∃ c, e.w = some c := by
      intro e he
      obtain ⟨c, hc1, _⟩ := hc rfl e he
      exact ⟨c, hc1⟩
    exact store_sim_weighted s h _ (mem_idxArcs_true s h) (C03_entries_weighted s hent hall).1 hall

theorem minFold_none (ws : List W) : ws.foldl (fun m x => if W.lt x m then x else m) none = none := by
  induction ws with
  | nil => rfl
  | cons w ws ih =>
    rw [List.foldl_cons]
    have : W.lt w none = false := by cases w <;> rfl
    simp only [this, Bool.false_eq_true, if_false]
    exact ih

theorem minFold_some (ws : List W) : ∀ (m : Int), ∃ m', ws.foldl (fun m x => if W.lt x m then x else m) (some m) = some m' ∧
    m' ≤ m ∧ (∀ c, some c ∈ ws → m' ≤ c) ∧ some m' ∈ some m :: ws := by
  induction ws with
  | nil => intro m; exact ⟨m, rfl, Int.le_refl _, fun c hc => (nomatch hc), List.mem_cons_self ..⟩
  | cons w ws ih =>
    intro m
    rw [List.foldl_cons]
    have hkeep : W.lt w (some m) = false → ∃ m', ws.foldl (fun m x => if W.lt x m then x else m)
        (if W.lt w (some m) then w else some m) = some m' ∧ m' ≤ m ∧ (∀ c, some c ∈ ws → m' ≤ c) ∧ some m' ∈ some m :: ws := by
      intro hlt
      rw [hlt]
      exact ih m
    cases w with
    | none =>
      obtain ⟨m', h1, h2, h3, h4⟩ := hkeep rfl
      refine ⟨m', h1, h2, fun c hc => ?_, ?_⟩
      · rcases List.mem_cons.1 hc with hc | hc
        · cases hc
        · exact h3 c hc
      · rcases List.mem_cons.1 h4 with e | h4
        · exact e ▸ List.mem_cons_self ..
        · exact List.mem_cons_of_mem _ (List.mem_cons_of_mem _ h4)
    | some a =>
      by_cases hlt : a < m
      · have : W.lt (some a) (some m) = true := decide_eq_true hlt
        rw [this, if_pos rfl]
        obtain ⟨m', h1, h2, h3, h4⟩ := ih a
        refine ⟨m', h1, by omega, fun c hc => ?_, List.mem_cons_of_mem _ h4⟩
        rcases List.mem_cons.1 hc with hc | hc
        · cases hc; exact h2
        · exact h3 c hc
      · obtain ⟨m', h1, h2, h3, h4⟩ := hkeep (decide_eq_false hlt)
        refine ⟨m', h1, h2, fun c hc => ?_, ?_⟩
        · rcases List.mem_cons.1 hc with hc | hc
          · cases hc; omega
          · exact h3 c hc
        · rcases List.mem_cons.1 h4 with e | h4
          · exact e ▸ List.mem_cons_self ..
          · exact List.mem_cons_of_mem _ (List.mem_cons_of_mem _ h4)

/-- if the minimum (under the `f64` `<`) of the listed weights is the minimum of stored weights that are all present and
    non-negative, every present listed weight is non-negative -/
theorem listed_nonneg (l stored : List W) (heq : Abs.minW l = Abs.minW stored)
    (hst : ∀ w ∈ stored, ∃ c, w = some c ∧ 0 ≤ c) : ∀ c, some c ∈ l → 0 ≤ c := by
  intro c hc
  cases l with
  | nil => cases hc
  | cons w ws =>
    cases stored with
    | nil => cases heq
    | cons w' ws' =>
      obtain ⟨a', rfl, _⟩ := hst w' (List.mem_cons_self ..)
      obtain ⟨m', hm', _, _, hmem⟩ := minFold_some ws' a'
      obtain ⟨m0, e0, hm0⟩ := hst _ hmem
      cases e0
      rw [Abs.minW, Abs.minW, hm', Option.some.injEq] at heq
      cases w with
      | none => rw [minFold_none] at heq; cases heq
      | some a =>
        obtain ⟨m'', h1, h2, h3, _⟩ := minFold_some ws a
        cases h1.symm.trans heq
        rcases List.mem_cons.1 hc with hc | hc
        · cases hc; omega
        · have := h3 c hc; omega

/-- from `wf` alone: by `vecOk` the minimum of the weights a row lists for a neighbour is the minimum of the stored
    weights between the two nodes (`listed_nonneg`) -/
theorem idxArcs_nonneg (s : Store) (h : s.wf = true) (weighted : Bool)
    (hc : weighted = true → ∀ e ∈ s.allEdges, ∃ c, e.w = some c ∧ 0 ≤ c) :
    ∀ a ∈ s.idxArcs weighted, 0 ≤ a.2.2 := by
  intro a ha
  obtain ⟨u, x, w⟩ := a
  cases weighted with
  | false =>
    obtain ⟨_, hw, _⟩ := (mem_idxArcs_false s h u x w).1 ha
    simp only; omega
  | true =>
    obtain ⟨hu, hmem⟩ := (mem_idxArcs_true s h u x w).1 ha
    have hpre := C03.pre_of_wf s h
    have hx : x < s.nodesVec.length := (vecWf_of_wf s h).adj_lt u _ hmem
    have hnl : s.names.length = s.nodesVec.length := by simp [Store.names]
    obtain ⟨xu, hxu⟩ : ∃ xu, s.names[u]? = some xu := ⟨_, List.getElem?_eq_getElem (by omega)⟩
    obtain ⟨xx, hxx⟩ : ∃ xx, s.names[x]? = some xx := ⟨_, List.getElem?_eq_getElem (by omega)⟩
    have hval := hpre.vS.val u x xu xx hxu hxx
    unfold C03.rowMin C03.fS at hval
    refine listed_nonneg _ _ hval ?_ w ?_
    · intro w' hw'
      unfold C03.wbC at hw'
      obtain ⟨e, he, rfl⟩ := List.mem_map.1 hw'
      cases hl : alookup s.edges (nameKey s.specs.directed xu xx) with
      | none => rw [hl] at he; cases he
      | some es =>
        rw [hl] at he
        have hall : e ∈ s.allEdges := List.mem_flatMap.2 ⟨_, AL.lookup_mem hl, he⟩
        exact hc rfl e hall
    · unfold C03.wts
      exact List.mem_map.2 ⟨(x, some w), List.mem_filter.2 ⟨hmem, by simp⟩, rfl⟩

theorem isIdx_of_names (s : Store) (h : s.wf = true) {i x : Nat} (hi : s.names[i]? = some x) :
    isIdx s i ∧ nameD s i = x := by
  unfold isIdx nameD
  rw [C02_getNodeByIndex s h i]
  show (∃ nd, s.nodesVec[i]? = some nd) ∧ ((s.nodesVec[i]?).map (·.name)).getD 0 = x
  rw [Store.names_getElem?] at hi
  cases hv : s.nodesVec[i]? with
  | none => rw [hv] at hi; simp at hi
  | some nd =>
    rw [hv] at hi
    simp only [Option.map_some, Option.some.injEq] at hi
    exact ⟨⟨nd, rfl⟩, by simpa using hi⟩

theorem names_of_lt (s : Store) {i : Nat} (hi : i < s.nodesVec.length) : s.names[i]? = some (s.names[i]'(by rw [Store.names_length]; exact hi)) :=
  List.getElem?_eq_getElem _

theorem index_of_hasNode (s : Store) (h : s.wf = true) (x : Nat) (hx : s.hasNode x = true) :
    ∃ i, s.getNodeIndex x = .ok i ∧ s.names[i]? = some x ∧ i < s.nodesVec.length := by
  have hn := nodesP s h
  have hm := (C02.hasNode_mem hn x).1 hx
  obtain ⟨i, hi⟩ := (hn.mem_names x).1 hm
  refine ⟨i, by simp [Store.getNodeIndex, hi], (hn.link x i).1 hi, hn.idx_lt hi⟩

theorem sim_minArc {names : List Nat} {IA NA : Arcs} (hn : names.Nodup) (S : ArcSim names IA NA) {i j : Nat} {b : Int}
    (h : minArc IA i j = some b) :
    ∃ x y, names[i]? = some x ∧ names[j]? = some y ∧ Graphrs.minArc NA x y = some b := by
  obtain ⟨hmem, hmin⟩ := minArc_some h
  obtain ⟨x, y, c', hx, hy, hle, harc⟩ := S.d1 i j b hmem
  obtain ⟨m, hm, hmemN, hmle⟩ := minArc_spec harc
  obtain ⟨i2, j2, c'', hi2, hj2, hle2, harc2⟩ := S.d2 x y m hmemN
  have e1 : i2 = i := C03.names_inj hn hi2 hx
  have e2 : j2 = j := C03.names_inj hn hj2 hy
  subst e1 e2
  have := hmin c'' harc2
  have e : m = b := by omega
  subst e
  exact ⟨x, y, hx, hy, hm⟩

/-- **a path by positions that is a walk of cost `d` over the index arcs is, renamed, a walk of cost `d` over the name arcs** -/
theorem sim_walkCost {names : List Nat} {IA NA : Arcs} (hn : names.Nodup) (S : ArcSim names IA NA) :
    ∀ (p : List Nat) (d : Int), Arcs.walkCost IA p = some d → (∀ i, p.head? = some i → ∃ x, names[i]? = some x) →
      ∃ p' : List Nat, p.map (fun i => names[i]?) = p'.map some ∧ Arcs.walkCost NA p' = some d := by
  intro p
  induction p with
  | nil => intro d h; cases h
  | cons i rest ih =>
    intro d h hhead
    cases rest with
    | nil =>
      obtain ⟨x, hx⟩ := hhead i rfl
      cases h
      exact ⟨[x], congrArg (· :: []) hx, rfl⟩
    | cons j rest =>
      rw [walkCost_cons_cons] at h
      cases hb : Graphrs.minArc IA i j with
      | none => rw [hb] at h; cases h
      | some b =>
        rw [hb] at h
        obtain ⟨d', hd', e⟩ := Option.map_eq_some_iff.1 h
        subst e
        obtain ⟨x, y, hx, hy, hm⟩ := sim_minArc hn S hb
        obtain ⟨p', hp', hw'⟩ := ih d' hd' (fun k hk => by
          simp only [List.head?_cons, Option.some.injEq] at hk
          subst hk; exact ⟨y, hy⟩)
        cases p' with
        | nil => cases hp'
        | cons y' rest' =>
          simp only [List.map_cons, List.cons.injEq] at hp'
          obtain ⟨e1, e2⟩ := hp'
          rw [hy] at e1
          cases e1
          refine ⟨x :: y :: rest', ?_, ?_⟩
          · simp only [List.map_cons, hx, hy, e2]
          · rw [walkCost_cons_cons, hm, hw']
            rfl

theorem runOne_run (s : Store) (weighted : Bool) (si : Nat) (ti tgt : Option Nat) (cutoff2 : Option Int)
    (firstOnly withPaths : Bool) (hwf : s.vecWf) (hsrc : si < s.nodesVec.length)
    (hnn : ∀ a ∈ s.idxArcs weighted, 0 ≤ a.2.2) :
    ∃ (dist : List (Option Int)) (paths : List (List (List Nat))),
      s.runOne weighted si ti tgt cutoff2 firstOnly withPaths = .ok (spInfos dist paths withPaths) ∧
      (∀ v d, lk dist v = some d → Walk (s.idxArcs weighted) si v d) ∧
      (withPaths = true → ∀ v d, lk dist v = some d → ∀ p ∈ paths[v]?.getD [], PathOk (s.idxArcs weighted) si v p d) ∧
      (ti = none → cutoff2 = none → ∀ t d, lk dist t = some d ↔ IsDist (s.idxArcs weighted) si t d) := by
  -- either algorithm ends in a state that satisfies the invariant
  obtain ⟨st, pend, e, I, hfin, hP⟩ : ∃ (st : DState) (pend : Arcs),
      s.runOne weighted si ti tgt cutoff2 firstOnly withPaths = .ok (spInfos st.dist st.paths withPaths) ∧
      Inv (s.idxArcs weighted) si s.nodesVec.length cutoff2 pend st.dist st.seen st.fringe ∧
      (ti = none → pend = [] ∧ st.fringe = []) ∧
      (withPaths = true → PInvB (s.idxArcs weighted) si st.seen st.paths) := by
    unfold Store.runOne
    by_cases hb : canUseBasic tgt cutoff2 firstOnly withPaths = true
    · rw [if_pos hb]
      simp only [canUseBasic, Bool.and_eq_true, Bool.not_eq_true', Option.isNone_iff_eq_none] at hb
      obtain ⟨⟨⟨_, rfl⟩, _⟩, rfl⟩ := hb
      obtain ⟨st, e, I⟩ := dijkstraBasic_run s weighted si hwf hsrc hnn
      exact ⟨{ st with fringe := [] }, [], e, I, fun _ => ⟨rfl, rfl⟩, fun h => nomatch h⟩
    · rw [if_neg hb]
      obtain ⟨st, pend, _, h⟩ := dijkstra_run s weighted si ti cutoff2 firstOnly withPaths hwf hsrc hnn
      exact ⟨st, pend, h⟩
  refine ⟨st.dist, st.paths, e, I.distWalk, fun hp v d hd p hpm => ?_, fun h1 h2 t d => ?_⟩
  · obtain ⟨k, hk, hok⟩ := hP hp v p hpm
    cases (I.distSeen v d hd).symm.trans hk
    exact hok
  · subst h2
    obtain ⟨rfl, e2⟩ := hfin h1
    rw [e2] at I
    exact (I.final_exact (idxArcs_wf s weighted hwf hnn) rfl t d).trans (and_iff_left rfl)

theorem spInfos_keys_nodup (dist : List (Option Int)) (paths : List (List (List Nat))) (wp : Bool) :
    ((spInfos dist paths wp).map (·.1)).Nodup :=
  Graphrs.spInfos_keys_nodup dist paths wp

end C08A
end Graphrs
