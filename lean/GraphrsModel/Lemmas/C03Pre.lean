/-
  The Prop-level invariant `Pre` (what C03 needs of `Store.wf`), its derivation from `wf`,
  and the way back from its traversal part `PreV` to the Bool clause `vecOk`.

  Vocabulary.  `wbC E dir x y`: the weights of the edges stored in the map `E` between the names `x` and `y`
  (`Store.weightsBetween` on components).  `fS E dir x y` / `fP E dir x y`: the minimum of those weights as the
  successor / predecessor rows must list it (`none`: the pair is not linked; `fP` reads the reversed pair and is `none`
  on undirected graphs).  `VecInv names vec f`: the rows of `vec` list, for every pair of positions, exactly the
  minimum `f` prescribes for the pair of names (`len`, `bnd`: one row per node, listed indexes are positions; `val`:
  the minima).  `SetInv names sets g`: the position-keyed neighbour sets contain `j` under `i` iff `g` holds of the
  names.  `PreC` on the components of a store: `nodup`, `nm` - the node clause; `ebM`, `ebE` - bounds of the keys of
  `edges_map` / `edges` and non-emptiness of the stored lists; `l2` - `edges_map` under the position key holds what
  `edges` holds under the name key; `vS`, `sS`, `vP`, `sP` - `VecInv` / `SetInv` for the successor and the predecessor
  side.  `Pre s` is `PreC` of the store's fields; `PreVC` / `PreV` its last four clauses, which is what `vecOk` reads.
  `rowsOkB` is the Bool test `vecOk` applies to one vector.
-/
import GraphrsModel.Lemmas.C03Inv
import GraphrsModel.Lemmas.C02Adj
namespace Graphrs
namespace C03
open Store

abbrev EMap := List ((Nat × Nat) × List Edge)
abbrev SMap := List (Nat × List Nat)
abbrev AVec := List (List Adj)

def wbC (edges : EMap) (dir : Bool) (x y : Nat) : List W :=
  ((alookup edges (nameKey dir x y)).getD []).map (·.w)

theorem weightsBetween_eq (s : Store) (x y : Nat) :
    s.weightsBetween x y = wbC s.edges s.specs.directed x y := rfl

/-- minimum stored weight between two names, as the successor rows see it -/
def fS (edges : EMap) (dir : Bool) (x y : Nat) : Option W := Abs.minW (wbC edges dir x y)
/-- ... and as the predecessor rows see it -/
def fP (edges : EMap) (dir : Bool) (x y : Nat) : Option W :=
  if dir then Abs.minW (wbC edges dir y x) else none

/-- rows of an adjacency vector against the expected minimum weights `f` (by name) -/
structure VecInv (names : List Nat) (vec : AVec) (f : Nat → Nat → Option W) : Prop where
  len : vec.length = names.length
  bnd : ∀ (i : Nat) (row : List Adj), vec[i]? = some row → ∀ a ∈ row, a.1 < names.length
  val : ∀ i j x y, names[i]? = some x → names[j]? = some y → rowMin vec i j = f x y

/-- position-keyed neighbour sets against the expected membership `g` (by name) -/
structure SetInv (names : List Nat) (sets : SMap) (g : Nat → Nat → Bool) : Prop where
  bnd : ∀ i l, alookup sets i = some l → ∀ j ∈ l, j < names.length
  mem : ∀ i j x y, names[i]? = some x → names[j]? = some y → (setOf sets i).contains j = g x y

structure PreC (names : List Nat) (nodesMap : List (Nat × Nat)) (edges edgesMap : EMap) (dir : Bool)
    (succVec : AVec) (succMap : SMap) (predVec : AVec) (predMap : SMap) : Prop where
  nodup : names.Nodup
  nm : ∀ x i, alookup nodesMap x = some i ↔ names[i]? = some x
  ebM : ∀ k l, alookup edgesMap k = some l → k.1 < names.length ∧ k.2 < names.length
  ebE : ∀ k l, alookup edges k = some l → k.1 ∈ names ∧ k.2 ∈ names ∧ l ≠ []
  l2 : ∀ i j x y, names[i]? = some x → names[j]? = some y →
    alookup edgesMap (idxKey dir i j) = alookup edges (nameKey dir x y)
  vS : VecInv names succVec (fS edges dir)
  sS : SetInv names succMap (fun x y => (fS edges dir x y).isSome)
  vP : VecInv names predVec (fP edges dir)
  sP : SetInv names predMap (fun x y => (fP edges dir x y).isSome)

def Pre (s : Store) : Prop :=
  PreC s.names s.nodesMap s.edges s.edgesMap s.specs.directed s.succVec s.succMap s.predVec s.predMap

theorem fS_isSome (edges : EMap) (dir : Bool) (x y : Nat)
    (hne : ∀ k l, alookup edges k = some l → l ≠ []) :
    (fS edges dir x y).isSome = (alookup edges (nameKey dir x y)).isSome := by
  unfold fS wbC
  rw [minW_isSome]
  cases h : alookup edges (nameKey dir x y) with
  | none => rfl
  | some l =>
    have := hne _ _ h
    cases l with
    | nil => exact absurd rfl this
    | cons a t => rfl

def rowsOkB (n : Nat) (names : List Nat) (vec : AVec) (sets : SMap) (wbf : Nat → Nat → List W) : Bool :=
  vec.zipIdx.all fun r =>
    r.1.all (fun a => a.1 < n) &&
    (List.range n).all fun j =>
      (r.1.any (·.1 == j) == (setOf sets r.2).contains j) &&
      (!(r.1.any (·.1 == j)) ||
        (match names[r.2]?, names[j]? with
         | some x, some y =>
           Abs.minW ((r.1.filter (·.1 == j)).map (·.2)) == Abs.minW (wbf x y)
         | _, _ => false))

theorem vecOk_eq (s : Store) :
    s.vecOk = (rowsOkB s.nodesVec.length s.names s.succVec s.succMap (fun x y => s.weightsBetween x y) &&
      rowsOkB s.nodesVec.length s.names s.predVec s.predMap (fun x y => s.weightsBetween y x)) := rfl

theorem rowsOkB_iff (n : Nat) (names : List Nat) (vec : AVec) (sets : SMap) (wbf : Nat → Nat → List W) :
    rowsOkB n names vec sets wbf = true ↔
      ∀ i row, vec[i]? = some row → (∀ a ∈ row, a.1 < n) ∧
        ∀ j, j < n → (row.any (·.1 == j) = (setOf sets i).contains j) ∧
          (row.any (·.1 == j) = true → ∃ x y, names[i]? = some x ∧ names[j]? = some y ∧
            Abs.minW (wts row j) = Abs.minW (wbf x y)) := by
  unfold rowsOkB
  simp only [List.all_eq_true, Bool.and_eq_true, decide_eq_true_eq, beq_iff_eq, List.mem_range,
    Bool.or_eq_true, Bool.not_eq_true']
  constructor
  · intro h i row hrow
    have h' := h (row, i) (List.mem_zipIdx_iff_getElem?.2 hrow)
    refine ⟨h'.1, fun j hj => ⟨(h'.2 j hj).1, fun hany => ?_⟩⟩
    rcases (h'.2 j hj).2 with h2 | h2
    · simp only at h2; rw [hany] at h2; cases h2
    · simp only at h2
      split at h2
      · rename_i x y hx hy
        exact ⟨x, y, hx, hy, beq_iff_eq.1 h2⟩
      · cases h2
  · intro h r hr
    obtain ⟨row, i⟩ := r
    have hrow := List.mem_zipIdx_iff_getElem?.1 hr
    simp only at hrow
    have h' := h i row hrow
    refine ⟨h'.1, fun j hj => ⟨(h'.2 j hj).1, ?_⟩⟩
    cases hany : row.any (·.1 == j) with
    | false => left; rfl
    | true =>
      right
      obtain ⟨x, y, hx, hy, hm⟩ := (h'.2 j hj).2 hany
      simp only [hx, hy]
      exact beq_iff_eq.2 hm

theorem rowsOkB_of (n : Nat) (names : List Nat) (vec : AVec) (sets : SMap) (wbf : Nat → Nat → List W)
    (f : Nat → Nat → Option W) (hn : n = names.length)
    (hV : VecInv names vec f) (hS : SetInv names sets (fun x y => (f x y).isSome))
    (hw : ∀ x y, (f x y).isSome = true → f x y = Abs.minW (wbf x y)) :
    rowsOkB n names vec sets wbf = true := by
  rw [rowsOkB_iff]
  subst hn
  intro i row hrow
  refine ⟨hV.bnd i row hrow, fun j hj => ?_⟩
  have hi : i < names.length := by rw [← hV.len]; exact Store.getElem?_lt hrow
  obtain ⟨x, hx⟩ : ∃ x, names[i]? = some x := ⟨names[i], List.getElem?_eq_getElem hi⟩
  obtain ⟨y, hy⟩ : ∃ y, names[j]? = some y := ⟨names[j], List.getElem?_eq_getElem hj⟩
  have hv := hV.val i j x y hx hy
  have hm := hS.mem i j x y hx hy
  have hr : rowMin vec i j = Abs.minW (wts row j) := rowMin_of_row hrow j
  rw [any_eq_wts, ← hr, hv]
  refine ⟨hm.symm, fun hs => ⟨x, y, hx, hy, ?_⟩⟩
  exact hw x y hs

theorem vecInv_of_rows (n : Nat) (names : List Nat) (vec : AVec) (sets : SMap) (wbf : Nat → Nat → List W)
    (f : Nat → Nat → Option W) (hn : n = names.length) (hlen : vec.length = names.length)
    (hrows : rowsOkB n names vec sets wbf = true)
    (hmem : ∀ i j x y, names[i]? = some x → names[j]? = some y →
      (setOf sets i).contains j = (f x y).isSome)
    (hw : ∀ x y, (f x y).isSome = true → f x y = Abs.minW (wbf x y)) :
    VecInv names vec f := by
  rw [rowsOkB_iff] at hrows
  subst hn
  refine ⟨hlen, fun i row hrow => (hrows i row hrow).1, ?_⟩
  intro i j x y hx hy
  have hi := Store.getElem?_lt hx
  have hj := Store.getElem?_lt hy
  have hi' : i < vec.length := by rw [hlen]; exact hi
  have hrow : vec[i]? = some vec[i] := List.getElem?_eq_getElem hi'
  obtain ⟨h1, h2⟩ := (hrows i _ hrow).2 j hj
  have hr : rowMin vec i j = Abs.minW (wts vec[i] j) := rowMin_of_row hrow j
  rw [any_eq_wts, ← hr, hmem i j x y hx hy] at h1
  rw [any_eq_wts, ← hr] at h2
  cases hs : (f x y).isSome with
  | true =>
    rw [hs] at h1
    obtain ⟨x', y', hx', hy', hm⟩ := h2 h1
    rw [hx] at hx'; rw [hy] at hy'; cases hx'; cases hy'
    rw [hm, hw x y hs]
  | false =>
    rw [hs] at h1
    have e1 : rowMin vec i j = none := by
      cases h : rowMin vec i j with
      | none => rfl
      | some v => rw [h] at h1; cases h1
    have e2 : f x y = none := by
      cases h : f x y with
      | none => rfl
      | some v => rw [h] at hs; cases hs
    rw [e1, e2]

theorem fP_isSome (edges : EMap) (dir : Bool) (x y : Nat) :
    (fP edges dir x y).isSome = (dir && (fS edges dir y x).isSome) := by
  unfold fP fS
  cases dir <;> simp

theorem fP_of_isSome (s : Store) (x y : Nat) (hs : (fP s.edges s.specs.directed x y).isSome = true) :
    fP s.edges s.specs.directed x y = Abs.minW (s.weightsBetween y x) := by
  unfold fP at hs ⊢
  cases hd : s.specs.directed with
  | true => simp [weightsBetween_eq, hd]
  | false => rw [hd] at hs; simp at hs

theorem pre_of_wf (s : Store) (h : s.wf = true) : Pre s := by
  simp only [Store.wf, Bool.and_eq_true] at h
  obtain ⟨⟨⟨hn, he⟩, ha⟩, hv⟩ := h
  have N := (nodesOk_iff s).1 hn
  have E := (edgesOk_iff s).1 he
  have A := (C02.adjOk_iff s).1 ha
  have hne : ∀ k l, alookup s.edges k = some l → l ≠ [] := fun k l hl => (E.edges_ok k l hl).1
  have hlen := nodesOk_len s hn
  rw [vecOk_eq, Bool.and_eq_true] at hv
  have hS : ∀ i j x y, s.names[i]? = some x → s.names[j]? = some y →
      (setOf s.succMap i).contains j = (fS s.edges s.specs.directed x y).isSome := by
    intro i j x y hx hy
    rw [fS_isSome _ _ _ _ hne, ← hasEdge_iff s he, Bool.eq_iff_iff, List.contains_iff_mem, (A.idx x i y j hx hy).1]
    exact (A.edge x (List.mem_of_getElem? hx) y (List.mem_of_getElem? hy)).1
  have hP : ∀ i j x y, s.names[i]? = some x → s.names[j]? = some y →
      (setOf s.predMap i).contains j = (fP s.edges s.specs.directed x y).isSome := by
    intro i j x y hx hy
    rw [fP_isSome, fS_isSome _ _ _ _ hne, ← hasEdge_iff s he, Bool.eq_iff_iff, List.contains_iff_mem,
      (A.idx x i y j hx hy).2, Bool.and_eq_true]
    exact (A.edge x (List.mem_of_getElem? hx) y (List.mem_of_getElem? hy)).2
  have hbS : ∀ i l, alookup s.succMap i = some l → ∀ j ∈ l, j < s.names.length := fun i l hl j hj => by
    rw [names_length]; exact (A.okSuccMap.2 _ (AL.lookup_mem hl)).2.2 j hj
  have hbP : ∀ i l, alookup s.predMap i = some l → ∀ j ∈ l, j < s.names.length := fun i l hl j hj => by
    rw [names_length]; exact (A.okPredMap.2 _ (AL.lookup_mem hl)).2.2 j hj
  exact ⟨N.names_nodup, N.map_iff,
    fun k l hl => by rw [names_length]; exact ⟨(E.emap_ok k l hl).1, (E.emap_ok k l hl).2.1⟩,
    fun k l hl => ⟨(E.edges_ok k l hl).2.2.2.1, (E.edges_ok k l hl).2.2.2.2.1, hne k l hl⟩,
    fun i j x y hx hy => emap_eq_edges N E ((N.map_iff _ _).2 hx) ((N.map_iff _ _).2 hy),
    vecInv_of_rows _ _ _ _ _ _ (names_length s).symm hlen.1 hv.1 hS (fun _ _ _ => rfl), ⟨hbS, hS⟩,
    vecInv_of_rows _ _ _ _ _ _ (names_length s).symm hlen.2 hv.2 hP (fP_of_isSome s), ⟨hbP, hP⟩⟩

def PreVC (names : List Nat) (E : EMap) (dir : Bool) (sv : AVec) (sm : SMap) (pv : AVec) (pm : SMap) :
    Prop :=
  VecInv names sv (fS E dir) ∧ SetInv names sm (fun x y => (fS E dir x y).isSome) ∧
  VecInv names pv (fP E dir) ∧ SetInv names pm (fun x y => (fP E dir x y).isSome)

def PreV (s : Store) : Prop :=
  PreVC s.names s.edges s.specs.directed s.succVec s.succMap s.predVec s.predMap

theorem preV_of_pre (s : Store) (h : Pre s) : PreV s := ⟨h.vS, h.sS, h.vP, h.sP⟩

theorem vecOk_of_preV (s : Store) (hp : PreV s) : s.vecOk = true := by
  obtain ⟨vS, sS, vP, sP⟩ := hp
  rw [vecOk_eq, Bool.and_eq_true]
  exact ⟨rowsOkB_of _ _ _ _ _ _ (names_length s).symm vS sS (fun _ _ _ => rfl),
    rowsOkB_of _ _ _ _ _ _ (names_length s).symm vP sP (fP_of_isSome s)⟩

end C03
end Graphrs
