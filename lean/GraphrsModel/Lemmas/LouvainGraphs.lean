/-
  The two graph constructions of the step-level Louvain model.
  `convert_graph` (names -> ranks among the sorted names) and `generate_graph` (one super-node per
  inner community) never panic on a well-formed store / good level and yield good levels.
-/
import GraphrsModel.Props.Core
import GraphrsModel.Props.C12
import GraphrsModel.Lemmas.C09ModelAux
import GraphrsModel.Lemmas.LouvainDefs
import GraphrsModel.Lemmas.LouvainVisit
import GraphrsModel.Lemmas.LouvainSort
import Mathlib.Data.List.Nodup
import Mathlib.Data.List.Perm.Basic
namespace Graphrs
open LouvainFull
namespace LF
open Outcome (bind_ok bind_eq_ok bind_spec ofOption_eq_ok foldl_ok_exists foldl_ok_map)

/-! ### ranks -/

/-- the rank of `x` in `l` -/
def rk (l : List Nat) (x : Nat) : Nat := l.findIdx (· == x)

theorem rk_lt {l : List Nat} {x : Nat} (h : x ∈ l) : rk l x < l.length :=
  List.findIdx_lt_length_of_exists ⟨x, h, by simp⟩

theorem rk_get {l : List Nat} {x : Nat} (h : x ∈ l) : l[rk l x]'(rk_lt h) = x :=
  List.getElem_idxOf (x := x) (xs := l) (rk_lt h)

theorem rk_of_get {l : List Nat} (hnd : l.Nodup) (i : Nat) (hi : i < l.length) : rk l l[i] = i :=
  hnd.idxOf_getElem i hi

theorem rk_inj {l : List Nat} {x y : Nat} (hx : x ∈ l) (hy : y ∈ l) (h : rk l x = rk l y) : x = y := by
  have h1 := rk_get hx
  have h2 := rk_get hy
  simp only [h] at h1
  exact h1.symm.trans h2

theorem rk_mono {l : List Nat} (hs : l.Pairwise (· ≤ ·)) {x y : Nat} (hx : x ∈ l) (hy : y ∈ l)
    (h : x ≤ y) : rk l x ≤ rk l y := by
  by_contra hc
  have hlt : rk l y < rk l x := Nat.lt_of_not_le hc
  have := List.pairwise_iff_getElem.mp hs (rk l y) (rk l x) (rk_lt hy) (rk_lt hx) hlt
  rw [rk_get hx, rk_get hy] at this
  have hxy : x = y := Nat.le_antisymm h this
  subst hxy
  exact Nat.lt_irrefl _ hlt

theorem names_eq (s : Store) : s.names = s.getAllNodeNames := rfl

theorem rk_names_nodup {l : List Nat} (hnd : l.Nodup) : (l.map (rk (sortNat l))).Nodup := by
  refine List.Nodup.map_on ?_ hnd
  intro x hx y hy h
  exact rk_inj ((mem_sortNat x l).2 hx) ((mem_sortNat y l).2 hy) h

theorem rk_names_iff {l : List Nat} (hnd : l.Nodup) (x : Nat) : x ∈ l.map (rk (sortNat l)) ↔ x < l.length := by
  have hp := sortNat_perm l
  have hlen := length_sortNat l
  constructor
  · intro h
    obtain ⟨y, hy, rfl⟩ := List.mem_map.mp h
    rw [← hlen]
    exact rk_lt ((mem_sortNat y l).2 hy)
  · intro h
    have hx : x < (sortNat l).length := by rw [hlen]; exact h
    refine List.mem_map.mpr ⟨(sortNat l)[x], ?_, rk_of_get (hp.nodup_iff.mpr hnd) x hx⟩
    exact (mem_sortNat _ l).1 (List.getElem_mem hx)

/-- a level whose nodes are `0..k-1`, every node its own block, is good -/
theorem GoodLevel.of_singletons {lv : Level} {k : Nat} (hnd : lv.g.getAllNodeNames.Nodup)
    (hiff : ∀ x, x ∈ lv.g.getAllNodeNames ↔ x < k) (hmem : ∀ x, mem lv x = [x]) : GoodLevel lv k k := by
  refine ⟨hnd, hiff, fun x _ => ?_, fun x _ => ?_, fun x y z _ _ hx hy => ?_, fun z => ?_⟩
  · rw [hmem]; exact List.nodup_singleton x
  · rw [hmem]; exact List.cons_ne_nil x []
  · rw [hmem, List.mem_singleton] at hx hy
    exact hx.symm.trans hy
  · exact ⟨fun hz => ⟨z, hz, by rw [hmem]; exact List.mem_singleton_self z⟩,
      fun ⟨x, hx, hz⟩ => by rw [hmem, List.mem_singleton] at hz; exact hz ▸ hx⟩

theorem convert_core (s2 : Store) (h2 : s2.wf = true) (hm : s2.specs.multi = false) (sorted : List Nat)
    (hsorted : sorted = sortNat s2.names) :
    ∃ g, Store.newFrom s2.specs (s2.nodesVec.map (fun n => (⟨rk sorted n.name, none⟩ : Node)))
        (s2.allEdges.map (fun e => (⟨rk sorted e.u, rk sorted e.v, e.w, none⟩ : Edge))) = .ok g ∧
      g.wf = true ∧ g.specs = s2.specs ∧
      AbsEq g.abs ⟨s2.nodesVec.map (fun n => (⟨rk sorted n.name, none⟩ : Node)),
        s2.allEdges.map (fun e => (⟨rk sorted e.u, rk sorted e.v, e.w, none⟩ : Edge))⟩ := by
  obtain ⟨hn, he⟩ := Store.wf_inv h2
  have hnd := hn.names_nodup
  have hmemS : ∀ x, x ∈ s2.names → x ∈ sorted := fun x hx => by
    rw [hsorted]; exact (mem_sortNat x _).2 hx
  have hsrt : sorted.Pairwise (· ≤ ·) := by rw [hsorted]; exact C02.sorted_sortNat _
  have hnames : (s2.nodesVec.map (fun n => (⟨rk sorted n.name, none⟩ : Node))).map (·.name)
      = s2.names.map (rk sorted) := by
    simp [Store.names, List.map_map, Function.comp_def]
  have hndn : ((s2.nodesVec.map (fun n => (⟨rk sorted n.name, none⟩ : Node))).map (·.name)).Nodup := by
    rw [hnames, hsorted]; exact rk_names_nodup hnd
  have hmemn : ∀ x, x ∈ s2.names →
      rk sorted x ∈ (s2.nodesVec.map (fun n => (⟨rk sorted n.name, none⟩ : Node))).map (·.name) := by
    intro x hx
    rw [hnames]
    exact List.mem_map.mpr ⟨x, hx, rfl⟩
  -- the hypotheses of `newFrom_valid` in turn: endpoints exist; no new self-loop (`rk` is injective); the
  -- orientation of undirected edges is kept (`rk` is monotone); keys stay distinct (`rk` is injective)
  refine newFrom_valid Core_rest_preserved s2.specs _ _ hndn
    (fun e hm' => by
      obtain ⟨e0, h0, rfl⟩ := List.mem_map.mp hm'
      have hv := Store.allEdges_valid he h0
      exact ⟨hmemn _ hv.1, hmemn _ hv.2.1⟩)
    (fun e hm' => by
      obtain ⟨e0, h0, rfl⟩ := List.mem_map.mp hm'
      have hv := Store.allEdges_valid he h0
      exact hv.2.2.1.imp_right fun h' hc => h' (rk_inj (hmemS _ hv.1) (hmemS _ hv.2.1) hc))
    (fun e hm' => by
      obtain ⟨e0, h0, rfl⟩ := List.mem_map.mp hm'
      have hv := Store.allEdges_valid he h0
      exact hv.2.2.2.imp_right (rk_mono hsrt (hmemS _ hv.1) (hmemS _ hv.2.1)))
    (Or.inr ?_)
  rw [List.pairwise_map]
  refine List.Pairwise.imp_of_mem ?_ (Store.allEdges_keys_distinct he hm)
  intro a b ha hb hab hc
  apply hab
  have hva := Store.allEdges_valid he ha
  have hvb := Store.allEdges_valid he hb
  simp only [Prod.mk.injEq] at hc ⊢
  exact ⟨rk_inj (hmemS _ hva.1) (hmemS _ hvb.1) hc.1, rk_inj (hmemS _ hva.2.1) (hmemS _ hvb.2.1) hc.2⟩

/-- the part of `convert_graph` after the two preparatory conversions -/
def cgTail (sorted : List Nat) (s2 : Store) : Outcome Level :=
  (s2.getAllNodes.foldl (fun (acc : Outcome (List Node)) n => acc.bind fun l =>
      (if sorted.findIdx (· == n.name) < sorted.length then Outcome.ok (sorted.findIdx (· == n.name))
        else Outcome.panic "convert_graph: node_map.get().unwrap()").bind fun r =>
      Outcome.ok (l ++ [(⟨r, none⟩ : Node)])) (Outcome.ok [])).bind fun nodes =>
  (s2.allEdges.foldl (fun (acc : Outcome (List Edge)) e => acc.bind fun l =>
      (if sorted.findIdx (· == e.u) < sorted.length then Outcome.ok (sorted.findIdx (· == e.u))
        else Outcome.panic "convert_graph: node_map.get().unwrap()").bind fun u =>
      (if sorted.findIdx (· == e.v) < sorted.length then Outcome.ok (sorted.findIdx (· == e.v))
        else Outcome.panic "convert_graph: node_map.get().unwrap()").bind fun v =>
      Outcome.ok (l ++ [(⟨u, v, e.w, none⟩ : Edge)])) (Outcome.ok [])).bind fun edges =>
  ((Store.newFrom s2.specs nodes edges).unwrap "convert_graph: unwrap").bind fun g =>
  Outcome.ok { g := g, members := nodes.map fun n => (n.name, [n.name]) }

theorem convertGraph_eq (s : Store) (weighted : Bool) :
    convertGraph s weighted =
      Outcome.bind (if s.specs.multi = true then s.toSingleEdges.unwrap "convert_graph: to_single_edges().unwrap()" else .ok s)
        (fun s1 => Outcome.bind (if (!weighted) = true then s1.setAllEdgeWeights (some 1) else .ok s1)
          (fun s2 => cgTail (sortNat s.getAllNodeNames) s2)) := by
  unfold convertGraph cgTail
  simp only [bind]
  by_cases hm : s.specs.multi = true <;> by_cases hw : (!weighted) = true <;>
    simp only [hm, hw, Bool.false_eq_true, ↓reduceIte, bind_ok]

theorem cgTail_ok (s2 : Store) (w2 : s2.wf = true) (m2 : s2.specs.multi = false) (sorted : List Nat)
    (hsorted : sorted = sortNat s2.names) :
    ∃ g, cgTail sorted s2 = .ok ⟨g, (s2.names.map (rk sorted)).map fun x => (x, [x])⟩ ∧
      g.wf = true ∧ g.specs = s2.specs ∧ g.getAllNodeNames = s2.names.map (rk sorted) ∧
      g.allEdges.Perm (s2.allEdges.map fun e => (⟨rk sorted e.u, rk sorted e.v, e.w, none⟩ : Edge)) := by
  obtain ⟨g, hg, gwf, gsp, habs⟩ := convert_core s2 w2 m2 sorted hsorted
  have gnv : g.nodesVec = s2.nodesVec.map (fun n => (⟨rk sorted n.name, none⟩ : Node)) := habs.1
  obtain ⟨_, he2⟩ := Store.wf_inv w2
  have hrank : ∀ x, x ∈ s2.names → sorted.findIdx (· == x) < sorted.length := fun x hx =>
    rk_lt (by rw [hsorted]; exact (mem_sortNat x _).2 hx)
  refine ⟨g, ?_, gwf, gsp, ?_, habs.edges_perm⟩
  · unfold cgTail
    rw [foldl_ok_map _ (fun n => (⟨rk sorted n.name, none⟩ : Node)) s2.getAllNodes ?_ [], bind_ok]
    · rw [foldl_ok_map _ (fun e => (⟨rk sorted e.u, rk sorted e.v, e.w, none⟩ : Edge)) s2.allEdges ?_ [], bind_ok]
      · simp only [List.nil_append, Store.getAllNodes, hg, Outcome.unwrap, bind_ok, Store.names, List.map_map,
          Function.comp_def]
      · intro acc e he
        have hv := Store.allEdges_valid he2 he
        simp only [if_pos (hrank _ hv.1), if_pos (hrank _ hv.2.1), bind_ok]
        rfl
    · intro acc n hn'
      have : n.name ∈ s2.names := List.mem_map.mpr ⟨n, hn', rfl⟩
      simp only [if_pos (hrank _ this), bind_ok]
      rfl
  · simp only [Store.getAllNodeNames, gnv, Store.names, List.map_map, Function.comp_def]

theorem convertGraph_spec (s : Store) (h : s.wf = true) (weighted : Bool) :
    ∃ lv, convertGraph s weighted = .ok lv ∧
      lv.g.wf = true ∧ lv.g.specs.multi = false ∧ lv.g.numNodes = s.numNodes ∧
      GoodLevel lv s.numNodes s.numNodes ∧ (∀ x, mem lv x = [x]) := by
  have hs1 : ∃ s1, (if s.specs.multi = true then s.toSingleEdges.unwrap "convert_graph: to_single_edges().unwrap()" else .ok s) = .ok s1 ∧
      s1.wf = true ∧ s1.specs.multi = false ∧ s1.nodesVec = s.nodesVec := by
    by_cases hm : s.specs.multi = true
    · obtain ⟨t, h1, h2, h3, h4⟩ := Core_toSingle s h hm
      refine ⟨t, ?_, h2, by rw [h3], h4.1⟩
      rw [if_pos hm, h1]; rfl
    · refine ⟨s, by rw [if_neg hm], h, by simpa using hm, rfl⟩
  obtain ⟨s1, e1, w1, m1, n1⟩ := hs1
  have hs2 : ∃ s2, (if (!weighted) = true then s1.setAllEdgeWeights (some 1) else .ok s1) = .ok s2 ∧
      s2.wf = true ∧ s2.specs.multi = false ∧ s2.nodesVec = s.nodesVec := by
    by_cases hw : (!weighted) = true
    · obtain ⟨t, h1, h2, h3, h4⟩ := Core_setWeights s1 w1 (some 1)
      refine ⟨t, ?_, h2, by rw [h3]; exact m1, h4.1.trans n1⟩
      rw [if_pos hw, h1]
    · exact ⟨s1, by rw [if_neg hw], w1, m1, n1⟩
  obtain ⟨s2, e2, w2, m2, n2⟩ := hs2
  have hnames : s2.names = s.getAllNodeNames := by simp [Store.names, Store.getAllNodeNames, n2]
  obtain ⟨g, hg, gwf, gsp, gnm, -⟩ := cgTail_ok s2 w2 m2 (sortNat s.getAllNodeNames) (by rw [hnames])
  obtain ⟨hn, _⟩ := Store.wf_inv h
  have hnd : s.getAllNodeNames.Nodup := hn.names_nodup
  rw [hnames] at hg gnm
  have hlen : s.getAllNodeNames.length = s.numNodes := by simp [Store.getAllNodeNames, Store.numNodes]
  have hmem : ∀ x, mem ⟨g, (s.getAllNodeNames.map (rk (sortNat s.getAllNodeNames))).map fun x => (x, [x])⟩ x = [x] := by
    intro x
    unfold mem
    simp only
    rw [C09M.alookup_map_self]
    split <;> rfl
  have hcg : convertGraph s weighted = .ok ⟨g, (s.getAllNodeNames.map (rk (sortNat s.getAllNodeNames))).map fun x => (x, [x])⟩ := by
    rw [convertGraph_eq, e1, bind_ok, e2, bind_ok, hg]
  refine ⟨_, hcg, gwf, by rw [gsp]; exact m2, ?_, ?_, hmem⟩
  · show g.numNodes = s.numNodes
    have : g.getAllNodeNames.length = g.numNodes := by simp [Store.getAllNodeNames, Store.numNodes]
    rw [← this, gnm, List.length_map, hlen]
  · refine GoodLevel.of_singletons ?_ (fun x => ?_) hmem
    · show g.getAllNodeNames.Nodup
      rw [gnm]; exact rk_names_nodup hnd
    · show x ∈ g.getAllNodeNames ↔ _
      rw [gnm, rk_names_iff hnd, hlen]

theorem convertGraph_no_panic (s : Store) (h : s.wf = true) (weighted : Bool) :
    ∃ lv, convertGraph s weighted = .ok lv := by
  obtain ⟨lv0, h0, _⟩ := convertGraph_spec s h weighted
  exact ⟨lv0, h0⟩

/-! ### `node2com` of `generate_graph` -/

theorem lookup_fold_ainsert (c : List Nat) (j : Nat) (m : List (Nat × Nat)) (y : Nat) :
    alookup (c.foldl (fun m x => ainsert m x j) m) y = if y ∈ c then some j else alookup m y := by
  induction c generalizing m with
  | nil => simp
  | cons x c ih =>
    rw [List.foldl_cons, ih, AL.lookup_insert]
    by_cases h1 : y ∈ c
    · simp [h1]
    · by_cases h2 : x = y
      · subst h2; simp
      · have : ¬ y = x := fun e => h2 e.symm
        simp [h1, h2, this]

theorem n2c_isSome (l : List (List Nat × Nat)) (m : List (Nat × Nat)) (y : Nat)
    (h : (∃ p ∈ l, y ∈ p.1) ∨ (alookup m y).isSome = true) :
    (alookup (l.foldl (fun m p => p.1.foldl (fun m x => ainsert m x p.2) m) m) y).isSome = true := by
  induction l generalizing m with
  | nil =>
    rcases h with ⟨p, hp, _⟩ | h
    · cases hp
    · exact h
  | cons q l ih =>
    rw [List.foldl_cons]
    apply ih
    rcases h with ⟨p, hp, hy⟩ | h
    · rcases List.mem_cons.mp hp with rfl | hp'
      · right; rw [lookup_fold_ainsert, if_pos hy]; rfl
      · exact Or.inl ⟨p, hp', hy⟩
    · right
      rw [lookup_fold_ainsert]
      split
      · rfl
      · exact h

theorem n2c_mem (l : List (List Nat × Nat)) (m : List (Nat × Nat)) (y j : Nat)
    (h : alookup (l.foldl (fun m p => p.1.foldl (fun m x => ainsert m x p.2) m) m) y = some j) :
    alookup m y = some j ∨ ∃ p ∈ l, p.2 = j ∧ y ∈ p.1 := by
  induction l generalizing m with
  | nil => exact Or.inl h
  | cons q l ih =>
    rw [List.foldl_cons] at h
    rcases ih _ h with h1 | ⟨p, hp, hj, hy⟩
    · rw [lookup_fold_ainsert] at h1
      split at h1
      next hyq => right; exact ⟨q, List.mem_cons_self, by injection h1, hyq⟩
      next => exact Or.inl h1
    · exact Or.inr ⟨p, List.mem_cons_of_mem _ hp, hj, hy⟩

/-! ### `members` of `generate_graph` -/

theorem lookup_zipIdx_map {ν : Type} (h : List Nat → ν) (l : List (List Nat)) (k i : Nat) :
    alookup ((l.zipIdx k).map fun p => (p.2, h p.1)) (k + i) = (l[i]?).map h := by
  induction l generalizing k i with
  | nil => rfl
  | cons c l ih =>
    rw [List.zipIdx_cons, List.map_cons, alookup]
    cases i with
    | zero => exact if_pos rfl
    | succ i => rw [if_neg (by omega), ← Nat.add_assoc, Nat.add_right_comm, ih, List.getElem?_cons_succ]

theorem mem_fold_sunion (f : Nat → List Nat) (c : List Nat) (acc : List Nat) (z : Nat) :
    z ∈ c.foldl (fun acc x => sunion acc (f x)) acc ↔ z ∈ acc ∨ ∃ x ∈ c, z ∈ f x := by
  induction c generalizing acc with
  | nil => simp
  | cons x c ih =>
    rw [List.foldl_cons, ih]
    unfold sunion
    rw [mem_foldl_sinsert]
    constructor
    · rintro ((h | h) | ⟨y, hy, hz⟩)
      · exact Or.inl h
      · exact Or.inr ⟨x, List.mem_cons_self, h⟩
      · exact Or.inr ⟨y, List.mem_cons_of_mem _ hy, hz⟩
    · rintro (h | ⟨y, hy, hz⟩)
      · exact Or.inl (Or.inl h)
      · rcases List.mem_cons.mp hy with rfl | hy'
        · exact Or.inl (Or.inr hz)
        · exact Or.inr ⟨y, hy', hz⟩

theorem nodup_fold_sunion (f : Nat → List Nat) (c : List Nat) (acc : List Nat) (h : acc.Nodup) :
    (c.foldl (fun acc x => sunion acc (f x)) acc).Nodup := by
  induction c generalizing acc with
  | nil => exact h
  | cons x c ih =>
    rw [List.foldl_cons]
    exact ih _ (nodup_foldl_sinsert _ _ h)

/-! ### partitions of a range -/

theorem flat_index_unique (l : List (List Nat)) (hnd : (l.flatMap id).Nodup) {i j x : Nat}
    (hi : x ∈ (l[i]?).getD []) (hj : x ∈ (l[j]?).getD []) : i = j := by
  have hil := lt_length_of_mem_getD hi
  have hjl := lt_length_of_mem_getD hj
  rw [List.getElem?_eq_getElem hil] at hi
  rw [List.getElem?_eq_getElem hjl] at hj
  simp only [Option.getD_some] at hi hj
  have hp := (List.nodup_flatMap.mp hnd).2
  have hp' := List.pairwise_iff_getElem.mp hp
  rcases Nat.lt_trichotomy i j with h | h | h
  · exact absurd hj (by
      have := hp' i j hil hjl h
      simp only [Function.onFun, id] at this
      exact fun hc => this hi hc)
  · exact h
  · exact absurd hi (by
      have := hp' j i hjl hil h
      simp only [Function.onFun, id] at this
      exact fun hc => this hj hc)

theorem mem_flat_iff (l : List (List Nat)) (x : Nat) :
    x ∈ l.flatMap id ↔ ∃ j, j < l.length ∧ x ∈ (l[j]?).getD [] := by
  rw [List.mem_flatMap]
  constructor
  · rintro ⟨c, hc, hx⟩
    obtain ⟨j, hj, rfl⟩ := List.getElem_of_mem hc
    exact ⟨j, hj, by rw [List.getElem?_eq_getElem hj]; exact hx⟩
  · rintro ⟨j, hj, hx⟩
    rw [List.getElem?_eq_getElem hj] at hx
    exact ⟨l[j], List.getElem_mem hj, hx⟩

/-! ### the `members` map and the good level it gives -/

/-- the `members` map `generate_graph` builds -/
def ggMembers (lv : Level) (inner : List (List Nat)) : List (Nat × List Nat) :=
  inner.zipIdx.map fun p => (p.2, p.1.foldl (fun acc x => sunion acc ((alookup lv.members x).getD [x])) [])

theorem mem_ggMembers (lv : Level) (inner : List (List Nat)) (g : Store) (j : Nat) (hj : j < inner.length) :
    mem ⟨g, ggMembers lv inner⟩ j = (inner[j]).foldl (fun acc x => sunion acc (mem lv x)) [] := by
  have e := lookup_zipIdx_map (fun c : List Nat => c.foldl (fun acc x => sunion acc (mem lv x)) []) inner 0 j
  rw [Nat.zero_add, List.getElem?_eq_getElem hj] at e
  exact congrArg (·.getD [j]) e

theorem gg_props (lv : Level) (n k : Nat) (hg : GoodLevel lv n k) (inner : List (List Nat)) (hin : PartOfRange k inner)
    (g : Store) (hnames : g.getAllNodeNames = List.range inner.length) :
    GoodLevel ⟨g, ggMembers lv inner⟩ n inner.length ∧
    ∀ j z, j < inner.length → (z ∈ mem ⟨g, ggMembers lv inner⟩ j ↔ ∃ x ∈ (inner[j]?).getD [], z ∈ mem lv x) := by
  obtain ⟨hne, hnd, hcov⟩ := hin
  have hmem : ∀ j z, j < inner.length →
      (z ∈ mem ⟨g, ggMembers lv inner⟩ j ↔ ∃ x ∈ (inner[j]?).getD [], z ∈ mem lv x) := by
    intro j z hj
    rw [mem_ggMembers lv inner g j hj, mem_fold_sunion, List.getElem?_eq_getElem hj]
    simp
  have hltk : ∀ (j x : Nat), x ∈ (inner[j]?).getD [] → x < k := by
    intro j x hx
    exact (hcov x).1 ((mem_flat_iff inner x).2 ⟨j, lt_length_of_mem_getD hx, hx⟩)
  refine ⟨⟨?_, ?_, ?_, ?_, ?_, ?_⟩, hmem⟩
  · show g.getAllNodeNames.Nodup
    rw [hnames]; exact List.nodup_range
  · intro x
    show x ∈ g.getAllNodeNames ↔ _
    rw [hnames, List.mem_range]
  · intro j hj
    rw [mem_ggMembers lv inner g j hj]
    exact nodup_fold_sunion _ _ _ List.nodup_nil
  · intro j hj
    have hc : inner[j] ≠ [] := hne _ (List.getElem_mem hj)
    obtain ⟨x, hx⟩ := List.exists_mem_of_ne_nil _ hc
    have hx' : x ∈ (inner[j]?).getD [] := by rw [List.getElem?_eq_getElem hj]; exact hx
    have hxk := hltk j x hx'
    obtain ⟨z, hz⟩ := List.exists_mem_of_ne_nil _ (hg.mem_ne x hxk)
    have := (hmem j z hj).2 ⟨x, hx', hz⟩
    exact List.ne_nil_of_mem this
  · intro i j z hi hj hzi hzj
    obtain ⟨x, hx, hzx⟩ := (hmem i z hi).1 hzi
    obtain ⟨y, hy, hzy⟩ := (hmem j z hj).1 hzj
    have hxy : x = y := hg.mem_disj x y z (hltk i x hx) (hltk j y hy) hzx hzy
    subst hxy
    exact flat_index_unique inner hnd hx hy
  · intro z
    rw [hg.mem_cover z]
    constructor
    · rintro ⟨x, hx, hz⟩
      obtain ⟨j, hj, hxj⟩ := (mem_flat_iff inner x).1 ((hcov x).2 hx)
      exact ⟨j, hj, (hmem j z hj).2 ⟨x, hxj, hz⟩⟩
    · rintro ⟨j, hj, hz⟩
      obtain ⟨x, hx, hzx⟩ := (hmem j z hj).1 hz
      exact ⟨x, hltk j x hx, hzx⟩

/-! ### abstract `add_edge` between existing nodes -/

theorem abs_addEdge_present (sp : Specs) (a : Abs) (e : Edge) (hsl : sp.selfLoops = true) (hd : sp.dedupe = .keepLast)
    (hu : a.hasNode e.u = true) (hv : a.hasNode e.v = true) :
    (Abs.addEdge sp a e).2 = none ∧ (Abs.addEdge sp a e).1.nodes = a.nodes := by
  unfold Abs.addEdge
  simp only [hsl, hu, hv, hd, Bool.not_true, Bool.false_and, Bool.false_eq_true, if_false, if_true,
    Bool.or_self, Bool.and_false]
  split <;> simp

/-! ### the graph part -/

/-- the graph `generate_graph` starts from: the nodes `0..L-1` and no edge -/
theorem g0_abs (sp : Specs) (L : Nat) :
    ((List.range L).foldl (fun g i => g.addNode ⟨i, none⟩) (Store.new sp)).wf = true ∧
    ((List.range L).foldl (fun g i => g.addNode ⟨i, none⟩) (Store.new sp)).specs = sp ∧
    AbsEq ((List.range L).foldl (fun g i => g.addNode ⟨i, none⟩) (Store.new sp)).abs
      ⟨(List.range L).map fun i => (⟨i, none⟩ : Node), []⟩ := by
  have e : (List.range L).foldl (fun g i => g.addNode ⟨i, none⟩) (Store.new sp) =
      (Store.new sp).addNodes ((List.range L).map fun i => (⟨i, none⟩ : Node)) := by
    simp [Store.addNodes, List.foldl_map]
  rw [e]
  have s1 := C01_step_sim (Store.new sp) {} (.addNodes ((List.range L).map fun i => (⟨i, none⟩ : Node)))
    Core_rest_preserved (C01_new_wf sp) ⟨rfl, fun _ => rfl⟩
  have hnd : (((List.range L).map fun i => (⟨i, none⟩ : Node)).map (·.name)).Nodup := by
    simp [List.map_map, Function.comp_def, List.nodup_range]
  have e1 : AbsEq ((Store.new sp).addNodes ((List.range L).map fun i => (⟨i, none⟩ : Node))).abs
      (({} : Abs).addNodes ((List.range L).map fun i => (⟨i, none⟩ : Node))) := s1.2.2
  rw [Abs.addNodes_empty _ hnd] at e1
  exact ⟨s1.2.1, Store.addNodes_specs _ _, e1⟩

theorem g0_ok (sp : Specs) (L : Nat) :
    ((List.range L).foldl (fun g i => g.addNode ⟨i, none⟩) (Store.new sp)).wf = true ∧
    ((List.range L).foldl (fun g i => g.addNode ⟨i, none⟩) (Store.new sp)).specs = sp ∧
    ((List.range L).foldl (fun g i => g.addNode ⟨i, none⟩) (Store.new sp)).nodesVec =
      (List.range L).map fun i => (⟨i, none⟩ : Node) :=
  ⟨(g0_abs sp L).1, (g0_abs sp L).2.1, (g0_abs sp L).2.2.1⟩

theorem g0_allEdges (sp : Specs) (L : Nat) :
    ((List.range L).foldl (fun g i => g.addNode ⟨i, none⟩) (Store.new sp)).allEdges = [] := by
  refine List.eq_nil_iff_forall_not_mem.2 fun e he => ?_
  have hmem : e ∈ List.filter (fun e' : Edge => (e'.u, e'.v) == (e.u, e.v))
      ((List.range L).foldl (fun g i => g.addNode ⟨i, none⟩) (Store.new sp)).abs.edges :=
    List.mem_filter.2 ⟨he, beq_self_eq_true _⟩
  rw [(g0_abs sp L).2.2.2 (e.u, e.v)] at hmem
  exact List.not_mem_nil hmem

theorem addEdge_present (g : Store) (hwf : g.wf = true) (hsl : g.specs.selfLoops = true)
    (hd : g.specs.dedupe = .keepLast) (e : Edge) (hu : e.u ∈ g.names) (hv : e.v ∈ g.names) :
    (g.addEdge e).2 = none ∧ (g.addEdge e).1.wf = true ∧ (g.addEdge e).1.specs = g.specs ∧
      (g.addEdge e).1.nodesVec = g.nodesVec := by
  have hr := C01_addEdge_refines g e g.abs hwf ⟨rfl, fun _ => rfl⟩
  have ha := abs_addEdge_present g.specs g.abs e hsl hd
    ((Abs.hasNode_iff _ _).2 hu) ((Abs.hasNode_iff _ _).2 hv)
  exact ⟨hr.1.trans ha.1, Core_addEdge_wf g e hwf, Store.addEdge_specs g e, hr.2.1.trans ha.2⟩

theorem addEdge_none_ok {site : String} {r : Store × Option ErrKind} (h : r.2 = none) :
    (match r with
      | (g', none) => Outcome.ok g'
      | (_, some _) => Outcome.panic site) = .ok r.1 := by
  obtain ⟨g', o⟩ := r
  cases h
  rfl

/-- `node2com` of `generate_graph` -/
def n2cOf (inner : List (List Nat)) : List (Nat × Nat) :=
  inner.zipIdx.foldl (fun m p => p.1.foldl (fun m x => ainsert m x p.2) m) []

/-- `node2com` of `generate_graph` sends every node to the index of the part it lies in -/
theorem n2cOf_spec {k : Nat} {inner : List (List Nat)} (hin : PartOfRange k inner) (x : Nat) (hx : x < k) :
    ∃ j, alookup (n2cOf inner) x = some j ∧ j < inner.length ∧ x ∈ (inner[j]?).getD [] := by
  have hfl : x ∈ inner.flatMap id := (hin.2.2 x).2 hx
  obtain ⟨c, hc, hxc⟩ := List.mem_flatMap.mp hfl
  obtain ⟨j0, hj0, rfl⟩ := List.getElem_of_mem hc
  have hb := n2c_isSome inner.zipIdx [] x (Or.inl ⟨(inner[j0], j0), by
    rw [List.mem_zipIdx_iff_getElem?]; simp [List.getElem?_eq_getElem hj0], hxc⟩)
  obtain ⟨j, hj⟩ := Option.isSome_iff_exists.mp hb
  refine ⟨j, hj, ?_⟩
  rcases n2c_mem inner.zipIdx [] x j hj with h1 | ⟨p, hp, hpj, hxp⟩
  · simp [alookup] at h1
  · have := List.mem_zipIdx' (x := p.1) (i := p.2) hp
    obtain ⟨hlt, heq⟩ := this
    subst hpj
    refine ⟨hlt, ?_⟩
    rw [List.getElem?_eq_getElem hlt]
    simp only [Option.getD_some]
    rw [← heq]
    exact hxp

theorem generateGraph_spec (lv : Level) (n k : Nat) (hg : GoodLevel lv n k) (hwf : lv.g.wf = true)
    (inner : List (List Nat)) (hin : PartOfRange k inner) :
    ∃ lv', generateGraph lv inner = .ok lv' ∧
      lv'.g.wf = true ∧ lv'.g.specs.multi = lv.g.specs.multi ∧ lv'.g.numNodes = inner.length ∧
      GoodLevel lv' n inner.length ∧
      ∀ j z, j < inner.length → (z ∈ mem lv' j ↔ ∃ x ∈ (inner[j]?).getD [], z ∈ mem lv x) := by
  obtain ⟨_, he⟩ := Store.wf_inv hwf
  have hall : (inner.all fun part => part.all fun x => (lv.g.getNode x).isSome) = true := by
    rw [List.all_eq_true]
    intro part hpart
    rw [List.all_eq_true]
    intro x hx
    have hxn : x ∈ lv.g.names := (hg.names_iff x).2 ((hin.2.2 x).1 (List.mem_flatMap.2 ⟨part, hpart, hx⟩))
    exact (lv.g.hasNode_names hwf x).2 hxn
  unfold generateGraph
  refine bind_spec (P := fun _ => True) ⟨(), if_pos hall, trivial⟩ fun _ _ => ?_
  -- the edge loop keeps a well-formed store on the nodes `0..inner.length-1`
  refine bind_spec (foldl_ok_exists
    (fun g : Store => g.wf = true ∧ g.specs = { lv.g.specs with selfLoops := true, dedupe := .keepLast } ∧
      g.nodesVec = (List.range inner.length).map fun i => (⟨i, none⟩ : Node))
    _ lv.g.allEdges (fun g e hmem ⟨gw, gs, gn⟩ => ?_)
    _ (g0_ok { lv.g.specs with selfLoops := true, dedupe := .keepLast } inner.length)) fun g ⟨gw, gs, gn⟩ => ?_
  · have hv := Store.allEdges_valid he hmem
    have hnames : ∀ c, c < inner.length → c ∈ g.names := fun c hc => by
      simp only [Store.names, gn, List.map_map, Function.comp_def, List.map_id', List.mem_range]
      exact hc
    obtain ⟨c1, hc1, hm1, -⟩ := n2cOf_spec hin _ ((hg.names_iff _).1 hv.1)
    obtain ⟨c2, hc2, hm2, -⟩ := n2cOf_spec hin _ ((hg.names_iff _).1 hv.2.1)
    have H := fun w => addEdge_present g gw (by rw [gs]) (by rw [gs]) ⟨c1, c2, w, none⟩ (hnames c1 hm1) (hnames c2 hm2)
    exact ⟨_, bind_eq_ok.2 ⟨g, rfl, bind_eq_ok.2 ⟨c1, ofOption_eq_ok.2 hc1, bind_eq_ok.2 ⟨c2, ofOption_eq_ok.2 hc2,
        addEdge_none_ok (H _).1⟩⟩⟩,
      (H _).2.1, (H _).2.2.1.trans gs, (H _).2.2.2.trans gn⟩
  · have hnames : g.getAllNodeNames = List.range inner.length := by
      simp [Store.getAllNodeNames, gn, List.map_map, Function.comp_def]
    obtain ⟨h1, h2⟩ := gg_props lv n k hg inner hin g hnames
    refine ⟨_, rfl, gw, by rw [gs], ?_, h1, h2⟩
    simp [Store.numNodes, gn]

theorem generateGraph_good (lv : Level) (n k : Nat) (hg : GoodLevel lv n k) (hwf : lv.g.wf = true)
    (inner : List (List Nat)) (hin : PartOfRange k inner) (lv' : Level) (h : generateGraph lv inner = .ok lv') :
    lv'.g.wf = true ∧ lv'.g.specs.multi = lv.g.specs.multi ∧ lv'.g.numNodes = inner.length ∧
    GoodLevel lv' n inner.length ∧
    ∀ j z, j < inner.length → (z ∈ mem lv' j ↔ ∃ x ∈ (inner[j]?).getD [], z ∈ mem lv x) := by
  obtain ⟨lv0, h0, hp⟩ := generateGraph_spec lv n k hg hwf inner hin
  rw [h] at h0
  cases h0
  exact hp

theorem generateGraph_no_panic (lv : Level) (n k : Nat) (hg : GoodLevel lv n k) (hwf : lv.g.wf = true)
    (inner : List (List Nat)) (hin : PartOfRange k inner) : ∃ lv', generateGraph lv inner = .ok lv' := by
  obtain ⟨lv0, h0, _⟩ := generateGraph_spec lv n k hg hwf inner hin
  exact ⟨lv0, h0⟩

end LF
end Graphrs
