/-
  C05 (weighted case): on every store built through the mutation API, every entry of a `successors_vec` row carries
  the weight of a stored edge between the two nodes (C03 states the minimum per neighbour only; a duplicate self entry
  could otherwise carry anything).  With all stored weights positive, all traversal weights are positive.
  This is the clause `St` of the entry-level invariant of C03 for `successors_vec`, read against `get_all_edges()`.
-/
import GraphrsModel.Lemmas.BcRows
import GraphrsModel.Props.Core
namespace Graphrs
namespace Bc
open C03

/-- every traversal entry carries the weight of a stored edge between the two nodes -/
def RowsW (s : Store) : Prop :=
  ∀ (i j x y : Nat), s.names[i]? = some x → s.names[j]? = some y → ∀ a : Adj, a ∈ s.succVec[i]?.getD [] → a.1 = j →
    ∃ e ∈ s.allEdges, Abs.sameKey s.specs.directed e x y = true ∧ e.w = a.2

/-- the weights of the edges between two names, read from the flattened edge store -/
def wbAll (E : EMap) (dir : Bool) (x y : Nat) : List W :=
  ((E.flatMap (·.2)).filter fun e => Abs.sameKey dir e x y).map (·.w)

theorem rowsW_iff (s : Store) : RowsW s ↔ C03E.St s.names s.succVec (wbAll s.edges s.specs.directed) := by
  constructor
  · intro h i row hrow a ha x y hx hy
    obtain ⟨e, he, hk, hw⟩ := h i a.1 x y hx hy a (by rw [hrow]; exact ha) rfl
    exact List.mem_map.2 ⟨e, List.mem_filter.2 ⟨he, hk⟩, hw⟩
  · intro h i j x y hx hy a ha haj
    subst haj
    cases hrow : s.succVec[i]? with
    | none => rw [hrow] at ha; cases ha
    | some row =>
      rw [hrow] at ha
      obtain ⟨e, he, hw⟩ := List.mem_map.1 (h i row hrow a ha x y hx hy)
      exact ⟨e, (List.mem_filter.1 he).1, (List.mem_filter.1 he).2, hw⟩

theorem wbAll_eq (s : Store) (h : s.wf = true) : wbAll s.edges s.specs.directed = wbC s.edges s.specs.directed := by
  funext x y
  exact (C03_weightsBetween_abs s h x y).symm

theorem addNode_rowsW (s : Store) (nd : Node) (hp : Pre s) (h : RowsW s) : RowsW (s.addNode nd) :=
  (rowsW_iff _).2 (C03E.stS_addNode wbAll s nd hp ((rowsW_iff s).1 h))

theorem addEdge_rowsW (s : Store) (e : Edge) (hwf : s.wf = true) (hr : RowsW s) : RowsW (s.addEdge e).1 := by
  rw [rowsW_iff, wbAll_eq _ (Core_addEdge_wf s e hwf)]
  rw [rowsW_iff, wbAll_eq s hwf] at hr
  exact C03E.stS_addEdge s e (pre_of_wf s hwf) hr

theorem updOf_overwrite (a : Bool) (sp : Specs) (h : updOf a sp = .overwrite) :
    a = true ∧ sp.multi = false ∧ (sp.dedupe == Dedupe.keepLast) = true := by
  cases a
  · rw [updOf_false] at h; cases h
  · cases hm : sp.multi
    · rw [updOf_true_single _ hm] at h
      refine ⟨rfl, rfl, ?_⟩
      cases hk : (sp.dedupe == Dedupe.keepLast)
      · rw [hk] at h; simp at h
      · rfl
    · rw [updOf_true_multi _ hm] at h; cases h

end Bc
end Graphrs
