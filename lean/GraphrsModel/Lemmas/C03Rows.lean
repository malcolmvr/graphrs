/-
  `Abs.minW` algebra and the effect of `adjUpdate` (`add_to_adjacency_vec`) on a traversal row: which entries the
  updated row has, and the minimum listed weight of every neighbour in it.
-/
import GraphrsModel.Spec.Inv
import GraphrsModel.Lemmas.AList
namespace Graphrs
namespace C03

/-- "minimum with `w`", keeping the old value on ties and on NaN -/
def gmin (w m : W) : W := if W.lt w m then w else m

theorem gmin_none_left (m : W) : gmin none m = m := rfl

theorem gmin_none_right (w : W) : gmin w none = none := by
  cases w <;> rfl

theorem gmin_some (a b : Int) : gmin (some a) (some b) = some (min a b) := by
  show (if decide (a < b) = true then some a else some b) = _
  by_cases h : a < b
  · rw [if_pos (decide_eq_true h), Int.min_eq_left (Int.le_of_lt h)]
  · rw [if_neg (by simpa using h), Int.min_eq_right (Int.not_lt.1 h)]

theorem gmin_self (w : W) : gmin w w = w := by
  unfold gmin; split <;> rfl

theorem gmin_left_comm (w x m : W) : gmin w (gmin x m) = gmin x (gmin w m) := by
  rcases w with _ | a <;> rcases x with _ | b <;> rcases m with _ | c <;>
    simp only [gmin_none_left, gmin_none_right, gmin_some]
  rw [← Int.min_assoc, Int.min_comm a b, Int.min_assoc]

theorem gmin_idem (w m : W) : gmin w (gmin w m) = gmin w m := by
  rcases w with _ | a <;> rcases m with _ | c <;>
    simp only [gmin_none_left, gmin_none_right, gmin_some]
  rw [← Int.min_assoc, Int.min_self]

theorem foldl_gmin (w a : W) (t : List W) :
    t.foldl (fun m x => if W.lt x m then x else m) (gmin w a) =
      gmin w (t.foldl (fun m x => if W.lt x m then x else m) a) := by
  induction t generalizing a with
  | nil => rfl
  | cons x t ih =>
    simp only [List.foldl_cons]
    have h1 : (if W.lt x (gmin w a) then x else gmin w a) = gmin w (gmin x a) := by
      rw [gmin_left_comm]; rfl
    rw [h1]
    exact ih (gmin x a)

theorem minW_cons (a : W) (t : List W) :
    Abs.minW (a :: t) = some (t.foldl (fun m x => if W.lt x m then x else m) a) := rfl

theorem minW_isSome (l : List W) : (Abs.minW l).isSome = !l.isEmpty := by
  cases l <;> rfl

theorem minW_eq_none (l : List W) : Abs.minW l = none ↔ l = [] := by
  cases l <;> simp [Abs.minW]

/-- what appending one weight does to the minimum -/
def mpush (m : Option W) (w : W) : W :=
  match m with
  | none => w
  | some m => gmin w m

theorem minW_append_single (ws : List W) (w : W) :
    Abs.minW (ws ++ [w]) = some (mpush (Abs.minW ws) w) := by
  cases ws with
  | nil => rfl
  | cons a t =>
    simp only [List.cons_append, minW_cons, List.foldl_append, List.foldl_cons, List.foldl_nil,
      mpush]
    rfl

theorem minW_gmin_cons (w a : W) (t : List W) :
    Abs.minW (gmin w a :: t) = (Abs.minW (a :: t)).map (gmin w) := by
  simp only [minW_cons, Option.map_some, foldl_gmin]

theorem foldl_minW_none (ws : List W) : ws.foldl (fun m x => if W.lt x m then x else m) none = none := by
  induction ws with
  | nil => rfl
  | cons y ys ih =>
    rw [List.foldl_cons]
    have : W.lt y none = false := by cases y <;> rfl
    rw [this]; exact ih

/-- `W.lt` along a step of the minimum fold: the new minimum `y` replaces `w` -/
theorem _root_.Graphrs.W.lt_false_of_lt {y w r : W} (h1 : W.lt y w = true) (h2 : W.lt y r = false) : W.lt w r = false := by
  cases y <;> cases w <;> cases r <;>
    simp only [W.lt, decide_eq_true_eq, decide_eq_false_iff_not, Bool.false_eq_true] at h1 h2 ⊢
  omega

/-- ... and `w` is kept (an absent weight stays the minimum) -/
theorem _root_.Graphrs.W.lt_false_of_not_lt {y w r : W} (h1 : W.lt y w = false) (h2 : W.lt w r = false) (h3 : w = none → r = none) :
    W.lt y r = false := by
  cases y <;> cases w <;> cases r <;>
    simp only [W.lt, decide_eq_false_iff_not, reduceCtorEq, imp_false, not_true_eq_false, forall_const] at h1 h2 h3 ⊢
  omega

theorem foldl_minW_spec (ws : List W) (w : W) :
    ws.foldl (fun m x => if W.lt x m then x else m) w ∈ w :: ws ∧
    ∀ x ∈ w :: ws, W.lt x (ws.foldl (fun m x => if W.lt x m then x else m) w) = false := by
  induction ws generalizing w with
  | nil =>
    refine ⟨List.mem_cons_self .., fun x hx => ?_⟩
    rw [List.mem_singleton.1 hx]
    cases w
    · rfl
    · exact decide_eq_false (Int.lt_irrefl _)
  | cons y ys ih =>
    rw [List.foldl_cons]
    obtain ⟨h1, h2⟩ := ih (if W.lt y w then y else w)
    have hw' := h2 _ (List.mem_cons_self ..)
    by_cases hlt : W.lt y w = true
    · rw [if_pos hlt] at h1 h2 hw' ⊢
      refine ⟨List.mem_cons_of_mem _ h1, fun x hx => ?_⟩
      rcases List.mem_cons.1 hx with e | hx
      · rw [e]; exact W.lt_false_of_lt hlt hw'
      · exact h2 x hx
    · rw [if_neg hlt] at h1 h2 hw' ⊢
      refine ⟨?_, fun x hx => ?_⟩
      · rcases List.mem_cons.1 h1 with e | h1
        · rw [e]; exact List.mem_cons_self ..
        · exact List.mem_cons_of_mem _ (List.mem_cons_of_mem _ h1)
      · rcases List.mem_cons.1 hx with e | hx
        · rw [e]; exact hw'
        · rcases List.mem_cons.1 hx with e | hx
          · rw [e]
            exact W.lt_false_of_not_lt (Bool.eq_false_iff.2 hlt) hw' (fun hn => by rw [hn]; exact foldl_minW_none ys)
          · exact h2 x (List.mem_cons_of_mem _ hx)

theorem minW_spec (l : List W) (m : W) (h : Abs.minW l = some m) : m ∈ l ∧ ∀ x ∈ l, W.lt x m = false := by
  cases l with
  | nil => simp [Abs.minW] at h
  | cons w ws =>
    simp only [Abs.minW, Option.some.injEq] at h
    rw [← h]
    exact foldl_minW_spec ws w

theorem minW_map_const (w : W) (l : List W) :
    Abs.minW (l.map (fun _ => w)) = (Abs.minW l).map (fun _ => w) := by
  cases l with
  | nil => rfl
  | cons a t =>
    simp only [List.map_cons, minW_cons, Option.map_some]
    congr 1
    induction t with
    | nil => rfl
    | cons b t ih =>
      simp only [List.map_cons, List.foldl_cons]
      have : (if W.lt w w then w else w) = w := by split <;> rfl
      rw [this]; exact ih

/-- the effect of one `add_to_adjacency_vec` call on the minimum listed weight of the pair -/
def eff (upd : AdjUpd) (w : W) (m : Option W) : Option W :=
  match upd with
  | .push => some (mpush m w)
  | .keepMin => m.map (gmin w)
  | .overwrite => m.map (fun _ => w)
  | .untouched => m

theorem eff_isSome (upd : AdjUpd) (w : W) (m : Option W) :
    (eff upd w m).isSome = (m.isSome || decide (upd = .push)) := by
  cases upd <;> cases m <;> rfl

/-- applying the same update twice (undirected self-loop) is the same as applying it once,
    provided a `push` starts from "no entry" -/
theorem eff_idem (upd : AdjUpd) (w : W) (m : Option W) (h : upd = .push → m = none) :
    eff upd w (eff upd w m) = eff upd w m := by
  cases upd
  · rw [h rfl]
    show some (gmin w w) = some w
    rw [gmin_self]
  · cases m
    · rfl
    · show some (gmin w (gmin w _)) = _
      rw [gmin_idem]; rfl
  · cases m <;> rfl
  · rfl

/-- the weights listed for `j` in a row -/
def wts (row : List Adj) (j : Nat) : List W := (row.filter (·.1 == j)).map (·.2)

theorem wts_nil (j : Nat) : wts [] j = [] := rfl

theorem wts_cons (a : Adj) (row : List Adj) (j : Nat) :
    wts (a :: row) j = if a.1 = j then a.2 :: wts row j else wts row j := by
  unfold wts
  by_cases h : a.1 = j
  · rw [if_pos h, List.filter_cons_of_pos (p := fun x : Adj => x.1 == j) (beq_iff_eq.2 h)]; rfl
  · rw [if_neg h, List.filter_cons_of_neg (p := fun x : Adj => x.1 == j) (fun e => h (beq_iff_eq.1 e))]

theorem wts_append (r1 r2 : List Adj) (j : Nat) : wts (r1 ++ r2) j = wts r1 j ++ wts r2 j := by
  simp only [wts, List.filter_append, List.map_append]

theorem mem_wts {row : List Adj} {a : Adj} (ha : a ∈ row) : a.2 ∈ wts row a.1 :=
  List.mem_map.2 ⟨a, List.mem_filter.2 ⟨ha, beq_self_eq_true _⟩, rfl⟩

theorem wts_ne_nil_iff (row : List Adj) (j : Nat) : wts row j ≠ [] ↔ ∃ a ∈ row, a.1 = j := by
  constructor
  · intro h
    obtain ⟨w, hw⟩ := List.exists_mem_of_ne_nil _ h
    obtain ⟨a, ha, _⟩ := List.mem_map.1 hw
    exact ⟨a, (List.mem_filter.1 ha).1, beq_iff_eq.1 (List.mem_filter.1 ha).2⟩
  · rintro ⟨a, ha, rfl⟩ e
    have := mem_wts ha
    rw [e] at this
    cases this

theorem wts_eq_nil (row : List Adj) (j : Nat) (h : ∀ a ∈ row, a.1 ≠ j) : wts row j = [] := by
  cases hw : wts row j with
  | nil => rfl
  | cons a t =>
    obtain ⟨b, hb, hj⟩ := (wts_ne_nil_iff row j).1 (by rw [hw]; exact List.cons_ne_nil _ _)
    exact absurd hj (h b hb)

theorem any_eq_wts (row : List Adj) (j : Nat) :
    row.any (·.1 == j) = (Abs.minW (wts row j)).isSome := by
  rw [minW_isSome, Bool.eq_iff_iff]
  have := wts_ne_nil_iff row j
  simp only [List.any_eq_true, beq_iff_eq, Bool.not_eq_true', List.isEmpty_eq_false_iff]
  exact this.symm

/-- the `keepMin` mode, structurally -/
def keepMinRow (v : Nat) (w : W) : List Adj → List Adj
  | [] => []
  | a :: r => if a.1 = v then (if W.lt w a.2 then (v, w) :: r else a :: r) else a :: keepMinRow v w r

def updRow (row : List Adj) (v : Nat) (w : W) : AdjUpd → List Adj
  | .push => row ++ [(v, w)]
  | .keepMin => keepMinRow v w row
  | .overwrite => row.map (fun a => if a.1 == v then (a.1, w) else a)
  | .untouched => row

theorem keepMinRow_aux (v : Nat) (w : W) (row : List Adj) (h : ∃ a ∈ row, a.1 = v) :
    ∃ i a, row.findIdx? (fun a => a.1 == v) = some i ∧ row[i]? = some a ∧
      keepMinRow v w row = (if W.lt w a.2 then row.set i (v, w) else row) := by
  induction row with
  | nil => obtain ⟨a, ha, _⟩ := h; cases ha
  | cons b r ih =>
    by_cases hb : b.1 = v
    · refine ⟨0, b, ?_, rfl, ?_⟩
      · rw [List.findIdx?_cons, if_pos (beq_iff_eq.2 hb)]
      · rw [keepMinRow, if_pos hb]; rfl
    · have h' : ∃ a ∈ r, a.1 = v := by
        obtain ⟨a, ha, hv⟩ := h
        rcases List.mem_cons.1 ha with rfl | e
        · exact absurd hv hb
        · exact ⟨a, e, hv⟩
      obtain ⟨i, a, h1, h2, h3⟩ := ih h'
      refine ⟨i + 1, a, ?_, h2, ?_⟩
      · rw [List.findIdx?_cons, if_neg (fun e => hb (beq_iff_eq.1 e)), h1]; rfl
      · rw [keepMinRow, if_neg hb, h3]
        split <;> rfl

theorem adjUpdate_spec (vec : List (List Adj)) (u v : Nat) (w : W) (upd : AdjUpd) (row : List Adj)
    (hrow : vec[u]? = some row) (hk : upd = .keepMin → ∃ a ∈ row, a.1 = v) :
    adjUpdate vec u v w upd = some (vec.set u (updRow row v w upd)) := by
  unfold adjUpdate
  simp only [hrow]
  cases upd with
  | push => rfl
  | keepMin =>
    obtain ⟨i, a, h1, h2, h3⟩ := keepMinRow_aux v w row (hk rfl)
    simp only [h1, h2, updRow, h3]
    split
    · rfl
    · rw [set_of_getElem? hrow]
  | overwrite => rfl
  | untouched => simp only [updRow]; rw [set_of_getElem? hrow]

theorem adjUpdate_some {vec vec' : List (List Adj)} {u v : Nat} {w : W} {upd : AdjUpd}
    (h : adjUpdate vec u v w upd = some vec') :
    ∃ row, vec[u]? = some row ∧ vec' = vec.set u (updRow row v w upd) := by
  cases hrow : vec[u]? with
  | none => unfold adjUpdate at h; rw [hrow] at h; cases h
  | some row =>
    have hk : upd = .keepMin → ∃ a ∈ row, a.1 = v := by
      rintro rfl
      by_cases hex : ∃ a ∈ row, a.1 = v
      · exact hex
      · have : row.findIdx? (fun a => a.1 == v) = none := by
          rw [List.findIdx?_eq_none_iff]
          intro a ha
          exact beq_eq_false_iff_ne.2 fun e => hex ⟨a, ha, e⟩
        unfold adjUpdate at h
        rw [hrow] at h
        simp only [this] at h
        cases h
    rw [adjUpdate_spec vec u v w upd row hrow hk] at h
    exact ⟨row, rfl, (Option.some.inj h).symm⟩

theorem map_fst_keepMinRow (v : Nat) (w : W) (row : List Adj) :
    (keepMinRow v w row).map (·.1) = row.map (·.1) := by
  induction row with
  | nil => rfl
  | cons a r ih =>
    simp only [keepMinRow]
    by_cases ha : a.1 = v
    · simp only [ha, if_true]
      split <;> simp [ha]
    · simp only [ha, if_false, List.map_cons, ih]

theorem map_fst_updRow (row : List Adj) (v : Nat) (w : W) (upd : AdjUpd) :
    (updRow row v w upd).map (·.1) = if upd = .push then row.map (·.1) ++ [v] else row.map (·.1) := by
  cases upd with
  | push => exact List.map_append
  | keepMin => exact map_fst_keepMinRow v w row
  | overwrite =>
    show (row.map _).map _ = _
    rw [List.map_map]
    apply List.map_congr_left
    intro a _
    show (if a.1 == v then (a.1, w) else a).1 = a.1
    split <;> rfl
  | untouched => rfl

theorem mem_keepMinRow (v : Nat) (w : W) (row : List Adj) (a : Adj) (ha : a ∈ keepMinRow v w row) :
    a ∈ row ∨ a = (v, w) := by
  induction row with
  | nil => simp [keepMinRow] at ha
  | cons b r ih =>
    simp only [keepMinRow] at ha
    by_cases hb : b.1 = v
    · simp only [hb, if_true] at ha
      split at ha
      · rcases List.mem_cons.1 ha with h | h
        · exact Or.inr h
        · exact Or.inl (List.mem_cons_of_mem _ h)
      · exact Or.inl ha
    · simp only [hb, if_false] at ha
      rcases List.mem_cons.1 ha with h | h
      · subst h; exact Or.inl (List.mem_cons_self ..)
      · rcases ih h with h' | h'
        · exact Or.inl (List.mem_cons_of_mem _ h')
        · exact Or.inr h'

/-- an entry of the updated row is an old entry (not one for `v` in the `overwrite` mode) or the new entry -/
theorem mem_updRow (row : List Adj) (v : Nat) (w : W) (upd : AdjUpd) (a : Adj) (ha : a ∈ updRow row v w upd) :
    (a ∈ row ∧ (upd = .overwrite → a.1 ≠ v)) ∨ (a = (v, w) ∧ upd ≠ .untouched) := by
  cases upd with
  | push =>
    simp only [updRow, List.mem_append, List.mem_singleton] at ha
    rcases ha with h | h
    · exact Or.inl ⟨h, by intro e; cases e⟩
    · exact Or.inr ⟨h, by intro e; cases e⟩
  | keepMin =>
    rcases mem_keepMinRow v w row a ha with h | h
    · exact Or.inl ⟨h, by intro e; cases e⟩
    · exact Or.inr ⟨h, by intro e; cases e⟩
  | overwrite =>
    simp only [updRow, List.mem_map] at ha
    obtain ⟨b, hb, e⟩ := ha
    by_cases hbv : b.1 = v
    · right
      refine ⟨?_, by intro e; cases e⟩
      rw [← e]; simp [hbv]
    · left
      have : a = b := by rw [← e]; simp [hbv]
      subst this
      exact ⟨hb, fun _ => hbv⟩
  | untouched => exact Or.inl ⟨ha, by intro e; cases e⟩

theorem wts_keepMinRow_ne (v : Nat) (w : W) (row : List Adj) (j : Nat) (hj : j ≠ v) :
    wts (keepMinRow v w row) j = wts row j := by
  induction row with
  | nil => rfl
  | cons a r ih =>
    simp only [keepMinRow]
    by_cases ha : a.1 = v
    · simp only [ha, if_true]
      have : ¬ v = j := fun e => hj e.symm
      split <;> simp [wts_cons, ha, this]
    · simp only [ha, if_false, wts_cons, ih]

theorem minW_wts_keepMinRow (v : Nat) (w : W) (row : List Adj) :
    Abs.minW (wts (keepMinRow v w row) v) = (Abs.minW (wts row v)).map (gmin w) := by
  induction row with
  | nil => rfl
  | cons a r ih =>
    simp only [keepMinRow]
    by_cases ha : a.1 = v
    · simp only [ha, if_true]
      have e : Abs.minW (wts (a :: r) v) = Abs.minW (a.2 :: wts r v) := by
        simp [wts_cons, ha]
      rw [e, ← minW_gmin_cons]
      by_cases hlt : W.lt w a.2
      · simp [hlt, wts_cons, gmin]
      · simp [hlt, wts_cons, gmin, ha]
    · simp only [ha, if_false, wts_cons, ih]

theorem wts_overwrite (v : Nat) (w : W) (row : List Adj) (j : Nat) :
    wts (row.map (fun a => if a.1 == v then (a.1, w) else a)) j =
      if j = v then (wts row j).map (fun _ => w) else wts row j := by
  induction row with
  | nil => simp [wts]
  | cons a r ih =>
    simp only [List.map_cons, wts_cons, ih]
    by_cases ha : a.1 = v
    · by_cases hj : j = v
      · subst hj; simp [ha]
      · have : ¬ v = j := fun e => hj e.symm
        simp [ha, hj, this]
    · by_cases hj : j = v
      · subst hj; simp [ha]
      · by_cases haj : a.1 = j <;> simp [ha, hj, haj]

theorem minW_wts_updRow (row : List Adj) (v : Nat) (w : W) (upd : AdjUpd) (j : Nat) :
    Abs.minW (wts (updRow row v w upd) j) =
      if j = v then eff upd w (Abs.minW (wts row j)) else Abs.minW (wts row j) := by
  cases upd with
  | push =>
    show Abs.minW (wts (row ++ [(v, w)]) j) = if j = v then some (mpush (Abs.minW (wts row j)) w) else _
    rw [wts_append, wts_cons]
    by_cases hj : j = v
    · subst hj
      rw [if_pos rfl, if_pos rfl]
      exact minW_append_single _ _
    · rw [if_neg hj, if_neg (fun e => hj e.symm), wts_nil, List.append_nil]
  | keepMin =>
    show Abs.minW (wts (keepMinRow v w row) j) = if j = v then (Abs.minW (wts row j)).map (gmin w) else _
    by_cases hj : j = v
    · subst hj
      rw [if_pos rfl, minW_wts_keepMinRow]
    · rw [if_neg hj, wts_keepMinRow_ne _ _ _ _ hj]
  | overwrite =>
    show Abs.minW (wts (row.map _) j) = if j = v then (Abs.minW (wts row j)).map (fun _ => w) else _
    rw [wts_overwrite]
    by_cases hj : j = v
    · rw [if_pos hj, if_pos hj, minW_map_const]
    · rw [if_neg hj, if_neg hj]
  | untouched =>
    show _ = if j = v then Abs.minW (wts row j) else Abs.minW (wts row j)
    split <;> rfl

/-- minimum listed weight for `j` in row `i` of an adjacency vector (`none`: not listed) -/
def rowMin (vec : List (List Adj)) (i j : Nat) : Option W := Abs.minW (wts ((vec[i]?).getD []) j)

theorem rowMin_of_row {vec : List (List Adj)} {i : Nat} {row : List Adj} (h : vec[i]? = some row) (j : Nat) :
    rowMin vec i j = Abs.minW (wts row j) := by
  unfold rowMin; rw [h]; rfl

theorem rowMin_set_updRow {vec : List (List Adj)} {u : Nat} {row : List Adj} (hrow : vec[u]? = some row)
    (v : Nat) (w : W) (upd : AdjUpd) (i j : Nat) :
    rowMin (vec.set u (updRow row v w upd)) i j =
      if i = u ∧ j = v then eff upd w (rowMin vec i j) else rowMin vec i j := by
  by_cases hi : i = u
  · subst hi
    have hu : i < vec.length := (List.getElem?_eq_some_iff.1 hrow).1
    rw [rowMin_of_row (List.getElem?_set_self hu), minW_wts_updRow, rowMin_of_row hrow]
    simp only [true_and]
  · rw [if_neg (fun h => hi h.1)]
    unfold rowMin
    rw [List.getElem?_set_ne (fun e => hi e.symm)]

end C03
end Graphrs
