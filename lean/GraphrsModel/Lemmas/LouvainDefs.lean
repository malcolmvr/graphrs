/-
  The predicates the C13 files about the step-level Louvain model (Model/LouvainFull.lean) share: good levels, valid
  input partitions, partitions of a range.  Namespaces of those files: `LF` facts about the functions of the model,
  `LT` the termination argument (potential, progress), `LM` the modularity of the levels.
-/
import GraphrsModel.Model.LouvainFull
namespace Graphrs
open LouvainFull
namespace LF

/-- the original nodes inside super-node `x` of a level graph (`.getD [x]` as in `visit`) -/
def mem (lv : Level) (x : Nat) : List Nat := (alookup lv.members x).getD [x]

/-- `l` is a partition of `{0, …, k-1}` into non-empty sets -/
def PartOfRange (k : Nat) (l : List (List Nat)) : Prop :=
  (∀ c ∈ l, c ≠ []) ∧ (l.flatMap id).Nodup ∧ ∀ x, x ∈ l.flatMap id ↔ x < k

/-- a good level: `k` nodes named `0..k-1` whose member blocks partition `0..n-1` into non-empty sets -/
structure GoodLevel (lv : Level) (n k : Nat) : Prop where
  names_nodup : lv.g.getAllNodeNames.Nodup
  names_iff : ∀ x, x ∈ lv.g.getAllNodeNames ↔ x < k
  mem_nodup : ∀ x, x < k → (mem lv x).Nodup
  mem_ne : ∀ x, x < k → mem lv x ≠ []
  mem_disj : ∀ x y z, x < k → y < k → z ∈ mem lv x → z ∈ mem lv y → x = y
  mem_cover : ∀ z, z < n ↔ ∃ x, x < k ∧ z ∈ mem lv x

/-- the `partition` argument of `compute_one_level` lists the member blocks of the nodes `0..k-1` -/
structure InputOK (lv : Level) (k : Nat) (partition : List (List Nat)) : Prop where
  len : partition.length = k
  nodup : ∀ i, i < k → ((partition[i]?).getD []).Nodup
  iff : ∀ i z, i < k → (z ∈ (partition[i]?).getD [] ↔ z ∈ mem lv i)

end LF
end Graphrs
