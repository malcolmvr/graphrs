/-
  `add_node` on a store with `Pre`, and the preservation of `Pre` by it.
-/
import GraphrsModel.Lemmas.C03Pre
namespace Graphrs
namespace C03
open Store

theorem rowMin_append_lt (vec : AVec) (r : List Adj) (i j : Nat) (hi : i < vec.length) :
    rowMin (vec ++ [r]) i j = rowMin vec i j := by
  unfold rowMin
  rw [List.getElem?_append_left hi]

theorem rowMin_append_nil_ge (vec : AVec) (i j : Nat) (hi : vec.length ≤ i) :
    rowMin (vec ++ [[]]) i j = none := by
  unfold rowMin
  rw [List.getElem?_append_right hi]
  cases h : i - vec.length with
  | zero => rfl
  | succ k => rfl

theorem VecInv.addNode {names : List Nat} {vec : AVec} {f : Nat → Nat → Option W}
    (h : VecInv names vec f) (name : Nat)
    (h1 : ∀ y, f name y = none) (h2 : ∀ x, f x name = none) :
    VecInv (names ++ [name]) (vec ++ [[]]) f := by
  refine ⟨by rw [List.length_append, List.length_append, h.len]; rfl, ?_, ?_⟩
  · intro i row hrow a ha
    rw [List.length_append]
    rcases (getElem?_concat_eq_some _ _ _ _).1 hrow with hr | ⟨_, rfl⟩
    · exact Nat.lt_add_right 1 (h.bnd i row hr a ha)
    · cases ha
  · intro i j x y hx hy
    rcases (getElem?_concat_eq_some _ _ _ _).1 hx with hx' | ⟨rfl, rfl⟩
    · have hi : i < vec.length := h.len ▸ Store.getElem?_lt hx'
      rw [rowMin_append_lt _ _ _ _ hi]
      rcases (getElem?_concat_eq_some _ _ _ _).1 hy with hy' | ⟨rfl, rfl⟩
      · exact h.val i j x y hx' hy'
      · -- no old row lists the new position
        rw [h2, rowMin_of_row (List.getElem?_eq_getElem hi), wts_eq_nil]
        · rfl
        · exact fun a ha => Nat.ne_of_lt (h.bnd i _ (List.getElem?_eq_getElem hi) a ha)
    · rw [h1, rowMin_append_nil_ge _ _ _ (Nat.le_of_eq h.len)]

theorem setOf_ainsert (sets : SMap) (n i : Nat) (l : List Nat) :
    setOf (ainsert sets n l) i = if n = i then l else setOf sets i := by
  unfold setOf
  rw [AL.lookup_insert]
  split <;> rfl

theorem SetInv.addNode {names : List Nat} {sets : SMap} {g : Nat → Nat → Bool}
    (h : SetInv names sets g) (name : Nat)
    (h1 : ∀ y, g name y = false) (h2 : ∀ x, g x name = false) :
    SetInv (names ++ [name]) (ainsert sets names.length []) g := by
  refine ⟨?_, ?_⟩
  · intro i l hl j hj
    rw [AL.lookup_insert] at hl
    split at hl
    · cases hl; cases hj
    · rw [List.length_append]
      exact Nat.lt_add_right 1 (h.bnd i l hl j hj)
  · intro i j x y hx hy
    rw [setOf_ainsert]
    rcases (getElem?_concat_eq_some _ _ _ _).1 hx with hx' | ⟨rfl, rfl⟩
    · rw [if_neg (Nat.ne_of_gt (Store.getElem?_lt hx'))]
      rcases (getElem?_concat_eq_some _ _ _ _).1 hy with hy' | ⟨rfl, rfl⟩
      · exact h.mem i j x y hx' hy'
      · -- no old set holds the new position
        rw [h2, Bool.eq_false_iff]
        intro hc
        unfold setOf at hc
        cases hl : alookup sets i with
        | none => rw [hl] at hc; cases hc
        | some l =>
          rw [hl] at hc
          exact Nat.lt_irrefl _ (h.bnd i l hl _ (List.contains_iff_mem.1 hc))
    · rw [if_pos rfl, h1]; rfl

theorem preC_addNode {names : List Nat} {nodesMap : List (Nat × Nat)} {edges edgesMap : EMap}
    {dir : Bool} {sv : AVec} {sm : SMap} {pv : AVec} {pm : SMap}
    (h : PreC names nodesMap edges edgesMap dir sv sm pv pm) (name : Nat)
    (hnew : alookup nodesMap name = none) :
    PreC (names ++ [name]) (ainsert nodesMap name names.length) edges edgesMap dir
      (sv ++ [[]]) (ainsert sm names.length []) (pv ++ [[]]) (ainsert pm names.length []) := by
  have hnot : name ∉ names := by
    intro hm
    obtain ⟨i, hi⟩ := List.mem_iff_getElem?.1 hm
    rw [(h.nm name i).2 hi] at hnew; cases hnew
  -- no edge touches the new name, and no key of `edges_map` the new position
  have hE : ∀ x y, (x = name ∨ y = name) → alookup edges (nameKey dir x y) = none := by
    intro x y hxy
    cases hl : alookup edges (nameKey dir x y) with
    | none => rfl
    | some l =>
      obtain ⟨a, b, _⟩ := h.ebE _ _ hl
      rcases nameKey_cases dir x y with hk | ⟨_, hk⟩ <;> rw [hk] at a b
      · rcases hxy with rfl | rfl
        · exact absurd a hnot
        · exact absurd b hnot
      · rcases hxy with rfl | rfl
        · exact absurd b hnot
        · exact absurd a hnot
  have hM : ∀ i j, (i = names.length ∨ j = names.length) → alookup edgesMap (idxKey dir i j) = none := by
    intro i j hij
    cases hl : alookup edgesMap (idxKey dir i j) with
    | none => rfl
    | some l =>
      obtain ⟨a, b⟩ := h.ebM _ _ hl
      rcases nameKey_cases dir i j with hk | ⟨_, hk⟩ <;> rw [idxKey_eq_nameKey, hk] at a b
      · rcases hij with rfl | rfl
        · exact absurd a (Nat.lt_irrefl _)
        · exact absurd b (Nat.lt_irrefl _)
      · rcases hij with rfl | rfl
        · exact absurd b (Nat.lt_irrefl _)
        · exact absurd a (Nat.lt_irrefl _)
  have hfS : ∀ x y, (x = name ∨ y = name) → fS edges dir x y = none := by
    intro x y hxy
    unfold fS wbC
    rw [hE x y hxy]; rfl
  have hfP : ∀ x y, (x = name ∨ y = name) → fP edges dir x y = none := by
    intro x y hxy
    unfold fP
    split
    · exact hfS y x hxy.symm
    · rfl
  refine ⟨?_, ?_, ?_, ?_, ?_, ?_, ?_, ?_, ?_⟩
  · rw [List.nodup_append]
    refine ⟨h.nodup, List.nodup_cons.2 ⟨List.not_mem_nil, List.nodup_nil⟩, ?_⟩
    intro a ha b hb
    rw [List.mem_singleton.1 hb]
    exact fun e => hnot (e ▸ ha)
  · intro x i
    rw [AL.lookup_insert]
    by_cases hx : name = x
    · subst hx
      rw [if_pos rfl]
      constructor
      · intro e
        rw [← Option.some.inj e]
        exact List.getElem?_concat_length ..
      · intro hi
        rcases (getElem?_concat_eq_some _ _ _ _).1 hi with hi' | ⟨hi', _⟩
        · exact absurd (List.mem_of_getElem? hi') hnot
        · rw [hi']
    · rw [if_neg hx, h.nm x i]
      constructor
      · intro hi
        rw [List.getElem?_append_left (Store.getElem?_lt hi)]; exact hi
      · intro hi
        rcases (getElem?_concat_eq_some _ _ _ _).1 hi with hi' | ⟨_, hi'⟩
        · exact hi'
        · exact absurd hi'.symm hx
  · intro k l hl
    rw [List.length_append]
    exact ⟨Nat.lt_add_right 1 (h.ebM k l hl).1, Nat.lt_add_right 1 (h.ebM k l hl).2⟩
  · intro k l hl
    obtain ⟨a, b, c⟩ := h.ebE k l hl
    exact ⟨List.mem_append_left _ a, List.mem_append_left _ b, c⟩
  · intro i j x y hx hy
    rcases (getElem?_concat_eq_some _ _ _ _).1 hx with hx' | ⟨hi, hx'⟩
    · rcases (getElem?_concat_eq_some _ _ _ _).1 hy with hy' | ⟨hj, hy'⟩
      · exact h.l2 i j x y hx' hy'
      · rw [hE x y (Or.inr hy'), hM i j (Or.inr hj)]
    · rw [hE x y (Or.inl hx'), hM i j (Or.inl hi)]
  · exact h.vS.addNode name (fun y => hfS name y (Or.inl rfl)) (fun x => hfS x name (Or.inr rfl))
  · refine h.sS.addNode name (fun y => ?_) (fun x => ?_)
    · rw [hfS name y (Or.inl rfl)]; rfl
    · rw [hfS x name (Or.inr rfl)]; rfl
  · exact h.vP.addNode name (fun y => hfP name y (Or.inl rfl)) (fun x => hfP x name (Or.inr rfl))
  · refine h.sP.addNode name (fun y => ?_) (fun x => ?_)
    · rw [hfP name y (Or.inl rfl)]; rfl
    · rw [hfP x name (Or.inr rfl)]; rfl

/-- `add_node` on a store with `Pre`: the index panic cannot happen, so the result is the store with the node
    replaced (same names) or with the node appended -/
theorem addNode_ind {P : Store → Prop} (s : Store) (node : Node) (hp : Pre s)
    (hold : ∀ i, alookup s.nodesMap node.name = some i → (s.nodesVec.set i node).map (·.name) = s.names →
      P { s with nodesVec := s.nodesVec.set i node, nodesMapRev := ainsert s.nodesMapRev i node })
    (hnew : alookup s.nodesMap node.name = none →
      P { s with
        nodesMap := ainsert s.nodesMap node.name s.nodesVec.length
        nodesMapRev :=
          if acontains s.nodesMapRev s.nodesVec.length then s.nodesMapRev
          else ainsert s.nodesMapRev s.nodesVec.length node
        nodesVec := s.nodesVec ++ [node]
        succMap := ainsert s.succMap s.nodesVec.length []
        predMap := ainsert s.predMap s.nodesVec.length []
        succVec := s.succVec ++ [[]]
        predVec := s.predVec ++ [[]] }) :
    P (s.addNode node) := by
  unfold Store.addNode
  cases hl : alookup s.nodesMap node.name with
  | some i =>
    have hi : s.names[i]? = some node.name := (hp.nm _ _).1 hl
    have hlt : i < s.nodesVec.length := by rw [← names_length]; exact Store.getElem?_lt hi
    simp only [if_pos hlt]
    refine hold i hl ?_
    rw [List.map_set]
    exact set_of_getElem? hi
  | none => exact hnew hl

theorem pre_addNode (s : Store) (node : Node) (h : Pre s) : Pre (s.addNode node) := by
  refine addNode_ind s node h (fun i _ hn => ?_) (fun hl => ?_)
  · show PreC (List.map _ (s.nodesVec.set i node)) _ _ _ _ _ _ _ _
    rw [hn]
    exact h
  · have := preC_addNode h node.name hl
    rw [names_length] at this
    simpa only [Pre, Store.names, List.map_append, List.map_cons, List.map_nil] using this

end C03
end Graphrs
