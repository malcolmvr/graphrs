/-
  Translation between the index-level arcs the searches traverse (entries of `successors_vec`) and the name-level
  arcs of the abstract graph (`Abs.arcs`), on a store that satisfies the coupling invariant: the simulation `ArcSim`
  between two arc lists, under which distances agree, and its two instances for hop counts and for weights
  (`store_sim_unit`, `store_sim_weighted`).  Used by closeness (C06) and by the shortest-path API (C08); the namespace
  `C06T` stands for "C06, transfer between index level and name level".
-/
import GraphrsModel.Props.Core
import GraphrsModel.Lemmas.C06Walk
import GraphrsModel.Lemmas.DijkstraBasic
namespace Graphrs

namespace C06T

theorem mem_abs_arcs (a : Abs) (dir weighted : Bool) (x y : Nat) (c : Int) :
    (x, y, c) ∈ a.arcs dir weighted ↔
      ∃ e ∈ a.edges, (if weighted then e.w else some 1) = some c ∧
        ((e.u = x ∧ e.v = y) ∨ (dir = false ∧ e.u = y ∧ e.v = x)) := by
  unfold Abs.arcs
  rw [List.mem_flatMap]
  refine exists_congr fun e => and_congr_right fun _ => ?_
  dsimp only
  cases (if weighted then e.w else some 1) with
  | none => exact ⟨fun h => absurd h List.not_mem_nil, fun h => absurd h.1 (Option.some_ne_none c).symm⟩
  | some c' =>
    cases dir
    · simp only [Bool.false_eq_true, if_false, List.mem_cons, List.not_mem_nil, or_false, Prod.mk.injEq,
        Option.some.injEq, true_and]
      constructor
      · rintro (⟨h1, h2, h3⟩ | ⟨h1, h2, h3⟩)
        · exact ⟨h3.symm, Or.inl ⟨h1.symm, h2.symm⟩⟩
        · exact ⟨h3.symm, Or.inr ⟨h2.symm, h1.symm⟩⟩
      · rintro ⟨h3, ⟨h1, h2⟩ | ⟨h1, h2⟩⟩
        · exact Or.inl ⟨h1.symm, h2.symm, h3.symm⟩
        · exact Or.inr ⟨h2.symm, h1.symm, h3.symm⟩
    · simp only [if_true, List.mem_singleton, Prod.mk.injEq, Option.some.injEq, Bool.true_eq_false, false_and, or_false]
      exact ⟨fun ⟨h1, h2, h3⟩ => ⟨h3.symm, h1.symm, h2.symm⟩, fun ⟨h3, h1, h2⟩ => ⟨h1.symm, h2.symm, h3.symm⟩⟩
/-- every index arc is dominated by a name arc between the same nodes and vice versa -/
structure ArcSim (names : List Nat) (IA NA : Arcs) : Prop where
  d1 : ∀ i j c, (i, j, c) ∈ IA → ∃ x y c', names[i]? = some x ∧ names[j]? = some y ∧ c' ≤ c ∧ (x, y, c') ∈ NA
  d2 : ∀ x y c, (x, y, c) ∈ NA → ∃ i j c', names[i]? = some x ∧ names[j]? = some y ∧ c' ≤ c ∧ (i, j, c') ∈ IA

theorem ArcSim.walk1 {names : List Nat} {IA NA : Arcs} (S : ArcSim names IA NA) {i j : Nat} {c : Int} {x : Nat}
    (hi : names[i]? = some x) (hw : Walk IA i j c) :
    ∃ y c', names[j]? = some y ∧ c' ≤ c ∧ Walk NA x y c' := by
  induction hw with
  | nil => exact ⟨x, 0, hi, Int.le_refl _, Walk.nil _⟩
  | snoc hw' ha ih =>
    rename_i u v c0 w
    obtain ⟨y, c', hy, hle, hwy⟩ := ih
    obtain ⟨x2, y2, w', hx2, hy2, hle2, harc⟩ := S.d1 _ _ _ ha
    rw [hy] at hx2
    cases hx2
    exact ⟨y2, c' + w', hy2, by omega, Walk.snoc hwy harc⟩

theorem ArcSim.walk2 {names : List Nat} {IA NA : Arcs} (hn : names.Nodup) (S : ArcSim names IA NA) {x y : Nat} {c : Int}
    {i : Nat} (hi : names[i]? = some x) (hw : Walk NA x y c) :
    ∃ j c', names[j]? = some y ∧ c' ≤ c ∧ Walk IA i j c' := by
  induction hw with
  | nil => exact ⟨i, 0, hi, Int.le_refl _, Walk.nil _⟩
  | snoc hw' ha ih =>
    rename_i u v c0 w
    obtain ⟨j, c', hj, hle, hwj⟩ := ih
    obtain ⟨i2, j2, w', hi2, hj2, hle2, harc⟩ := S.d2 _ _ _ ha
    have e : i2 = j := C03.names_inj hn hi2 hj
    subst e
    exact ⟨j2, c' + w', hj2, by omega, Walk.snoc hwj harc⟩

theorem ArcSim.isDist {names : List Nat} {IA NA : Arcs} (hn : names.Nodup) (S : ArcSim names IA NA) {i j x y : Nat}
    (hi : names[i]? = some x) (hj : names[j]? = some y) (d : Int) : IsDist IA i j d ↔ IsDist NA x y d := by
  have h1 : ∀ c, Walk IA i j c → ∃ c', c' ≤ c ∧ Walk NA x y c' := by
    intro c hw
    obtain ⟨y', c', hy', hle, hw'⟩ := S.walk1 hi hw
    cases hj.symm.trans hy'
    exact ⟨c', hle, hw'⟩
  have h2 : ∀ c, Walk NA x y c → ∃ c', c' ≤ c ∧ Walk IA i j c' := by
    intro c hw
    obtain ⟨j', c', hj', hle, hw'⟩ := S.walk2 hn hi hw
    cases C03.names_inj hn hj' hj
    exact ⟨c', hle, hw'⟩
  exact ⟨isDist_of_walks h1 h2, isDist_of_walks h2 h1⟩

theorem ArcSim.target {names : List Nat} {IA NA : Arcs} (S : ArcSim names IA NA) {i j : Nat} {c : Int} {x : Nat}
    (hi : names[i]? = some x) (hw : Walk IA i j c) : ∃ y : Nat, names[j]? = some y := by
  obtain ⟨y, _, hy, _, _⟩ := S.walk1 hi hw
  exact ⟨y, hy⟩

theorem ArcSim.target2 {names : List Nat} {IA NA : Arcs} (hn : names.Nodup) (S : ArcSim names IA NA) {x y : Nat} {c : Int}
    {i : Nat} (hi : names[i]? = some x) (hw : Walk NA x y c) : ∃ j : Nat, names[j]? = some y := by
  obtain ⟨j, _, hj, _, _⟩ := S.walk2 hn hi hw
  exact ⟨j, hj⟩

theorem minW_spec (l : List W) (hall : ∀ w ∈ l, ∃ c, w = some c) (hne : l ≠ []) :
    ∃ m, Abs.minW l = some (some m) ∧ some m ∈ l ∧ ∀ c, some c ∈ l → m ≤ c := by
  cases hr : Abs.minW l with
  | none => exact absurd ((C03.minW_eq_none l).1 hr) hne
  | some r =>
    obtain ⟨hmem, hle⟩ := C03.minW_spec l r hr
    obtain ⟨m, rfl⟩ := hall r hmem
    exact ⟨m, rfl, hmem, fun c hc => Int.not_lt.1 (of_decide_eq_false (hle _ hc))⟩

theorem edge_endpoints (g : Store) (h : g.wf = true) (e : Edge) (he : e ∈ g.allEdges) :
    e.u ∈ g.names ∧ e.v ∈ g.names := by
  have := Store.allEdges_valid ((Store.edgesOk_iff g).1 (g.wf_parts h).2.1) he
  exact ⟨this.1, this.2.1⟩

theorem hasEdge_iff_exists (g : Store) (x y : Nat) :
    g.hasEdge x y = true ↔ ∃ e ∈ g.allEdges, (e.u = x ∧ e.v = y) ∨ (g.specs.directed = false ∧ e.u = y ∧ e.v = x) := by
  simp only [Store.hasEdge, List.any_eq_true, Bool.or_eq_true, Bool.and_eq_true, beq_iff_eq, Bool.not_eq_true',
    and_assoc]

theorem mem_between (g : Store) (x y : Nat) (e : Edge) :
    e ∈ g.abs.between g.specs.directed x y ↔
      e ∈ g.allEdges ∧ ((e.u = x ∧ e.v = y) ∨ (g.specs.directed = false ∧ e.u = y ∧ e.v = x)) := by
  simp only [Abs.between, Store.abs, List.mem_filter, Abs.sameKey, Bool.or_eq_true, Bool.and_eq_true, beq_iff_eq,
    Bool.not_eq_true', and_assoc]

theorem getElem?_of_lt_names (g : Store) (i : Nat) (hi : i < g.nodesVec.length) : ∃ x, g.names[i]? = some x := by
  have : i < g.names.length := by rw [C03.names_length]; exact hi
  exact ⟨g.names[i], List.getElem?_eq_getElem this⟩

theorem lt_of_names (g : Store) {i x : Nat} (hi : g.names[i]? = some x) : i < g.nodesVec.length := by
  have := Store.getElem?_lt hi
  rwa [C03.names_length] at this

theorem arc_indices (g : Store) (h : g.wf = true) {weighted : Bool} {x y : Nat} {c : Int}
    (hm : (x, y, c) ∈ g.abs.arcs g.specs.directed weighted) :
    ∃ e ∈ g.allEdges, (if weighted then e.w else some 1) = some c ∧
      ((e.u = x ∧ e.v = y) ∨ (g.specs.directed = false ∧ e.u = y ∧ e.v = x)) ∧
      ∃ i j : Nat, g.names[i]? = some x ∧ g.names[j]? = some y ∧ ∃ w, (j, w) ∈ g.succVec[i]?.getD [] := by
  obtain ⟨e, he, hc, hk⟩ := (mem_abs_arcs ..).1 hm
  have hends := edge_endpoints g h e he
  have hxy : x ∈ g.names ∧ y ∈ g.names := by
    rcases hk with ⟨e1, e2⟩ | ⟨_, e1, e2⟩
    · rw [← e1, ← e2]; exact hends
    · rw [← e1, ← e2]; exact ⟨hends.2, hends.1⟩
  obtain ⟨i, hi⟩ := List.mem_iff_getElem?.1 hxy.1
  obtain ⟨j, hj⟩ := List.mem_iff_getElem?.1 hxy.2
  exact ⟨e, he, hc, hk, i, j, hi, hj,
    ((C03_successors_match_store g h i j x y hi hj).1).2 ((hasEdge_iff_exists g x y).2 ⟨e, he, hk⟩)⟩

/-- hop-count mode: index arcs and name arcs correspond exactly -/
theorem store_sim_unit (g : Store) (h : g.wf = true) (IA : Arcs)
    (hIA : ∀ u x w, (u, x, w) ∈ IA ↔ (u < g.nodesVec.length ∧ w = 1 ∧ ∃ a ∈ g.succVec[u]?.getD [], a.1 = x)) :
    ArcSim g.names IA (g.abs.arcs g.specs.directed false) where
  d1 := by
    intro i j c hm
    obtain ⟨hi, rfl, ⟨j', w⟩, ha, rfl⟩ := (hIA i j c).1 hm
    obtain ⟨x, hx⟩ := getElem?_of_lt_names g i hi
    obtain ⟨y, hy⟩ := getElem?_of_lt_names g j' (C03_indexes_in_range g h i _ (Or.inl ha))
    obtain ⟨e, he, hk⟩ := (hasEdge_iff_exists g x y).1 (((C03_successors_match_store g h i j' x y hx hy).1).1 ⟨w, ha⟩)
    exact ⟨x, y, 1, hx, hy, Int.le_refl _, (mem_abs_arcs ..).2 ⟨e, he, rfl, hk⟩⟩
  d2 := by
    intro x y c hm
    obtain ⟨e, _, hc, _, i, j, hi, hj, w, hw⟩ := arc_indices g h hm
    cases hc
    exact ⟨i, j, 1, hi, hj, Int.le_refl _, (hIA i j 1).2 ⟨lt_of_names g hi, rfl, (j, w), hw, rfl⟩⟩

theorem row_mem_succVec (g : Store) (i : Nat) (a : Adj) (ha : a ∈ g.succVec[i]?.getD []) :
    ∃ row ∈ g.succVec, a ∈ row := by
  cases hr : g.succVec[i]? with
  | none => rw [hr] at ha; simp at ha
  | some row =>
    rw [hr] at ha
    exact ⟨row, List.mem_of_getElem? hr, ha⟩

/-- weighted mode, every traversal entry and every stored edge weighted, `j` listed in row `i`: the cheapest entry for
    `j` and the cheapest stored edge between the two nodes carry the same weight (the clause `vecOk` of the coupling
    invariant compares the two minima) -/
theorem cheapest_entry_edge (g : Store) (h : g.wf = true)
    (hent : ∀ row ∈ g.succVec, ∀ a ∈ row, ∃ c, a.2 = some c) (hedge : ∀ e ∈ g.allEdges, ∃ c, e.w = some c)
    {i j x y : Nat} (hx : g.names[i]? = some x) (hy : g.names[j]? = some y)
    (hex : ∃ w, (j, w) ∈ g.succVec[i]?.getD []) :
    ∃ m, (some m ∈ ((g.succVec[i]?.getD []).filter (·.1 == j)).map (·.2) ∧
        ∀ c, some c ∈ ((g.succVec[i]?.getD []).filter (·.1 == j)).map (·.2) → m ≤ c) ∧
      (some m ∈ (g.abs.between g.specs.directed x y).map (·.w) ∧
        ∀ c, some c ∈ (g.abs.between g.specs.directed x y).map (·.w) → m ≤ c) := by
  have hmin := (C03_successors_match_store g h i j x y hx hy).2 hex
  have hallW : ∀ w ∈ ((g.succVec[i]?.getD []).filter (·.1 == j)).map (·.2), ∃ c, w = some c := by
    intro w hw
    obtain ⟨a, ha, rfl⟩ := List.mem_map.1 hw
    obtain ⟨row, hrow, har⟩ := row_mem_succVec g i a (List.mem_filter.1 ha).1
    exact hent row hrow a har
  have hallS : ∀ w ∈ (g.abs.between g.specs.directed x y).map (·.w), ∃ c, w = some c := by
    intro w hw
    obtain ⟨e, he, rfl⟩ := List.mem_map.1 hw
    exact hedge e ((mem_between g x y e).1 he).1
  obtain ⟨w, hw⟩ := hex
  have hneW : ((g.succVec[i]?.getD []).filter (·.1 == j)).map (·.2) ≠ [] :=
    List.ne_nil_of_mem (List.mem_map.2 ⟨(j, w), List.mem_filter.2 ⟨hw, beq_self_eq_true j⟩, rfl⟩)
  obtain ⟨m1, hm1, hmem1, hle1⟩ := minW_spec _ hallW hneW
  rw [hm1] at hmin
  have hneS : (g.abs.between g.specs.directed x y).map (·.w) ≠ [] := by
    intro e
    rw [e] at hmin
    cases hmin
  obtain ⟨m2, hm2, hmem2, hle2⟩ := minW_spec _ hallS hneS
  rw [hm2] at hmin
  cases hmin
  exact ⟨m1, ⟨hmem1, hle1⟩, hmem2, hle2⟩

theorem mem_entries {row : List Adj} {j : Nat} {w : W} :
    w ∈ (row.filter (·.1 == j)).map (·.2) ↔ (j, w) ∈ row := by
  rw [List.mem_map]
  constructor
  · rintro ⟨⟨j', w'⟩, ha, rfl⟩
    obtain ⟨hm, hj⟩ := List.mem_filter.1 ha
    cases beq_iff_eq.1 hj
    exact hm
  · intro ha
    exact ⟨(j, w), List.mem_filter.2 ⟨ha, beq_self_eq_true j⟩, rfl⟩

/-- weighted mode, every traversal entry and every stored edge weighted: the cheapest entry for a pair of nodes is the
    cheapest stored edge between them -/
theorem store_sim_weighted (g : Store) (h : g.wf = true) (IA : Arcs)
    (hIA : ∀ u x w, (u, x, w) ∈ IA ↔ (u < g.nodesVec.length ∧ (x, some w) ∈ g.succVec[u]?.getD []))
    (hent : ∀ row ∈ g.succVec, ∀ a ∈ row, ∃ c, a.2 = some c)
    (hedge : ∀ e ∈ g.allEdges, ∃ c, e.w = some c) :
    ArcSim g.names IA (g.abs.arcs g.specs.directed true) where
  d1 := by
    intro i j c hm
    obtain ⟨hi, ha⟩ := (hIA i j c).1 hm
    have hj : j < g.nodesVec.length := C03_indexes_in_range g h i (j, some c) (Or.inl ha)
    obtain ⟨x, hx⟩ := getElem?_of_lt_names g i hi
    obtain ⟨y, hy⟩ := getElem?_of_lt_names g j hj
    obtain ⟨m, ⟨_, hleW⟩, hmemS, _⟩ := cheapest_entry_edge g h hent hedge hx hy ⟨some c, ha⟩
    obtain ⟨e, he, hew⟩ := List.mem_map.1 hmemS
    obtain ⟨he', hk⟩ := (mem_between g x y e).1 he
    exact ⟨x, y, m, hx, hy, hleW c (mem_entries.2 ha), (mem_abs_arcs ..).2 ⟨e, he', hew, hk⟩⟩
  d2 := by
    intro x y c hm
    obtain ⟨e, he, hc, hk, i, j, hi, hj, hex⟩ := arc_indices g h hm
    obtain ⟨m, ⟨hmemW, _⟩, _, hleS⟩ := cheapest_entry_edge g h hent hedge hi hj hex
    exact ⟨i, j, m, hi, hj, hleS c (List.mem_map.2 ⟨e, (mem_between g x y e).2 ⟨he, hk⟩, hc⟩),
      (hIA i j m).2 ⟨lt_of_names g hi, mem_entries.1 hmemW⟩⟩

end C06T
end Graphrs
