/-
  `multi_source` and `all_pairs` as folds of one search per source (inversion of a successful run).
-/
import GraphrsModel.Lemmas.C08Single
namespace Graphrs
namespace C08A
open C06T C08F

def msH (s : Store) (weighted : Bool) (target : Option Nat) (cutoff2 : Option Int) (firstOnly withPaths : Bool)
    (out : List (Nat × List (Nat × SPInfo))) (src : Nat) : Outcome (List (Nat × List (Nat × SPInfo))) :=
  ((s.singleSource weighted src target cutoff2 firstOnly withPaths)).bind fun r =>
    .ok (ainsert out src r)

theorem msH_ok (s : Store) (weighted : Bool) (target : Option Nat) (cutoff2 : Option Int) (firstOnly withPaths : Bool)
    (out out' : List (Nat × List (Nat × SPInfo))) (src : Nat)
    (h : msH s weighted target cutoff2 firstOnly withPaths out src = .ok out') :
    ∃ r, s.singleSource weighted src target cutoff2 firstOnly withPaths = .ok r ∧ out' = ainsert out src r := by
  obtain ⟨r, hr, e⟩ := Outcome.bind_eq_ok.1 h
  exact ⟨r, hr, (Outcome.ok.inj e).symm⟩

theorem multiSource_inv (s : Store) (weighted : Bool) (sources : List Nat) (target : Option Nat)
    (cutoff2 : Option Int) (firstOnly withPaths : Bool) (ms : List (Nat × List (Nat × SPInfo)))
    (hms : s.multiSource weighted sources target cutoff2 firstOnly withPaths = .ok ms) :
    foldRel (msH s weighted target cutoff2 firstOnly withPaths) [] sources ms := by
  unfold Store.multiSource at hms
  by_cases h1 : (!s.hasNodes sources) = true
  · rw [if_pos h1] at hms; cases hms
  · rw [if_neg h1] at hms
    cases target with
    | none =>
      rw [← foldl_ok_iff]
      exact hms
    | some t =>
      simp only at hms
      by_cases h2 : (!s.hasNode t) = true
      · rw [if_pos h2] at hms; cases hms
      · rw [if_neg h2] at hms
        rw [← foldl_ok_iff]
        exact hms


def apH (s : Store) (weighted : Bool) (ti tgt : Option Nat) (cutoff2 : Option Int) (firstOnly withPaths : Bool)
    (out : List (Nat × List (Nat × SPInfo))) (i : Nat) : Outcome (List (Nat × List (Nat × SPInfo))) :=
  ((s.runOne weighted i ti tgt cutoff2 firstOnly withPaths)).bind fun r =>
    (Outcome.ofOption "all_pairs: get_node_by_index().unwrap()" (s.getNodeByIndex i)).bind fun src =>
      (s.spToNames r).bind fun named => .ok (ainsert out src.name named)

theorem allPairs_eq (s : Store) (weighted : Bool) (target : Option Nat) (cutoff2 : Option Int) (firstOnly withPaths : Bool) :
    s.allPairs weighted target cutoff2 firstOnly withPaths =
      (if weighted then s.ensureWeighted else .ok ()).bind fun _ => (tgtIndex s target).bind fun ti =>
        (List.range s.numberOfNodes).foldl
          (fun acc i => acc.bind fun out => apH s weighted ti target cutoff2 firstOnly withPaths out i) (.ok []) := by
  unfold Store.allPairs
  cases weighted <;> cases target <;> rfl

theorem apH_ok (s : Store) (weighted : Bool) (cutoff2 : Option Int) (firstOnly withPaths : Bool)
    (out out' : List (Nat × List (Nat × SPInfo))) (i : Nat)
    (h : apH s weighted none none cutoff2 firstOnly withPaths out i = .ok out') :
    ∃ named, (isIdx s i ∧ ∃ r, s.runOne weighted i none none cutoff2 firstOnly withPaths = .ok r ∧ s.spToNames r = .ok named) ∧
      out' = ainsert out (nameD s i) named := by
  obtain ⟨r, hr, h⟩ := Outcome.bind_eq_ok.1 h
  obtain ⟨nd, hg, h⟩ := Outcome.bind_eq_ok.1 h
  obtain ⟨named, hc, e⟩ := Outcome.bind_eq_ok.1 h
  obtain ⟨hi, hn⟩ := getNodeByIndex_some (Outcome.ofOption_eq_ok.1 hg)
  exact ⟨named, ⟨hi, r, hr, hc⟩, by rw [hn]; exact (Outcome.ok.inj e).symm⟩

theorem allPairs_inv (s : Store) (weighted : Bool) (cutoff2 : Option Int) (firstOnly withPaths : Bool)
    (ap : List (Nat × List (Nat × SPInfo))) (hap : s.allPairs weighted none cutoff2 firstOnly withPaths = .ok ap) :
    foldRel (apH s weighted none none cutoff2 firstOnly withPaths) [] (List.range s.numberOfNodes) ap := by
  rw [allPairs_eq] at hap
  obtain ⟨_, _, h⟩ := Outcome.bind_eq_ok.1 hap
  obtain ⟨ti, hti, h⟩ := Outcome.bind_eq_ok.1 h
  cases hti
  exact (foldl_ok_iff ..).1 h

end C08A
end Graphrs
