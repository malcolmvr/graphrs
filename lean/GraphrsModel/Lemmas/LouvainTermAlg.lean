/-
  The part of the termination argument of Props/C13Termination.lean that speaks of assignments and edge lists only,
  not of stores.

  An assignment `a` of the nodes `0..k-1` to communities has the potential `pot`: the weight inside communities over
  `m`, minus `res · coef` times `Σ_c P_c · Q_c` for two degree functions `p`, `q` (`P_c`, `Q_c` their sums over
  community `c`).  Moving one node changes it by a difference of two gains (`pot_update`, and `potU_update` /
  `potD_update` for the two gain functions of the code); the candidate scan returns a community of maximal gain, the
  smallest such id (`updateBest_spec`); and the number of assignments that beat `a` in the order "larger potential,
  then smaller sum of ids" (`mu`) drops with every such move.
-/
import GraphrsModel.Model.LouvainFull
import GraphrsModel.Lemmas.LouvainSort
import Mathlib.Algebra.BigOperators.Ring.Finset
import Mathlib.Algebra.BigOperators.Field
import Mathlib.Algebra.Order.BigOperators.Group.Finset
import Mathlib.Algebra.Order.Field.Rat
import Mathlib.Data.Fintype.Pi
import Mathlib.Data.Fintype.BigOperators
import Mathlib.Data.Fintype.Card
import Mathlib.Data.List.Nodup
import Mathlib.Data.List.Perm.Basic
import Mathlib.Logic.Function.Basic
import Mathlib.Tactic.Ring
import Mathlib.Tactic.Linarith
import Mathlib.Tactic.FieldSimp
namespace Graphrs
open LouvainFull
namespace LT

/-! ### sums over the nodes of one community -/

/-- `Σ_{x < k, a x = c} p x` -/
def csum (k : Nat) (a : Nat → Nat) (p : Nat → Rat) (c : Nat) : Rat :=
  ∑ x ∈ Finset.range k, if a x = c then p x else 0

theorem csum_congr {k : Nat} {a b : Nat → Nat} (h : ∀ x, x < k → a x = b x) (p : Nat → Rat) (c : Nat) :
    csum k a p c = csum k b p c := by
  unfold csum
  apply Finset.sum_congr rfl
  intro x hx
  rw [h x (Finset.mem_range.1 hx)]

theorem ite_nonneg {A : Prop} [Decidable A] {x : Rat} (h : 0 ≤ x) : 0 ≤ if A then x else 0 := by
  split
  · exact h
  · exact le_refl _

theorem csum_nonneg {k : Nat} {a : Nat → Nat} {p : Nat → Rat} (hp : ∀ x, 0 ≤ p x) (c : Nat) : 0 ≤ csum k a p c :=
  Finset.sum_nonneg fun x _ => ite_nonneg (hp x)

/-- the same sum after `u` has been taken out of its community: the `stot` vector between
    `subtract_degree_from_best_com` and `add_degree_to_best_com` -/
def csum1 (k : Nat) (a : Nat → Nat) (p : Nat → Rat) (u c : Nat) : Rat :=
  csum k a p c - (if a u = c then p u else 0)

theorem csum_eq_csum1 (k : Nat) (a : Nat → Nat) (p : Nat → Rat) (u c : Nat) :
    csum k a p c = csum1 k a p u c + (if a u = c then p u else 0) :=
  (sub_add_cancel _ _).symm

theorem csum_update (k : Nat) (a : Nat → Nat) (p : Nat → Rat) (c u b : Nat) (hu : u < k) :
    csum k (Function.update a u b) p c = csum1 k a p u c + (if b = c then p u else 0) := by
  unfold csum1 csum
  have hmem : u ∈ Finset.range k := Finset.mem_range.2 hu
  rw [← Finset.add_sum_erase _ _ hmem, ← Finset.add_sum_erase (Finset.range k) (fun x => if a x = c then p x else 0) hmem]
  have : ∑ x ∈ (Finset.range k).erase u, (if Function.update a u b x = c then p x else 0)
      = ∑ x ∈ (Finset.range k).erase u, (if a x = c then p x else 0) := by
    apply Finset.sum_congr rfl
    intro x hx
    rw [Function.update_of_ne (Finset.ne_of_mem_erase hx)]
  rw [this, Function.update_self]
  ring

theorem csum1_nonneg {k : Nat} {a : Nat → Nat} {p : Nat → Rat} (hp : ∀ x, 0 ≤ p x) (u c : Nat) (hu : u < k) :
    0 ≤ csum1 k a p u c := by
  -- it is the sum of the assignment that sends `u` elsewhere
  have h := csum_update k a p c u (c + 1) hu
  rw [if_neg (Nat.succ_ne_self c), add_zero] at h
  rw [← h]
  exact csum_nonneg hp c

/-- `Σ_{c < k} P_c · Q_c` -/
def bsum (k : Nat) (a : Nat → Nat) (p q : Nat → Rat) : Rat := ∑ c ∈ Finset.range k, csum k a p c * csum k a q c

theorem bsum_congr {k : Nat} {a b : Nat → Nat} (h : ∀ x, x < k → a x = b x) (p q : Nat → Rat) :
    bsum k a p q = bsum k b p q := by
  unfold bsum
  apply Finset.sum_congr rfl
  intro c _
  rw [csum_congr h p c, csum_congr h q c]

theorem add_ite_mul_add_ite (A : Prop) [Decidable A] (P Q s t : Rat) :
    (P + if A then s else 0) * (Q + if A then t else 0) = P * Q + if A then s * Q + t * P + s * t else 0 := by
  split <;> ring

theorem bsum_update (k : Nat) (a : Nat → Nat) (p q : Nat → Rat) (u b : Nat) (hu : u < k) (hb : b < k) (hcur : a u < k) :
    bsum k (Function.update a u b) p q - bsum k a p q
      = p u * (csum1 k a q u b - csum1 k a q u (a u)) + q u * (csum1 k a p u b - csum1 k a p u (a u)) := by
  unfold bsum
  -- both products are written over the sums without `u`; only the summands at `b` and at `a u` differ
  have hpt : ∀ c ∈ Finset.range k,
      csum k (Function.update a u b) p c * csum k (Function.update a u b) q c - csum k a p c * csum k a q c
      = (if b = c then p u * csum1 k a q u c + q u * csum1 k a p u c + p u * q u else 0)
        - (if a u = c then p u * csum1 k a q u c + q u * csum1 k a p u c + p u * q u else 0) := by
    intro c _
    rw [csum_update k a p c u b hu, csum_update k a q c u b hu, csum_eq_csum1 k a p u c, csum_eq_csum1 k a q u c,
      add_ite_mul_add_ite, add_ite_mul_add_ite, add_sub_add_left_eq_sub]
  rw [← Finset.sum_sub_distrib, Finset.sum_congr rfl hpt, Finset.sum_sub_distrib, Finset.sum_ite_eq, Finset.sum_ite_eq,
    if_pos (Finset.mem_range.2 hb), if_pos (Finset.mem_range.2 hcur)]
  ring

/-! ### sums over the edge list -/

/-- total weight of the edges inside communities -/
def asum (es : List Edge) (a : Nat → Nat) : Rat := (es.map fun e => if a e.u = a e.v then ratW e.w else 0).sum

/-- total weight of the edges between `u` and the other nodes of community `c` (both directions) -/
def wto (es : List Edge) (a : Nat → Nat) (u c : Nat) : Rat :=
  (es.map fun e => (if e.u = u ∧ e.v ≠ u ∧ a e.v = c then ratW e.w else 0)
    + (if e.v = u ∧ e.u ≠ u ∧ a e.u = c then ratW e.w else 0)).sum

theorem asum_congr {es : List Edge} {k : Nat} (hes : ∀ e ∈ es, e.u < k ∧ e.v < k) {a b : Nat → Nat}
    (h : ∀ x, x < k → a x = b x) : asum es a = asum es b := by
  unfold asum
  congr 1
  apply List.map_congr_left
  intro e he
  rw [h e.u (hes e he).1, h e.v (hes e he).2]

theorem asum_update (es : List Edge) (a : Nat → Nat) (u b : Nat) :
    asum es (Function.update a u b) - asum es a = wto es a u b - wto es a u (a u) := by
  unfold asum wto
  rw [sub_eq_sub_iff_add_eq_add, ← List.sum_map_add, ← List.sum_map_add]
  congr 1
  apply List.map_congr_left
  intro e _
  by_cases h1 : e.u = u <;> by_cases h2 : e.v = u
  · simp only [h1, h2, ne_eq, not_true_eq_false, false_and, and_false, if_false, add_zero, zero_add]
  · rw [h1, Function.update_self, Function.update_of_ne h2]
    simp only [h2, ne_eq, not_true_eq_false, not_false_eq_true, true_and, false_and, and_false, if_false, add_zero]
    exact congrArg₂ _ (if_congr eq_comm rfl rfl) (if_congr eq_comm rfl rfl)
  · rw [h2, Function.update_self, Function.update_of_ne h1]
    simp only [h1, ne_eq, not_true_eq_false, not_false_eq_true, true_and, false_and, and_false, if_false, zero_add]
  · rw [Function.update_of_ne h1, Function.update_of_ne h2]
    simp only [h1, h2, false_and, if_false, add_zero, zero_add]

theorem wto_nonneg {es : List Edge} (hw : ∀ e ∈ es, 0 ≤ ratW e.w) (a : Nat → Nat) (u c : Nat) : 0 ≤ wto es a u c := by
  unfold wto
  apply List.sum_nonneg
  intro x hx
  rw [List.mem_map] at hx
  obtain ⟨e, he, rfl⟩ := hx
  exact add_nonneg (ite_nonneg (hw e he)) (ite_nonneg (hw e he))

/-! ### the potential -/

/-- `Σ_c (L_c / m − res · coef · P_c · Q_c)`, written as two sums -/
def pot (es : List Edge) (k : Nat) (m res coef : Rat) (p q : Nat → Rat) (a : Nat → Nat) : Rat :=
  asum es a / m - res * coef * bsum k a p q

theorem pot_congr {es : List Edge} {k : Nat} (hes : ∀ e ∈ es, e.u < k ∧ e.v < k) (m res coef : Rat) (p q : Nat → Rat)
    {a b : Nat → Nat} (h : ∀ x, x < k → a x = b x) : pot es k m res coef p q a = pot es k m res coef p q b := by
  unfold pot
  rw [asum_congr hes h, bsum_congr h]

theorem pot_update (es : List Edge) (k : Nat) (m res coef : Rat) (p q : Nat → Rat) (a : Nat → Nat) (u b : Nat)
    (hu : u < k) (hb : b < k) (hcur : a u < k) :
    pot es k m res coef p q (Function.update a u b) - pot es k m res coef p q a
      = (wto es a u b - wto es a u (a u)) / m
        - res * coef * (p u * (csum1 k a q u b - csum1 k a q u (a u)) + q u * (csum1 k a p u b - csum1 k a p u (a u))) := by
  unfold pot
  rw [← asum_update, ← bsum_update k a p q u b hu hb hcur]
  ring

/-- undirected potential: `Σ_c termUndirected m res L_c D_c` -/
def potU (es : List Edge) (k : Nat) (m res : Rat) (d : Nat → Rat) (a : Nat → Nat) : Rat :=
  pot es k m res (1 / (4 * m * m)) d d a

/-- directed potential: `Σ_c termDirected m res L_c Out_c In_c` -/
def potD (es : List Edge) (k : Nat) (m res : Rat) (dout din : Nat → Rat) (a : Nat → Nat) : Rat :=
  pot es k m res (1 / (m * m)) dout din a

/-- the gain `update_best_com` compares is `2m` times the part of the undirected potential that depends on the
    target community -/
theorem gainUndirected_sub (m res w w' S S' d : Rat) :
    (w - w') / m - res * (1 / (4 * m * m)) * (d * (S - S') + d * (S - S'))
      = (Louvain.gainUndirected m res w S d - Louvain.gainUndirected m res w' S' d) / (2 * m) := by
  unfold Louvain.gainUndirected
  ring

theorem gainDirected_sub (m res w w' o i SI SI' SO SO' : Rat) :
    (w - w') / m - res * (1 / (m * m)) * (o * (SI - SI') + i * (SO - SO'))
      = (Louvain.gainDirected m res w o i SI SO - Louvain.gainDirected m res w' o i SI' SO') / m := by
  unfold Louvain.gainDirected
  ring

theorem potU_update (es : List Edge) (k : Nat) (m res : Rat) (d : Nat → Rat) (a : Nat → Nat) (u b : Nat)
    (hu : u < k) (hb : b < k) (hcur : a u < k) :
    potU es k m res d (Function.update a u b) - potU es k m res d a
      = (Louvain.gainUndirected m res (wto es a u b) (csum1 k a d u b) (d u)
          - Louvain.gainUndirected m res (wto es a u (a u)) (csum1 k a d u (a u)) (d u)) / (2 * m) := by
  rw [potU, potU, pot_update es k m res _ d d a u b hu hb hcur, gainUndirected_sub]

theorem potD_update (es : List Edge) (k : Nat) (m res : Rat) (dout din : Nat → Rat) (a : Nat → Nat) (u b : Nat)
    (hu : u < k) (hb : b < k) (hcur : a u < k) :
    potD es k m res dout din (Function.update a u b) - potD es k m res dout din a
      = (Louvain.gainDirected m res (wto es a u b) (dout u) (din u) (csum1 k a din u b) (csum1 k a dout u b)
          - Louvain.gainDirected m res (wto es a u (a u)) (dout u) (din u) (csum1 k a din u (a u)) (csum1 k a dout u (a u))) / m := by
  rw [potD, potD, pot_update es k m res _ dout din a u b hu hb hcur, gainDirected_sub]

/-- staying in a community the node has no edge to never has a positive gain -/
theorem gainUndirected_zero_le (m res S d : Rat) (hm : 0 < m) (hres : 0 ≤ res) (hS : 0 ≤ S) (hd : 0 ≤ d) :
    Louvain.gainUndirected m res 0 S d ≤ 0 := by
  unfold Louvain.gainUndirected
  rw [mul_zero, zero_sub]
  exact neg_nonpos.2 (div_nonneg (mul_nonneg hres (mul_nonneg hS hd)) (le_of_lt hm))

theorem gainDirected_zero_le (m res o i SI SO : Rat) (hm : 0 < m) (hres : 0 ≤ res) (ho : 0 ≤ o) (hi : 0 ≤ i)
    (hSI : 0 ≤ SI) (hSO : 0 ≤ SO) : Louvain.gainDirected m res 0 o i SI SO ≤ 0 := by
  unfold Louvain.gainDirected
  rw [zero_sub]
  exact neg_nonpos.2 (div_nonneg (mul_nonneg hres (add_nonneg (mul_nonneg ho hSI) (mul_nonneg hi hSO))) (le_of_lt hm))

/-! ### the candidate scan -/

/-- scanning a list in strictly increasing id from `b0`: the result is at least `b0` and at least every candidate, and
    when it is not `b0` it is the first candidate of maximal gain -/
theorem scan_spec (gain : Nat → Rat → Rat) (l : List (Nat × Rat)) (hs : l.Pairwise (fun x y => x.1 < y.1)) :
    ∀ b0 : Nat × Rat,
      b0.2 ≤ (Louvain.updateBestUnordered gain l b0).2 ∧
      (∀ x ∈ l, gain x.1 x.2 ≤ (Louvain.updateBestUnordered gain l b0).2) ∧
      (Louvain.updateBestUnordered gain l b0 = b0 ∨
        ∃ x ∈ l, Louvain.updateBestUnordered gain l b0 = (x.1, gain x.1 x.2) ∧
          b0.2 < gain x.1 x.2 ∧ ∀ y ∈ l, y.1 < x.1 → gain y.1 y.2 < gain x.1 x.2) := by
  induction l with
  | nil => intro b0; exact ⟨le_refl _, fun x hx => absurd hx List.not_mem_nil, Or.inl rfl⟩
  | cons x l ih =>
    intro b0
    rw [List.pairwise_cons] at hs
    unfold Louvain.updateBestUnordered at ih ⊢
    rw [List.foldl_cons]
    obtain ⟨i1, i2, i3⟩ := ih hs.2 (if gain x.1 x.2 > b0.2 then (x.1, gain x.1 x.2) else b0)
    have hb1 : b0.2 ≤ (if gain x.1 x.2 > b0.2 then (x.1, gain x.1 x.2) else b0).2 ∧
        gain x.1 x.2 ≤ (if gain x.1 x.2 > b0.2 then (x.1, gain x.1 x.2) else b0).2 := by
      by_cases hg : gain x.1 x.2 > b0.2
      · rw [if_pos hg]; exact ⟨le_of_lt hg, le_refl _⟩
      · rw [if_neg hg]; exact ⟨le_refl _, not_lt.1 hg⟩
    refine ⟨le_trans hb1.1 i1, ?_, ?_⟩
    · intro y hy
      rcases List.mem_cons.1 hy with rfl | hy
      · exact le_trans hb1.2 i1
      · exact i2 y hy
    · rcases i3 with h | ⟨z, hz, hr, hlt, hall⟩
      · rw [h]
        by_cases hg : gain x.1 x.2 > b0.2
        · rw [if_pos hg]
          right
          refine ⟨x, List.mem_cons_self, rfl, hg, ?_⟩
          intro y hy hyx
          rcases List.mem_cons.1 hy with rfl | hy
          · exact absurd hyx (lt_irrefl _)
          · exact absurd hyx (Nat.lt_asymm (hs.1 y hy))
        · rw [if_neg hg]; left; rfl
      · right
        refine ⟨z, List.mem_cons_of_mem _ hz, hr, lt_of_le_of_lt hb1.1 hlt, ?_⟩
        intro y hy hyz
        rcases List.mem_cons.1 hy with rfl | hy
        · exact lt_of_le_of_lt hb1.2 hlt
        · exact hall y hy hyz

/-- the scan either keeps the current community or returns a candidate whose gain is positive, at least the gain of
    every candidate, and strictly larger than the gain of every candidate with a smaller community id -/
theorem updateBest_spec (gain : Nat → Rat → Rat) (cands : List (Nat × Rat)) (hnd : (cands.map (·.1)).Nodup) (cur : Nat) :
    (Louvain.updateBest gain cands (cur, 0)).1 = cur ∨
    ∃ wt, ((Louvain.updateBest gain cands (cur, 0)).1, wt) ∈ cands ∧
      0 < gain (Louvain.updateBest gain cands (cur, 0)).1 wt ∧
      ∀ y ∈ cands, gain y.1 y.2 ≤ gain (Louvain.updateBest gain cands (cur, 0)).1 wt ∧
        (y.1 < (Louvain.updateBest gain cands (cur, 0)).1 → gain y.1 y.2 < gain (Louvain.updateBest gain cands (cur, 0)).1 wt) := by
  rw [show Louvain.updateBest gain cands (cur, 0)
    = Louvain.updateBestUnordered gain (isort (fun a b => decide (a.1 ≤ b.1)) cands) (cur, 0) from rfl]
  obtain ⟨_, h2, h3⟩ := scan_spec gain _ (LF.isort_key_strict cands hnd) (cur, 0)
  rcases h3 with h | ⟨x, hx, hr, hlt, hall⟩
  · left; rw [h]
  · right
    rw [hr]
    refine ⟨x.2, (mem_isort (fun a b : Nat × Rat => decide (a.1 ≤ b.1)) x cands).1 hx, hlt, ?_⟩
    intro y hy
    have hy' := (mem_isort (fun a b : Nat × Rat => decide (a.1 ≤ b.1)) y cands).2 hy
    refine ⟨?_, hall y hy'⟩
    have := h2 y hy'
    rw [hr] at this
    exact this

/-! ### the measure -/

/-- a function on `Fin k` as an assignment on `Nat` -/
def extF (k : Nat) (f : Fin k → Fin k) : Nat → Nat := fun x => if h : x < k then (f ⟨x, h⟩).1 else 0

/-- sum of the community ids: ties in the potential are broken towards smaller ids -/
def idsum (k : Nat) (a : Nat → Nat) : Nat := ∑ x ∈ Finset.range k, a x

theorem idsum_congr {k : Nat} {a b : Nat → Nat} (h : ∀ x, x < k → a x = b x) : idsum k a = idsum k b := by
  unfold idsum
  exact Finset.sum_congr rfl (fun x hx => h x (Finset.mem_range.1 hx))

theorem idsum_update_lt (k : Nat) (a : Nat → Nat) (u b : Nat) (hu : u < k) (hb : b < a u) :
    idsum k (Function.update a u b) < idsum k a := by
  unfold idsum
  have hmem : u ∈ Finset.range k := Finset.mem_range.2 hu
  rw [← Finset.add_sum_erase _ _ hmem, ← Finset.add_sum_erase (Finset.range k) a hmem]
  have : ∑ x ∈ (Finset.range k).erase u, Function.update a u b x = ∑ x ∈ (Finset.range k).erase u, a x := by
    apply Finset.sum_congr rfl
    intro x hx
    rw [Function.update_of_ne (Finset.ne_of_mem_erase hx)]
  rw [this, Function.update_self]
  omega

/-- `a'` is better than `a`: larger potential, or the same potential and a smaller id sum -/
def Better (Φ : (Nat → Nat) → Rat) (k : Nat) (a' a : Nat → Nat) : Prop :=
  Φ a < Φ a' ∨ (Φ a = Φ a' ∧ idsum k a' < idsum k a)

theorem Better.trans {Φ : (Nat → Nat) → Rat} {k : Nat} {a b c : Nat → Nat} (h1 : Better Φ k a b) (h2 : Better Φ k b c) :
    Better Φ k a c := by
  unfold Better at *
  rcases h1 with h1 | ⟨h1, h1'⟩ <;> rcases h2 with h2 | ⟨h2, h2'⟩
  · left; exact lt_trans h2 h1
  · left; rw [h2]; exact h1
  · left; rw [← h1]; exact h2
  · right; exact ⟨h2.trans h1, lt_trans h1' h2'⟩

instance (Φ : (Nat → Nat) → Rat) (k : Nat) (a' a : Nat → Nat) : Decidable (Better Φ k a' a) := by
  unfold Better; infer_instance

/-- the number of assignments `{0..k-1} → {0..k-1}` that are better than `a` -/
def mu (Φ : (Nat → Nat) → Rat) (k : Nat) (a : Nat → Nat) : Nat :=
  (Finset.univ.filter fun f : Fin k → Fin k => Better Φ k (extF k f) a).card

theorem mu_le (Φ : (Nat → Nat) → Rat) (k : Nat) (a : Nat → Nat) : mu Φ k a ≤ k ^ k := by
  unfold mu
  refine le_trans (Finset.card_filter_le _ _) ?_
  rw [Finset.card_univ, Fintype.card_fun, Fintype.card_fin]

theorem mu_lt {Φ : (Nat → Nat) → Rat} {k : Nat} {a a' : Nat → Nat}
    (hΦ : ∀ a b : Nat → Nat, (∀ x, x < k → a x = b x) → Φ a = Φ b)
    (ha' : ∀ x, x < k → a' x < k) (hb : Better Φ k a' a) : mu Φ k a' < mu Φ k a := by
  unfold mu
  apply Finset.card_lt_card
  refine ⟨?_, ?_⟩
  · intro f hf
    rw [Finset.mem_filter] at hf ⊢
    exact ⟨hf.1, hf.2.trans hb⟩
  -- strict: `a'` itself (as a function on `Fin k`) beats `a` but cannot beat itself
  · intro hsub
    let f' : Fin k → Fin k := fun x => ⟨a' x.1, ha' x.1 x.2⟩
    have hagree : ∀ x, x < k → extF k f' x = a' x := by
      intro x hx
      simp [extF, hx, f']
    have h1 : Φ (extF k f') = Φ a' := hΦ _ _ hagree
    have h2 : idsum k (extF k f') = idsum k a' := idsum_congr hagree
    have hmem : f' ∈ Finset.univ.filter fun f : Fin k → Fin k => Better Φ k (extF k f) a := by
      rw [Finset.mem_filter]
      refine ⟨Finset.mem_univ _, ?_⟩
      unfold Better at hb ⊢
      rw [h1, h2]; exact hb
    have := hsub hmem
    rw [Finset.mem_filter] at this
    unfold Better at this
    rw [h1, h2] at this
    rcases this.2 with h | ⟨_, h⟩ <;> exact lt_irrefl _ h

end LT
end Graphrs
