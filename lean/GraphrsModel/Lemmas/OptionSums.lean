/-
  Sums of weights that may be undefined. The code adds `f64` values some of which may be NaN; the model has
  `W = Option Int` under `W.add` and `Option Rat` under the addition of `Store.sumOpt`, and in both `none` absorbs.
  Both are commutative monoids, so `Abs.sumW` and `Store.sumOpt` are list sums: cons / append / permutation come from
  the library and the counting lemmas of DoubleCount.lean apply to them as they stand. The two instances are local
  (`attribute [local instance] C12W.wMonoid C12W.ratMonoid` where `+` on these types is wanted).
-/
import GraphrsModel.Model.Community
import GraphrsModel.Lemmas.DoubleCount
namespace Graphrs
namespace C12W

theorem W_add_zero (w : W) : W.add w (some 0) = w := by
  cases w <;> simp [W.add]

theorem W_zero_add (w : W) : W.add (some 0) w = w := by
  cases w <;> simp [W.add]

theorem W_add_assoc (a b c : W) : W.add (W.add a b) c = W.add a (W.add b c) := by
  cases a <;> cases b <;> cases c <;> simp [W.add, Int.add_assoc]

theorem W_add_comm (a b : W) : W.add a b = W.add b a := by
  cases a <;> cases b <;> simp [W.add, Int.add_comm]

theorem W_add_none (a : W) : W.add a none = none := by
  cases a <;> rfl

abbrev wMonoid : AddCommMonoid W :=
  letI : Zero W := ⟨some 0⟩
  letI : Add W := ⟨W.add⟩
  { add_assoc := W_add_assoc, zero_add := W_zero_add, add_zero := W_add_zero, add_comm := W_add_comm, nsmul := nsmulRec }

attribute [local instance] wMonoid

theorem sumW_eq_sum (es : List Edge) : Abs.sumW es = (es.map (·.w)).sum := by
  rw [List.sum_eq_foldl, List.foldl_map]
  rfl

theorem store_sumW_eq (es : List Edge) : Store.sumW es = Abs.sumW es := rfl

theorem sumW_nil : Abs.sumW [] = some 0 := rfl

theorem sumW_cons (e : Edge) (es : List Edge) : Abs.sumW (e :: es) = W.add e.w (Abs.sumW es) := by
  simp only [sumW_eq_sum, List.map_cons, List.sum_cons]
  rfl

theorem sumW_append (l1 l2 : List Edge) : Abs.sumW (l1 ++ l2) = W.add (Abs.sumW l1) (Abs.sumW l2) := by
  simp only [sumW_eq_sum, List.map_append, List.sum_append]
  rfl

theorem sumW_perm {l1 l2 : List Edge} (p : l1.Perm l2) : Abs.sumW l1 = Abs.sumW l2 := by
  simp only [sumW_eq_sum, (p.map _).sum_eq]

theorem sumW_filter_or_and (p q : Edge → Bool) (es : List Edge) :
    W.add (Abs.sumW (es.filter fun e => p e || q e)) (Abs.sumW (es.filter fun e => p e && q e))
      = W.add (Abs.sumW (es.filter q)) (Abs.sumW (es.filter p)) := by
  simp only [sumW_eq_sum]
  exact C09M.sum_filter_or_and p q (·.w) es

def oadd : Option Rat → Option Rat → Option Rat
  | some a, some b => some (a + b)
  | _, _ => none

theorem oadd_zero (w : Option Rat) : oadd w (some 0) = w := by
  cases w with
  | none => rfl
  | some a => exact congrArg some (Rat.add_zero a)

theorem zero_oadd (w : Option Rat) : oadd (some 0) w = w := by
  cases w with
  | none => rfl
  | some a => exact congrArg some (Rat.zero_add a)

theorem oadd_assoc (a b c : Option Rat) : oadd (oadd a b) c = oadd a (oadd b c) := by
  cases a <;> cases b <;> cases c <;> first | rfl | exact congrArg some (Rat.add_assoc _ _ _)

theorem oadd_comm (a b : Option Rat) : oadd a b = oadd b a := by
  cases a <;> cases b <;> first | rfl | exact congrArg some (Rat.add_comm _ _)

theorem oadd_none (a : Option Rat) : oadd a none = none := by
  cases a <;> rfl

abbrev ratMonoid : AddCommMonoid (Option Rat) :=
  letI : Zero (Option Rat) := ⟨some 0⟩
  letI : Add (Option Rat) := ⟨oadd⟩
  { add_assoc := oadd_assoc, zero_add := zero_oadd, add_zero := oadd_zero, add_comm := oadd_comm, nsmul := nsmulRec }

attribute [local instance] ratMonoid

theorem some_add_some (a b : Rat) : (some a + some b : Option Rat) = some (a + b) := rfl

theorem sumOpt_eq_sum (l : List (Option Rat)) : Store.sumOpt l = l.sum := by
  rw [List.sum_eq_foldl]
  rfl

theorem sumOpt_nil : Store.sumOpt [] = some 0 := rfl

theorem sumOpt_cons (a : Option Rat) (l : List (Option Rat)) : Store.sumOpt (a :: l) = oadd a (Store.sumOpt l) := by
  simp only [sumOpt_eq_sum, List.sum_cons]
  rfl

theorem sumOpt_append (l1 l2 : List (Option Rat)) :
    Store.sumOpt (l1 ++ l2) = oadd (Store.sumOpt l1) (Store.sumOpt l2) := by
  simp only [sumOpt_eq_sum, List.sum_append]
  rfl

theorem sumOpt_perm {l1 l2 : List (Option Rat)} (p : l1.Perm l2) : Store.sumOpt l1 = Store.sumOpt l2 := by
  simp only [sumOpt_eq_sum, p.sum_eq]

theorem sumOpt_none_of_mem (l : List (Option Rat)) (h : none ∈ l) : Store.sumOpt l = none := by
  induction l with
  | nil => simp at h
  | cons a l ih =>
    rw [sumOpt_cons]
    rcases List.mem_cons.mp h with h | h
    · rw [← h]; rfl
    · rw [ih h, oadd_none]

theorem sumOpt_all_none {α : Type} (l : List α) (hne : l ≠ []) (F : α → Option Rat) (hF : ∀ x ∈ l, F x = none) :
    Store.sumOpt (l.map F) = none := by
  cases l with
  | nil => exact absurd rfl hne
  | cons a l => exact sumOpt_none_of_mem _ (List.mem_map.mpr ⟨a, List.mem_cons_self, hF a List.mem_cons_self⟩)

theorem sumOpt_map_some {α : Type} (l : List α) (k : α → Rat) :
    Store.sumOpt (l.map fun x => some (k x)) = some ((l.map k).sum) := by
  induction l with
  | nil => rfl
  | cons a l ih => rw [List.map_cons, sumOpt_cons, ih]; rfl

theorem sumOpt_map_congr_some {α : Type} (l : List α) (g : α → Option Rat) (k : α → Rat)
    (h : ∀ x ∈ l, g x = some (k x)) : Store.sumOpt (l.map g) = some ((l.map k).sum) := by
  rw [← sumOpt_map_some, List.map_congr_left h]

theorem wRat_add (a b : W) : Store.wRat (W.add a b) = oadd (Store.wRat a) (Store.wRat b) := by
  cases a <;> cases b <;> simp [W.add, Store.wRat, oadd]

theorem wOf_true (e : Edge) : Abs.wOf true e = Store.wRat e.w := by
  cases h : e.w <;> simp [Abs.wOf, Store.wRat, h]

theorem wRat_sumW (es : List Edge) : Store.wRat (Abs.sumW es) = Store.sumOpt (es.map (Abs.wOf true)) := by
  induction es with
  | nil => rfl
  | cons e es ih => rw [sumW_cons, wRat_add, List.map_cons, sumOpt_cons, ih, wOf_true]

end C12W
end Graphrs
