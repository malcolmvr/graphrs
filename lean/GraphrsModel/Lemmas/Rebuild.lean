/-
  Lemmas for C15: on the abstract machine, adding a list of distinct nodes and then a list of
  "valid" edges (endpoints are nodes, canonical orientation, no forbidden self-loop, distinct keys
  unless multi) never fails and yields exactly those nodes and edges.  Plus what makes the stored
  edges of a well-formed store such a list (distinct keys; that they are valid edge by edge is
  `Store.allEdges_valid`), and the keys and the collapse of the abstract graph read off the edge map.
-/
import GraphrsModel.Props.C01
namespace Graphrs

namespace Abs

theorem hasNode_iff (a : Abs) (x : Nat) : a.hasNode x = true ↔ x ∈ a.nodes.map (·.name) := by
  simp [Abs.hasNode]

theorem addNodes_fresh (ns acc : List Node) (es : List Edge) (h : ((acc ++ ns).map (·.name)).Nodup) :
    Abs.addNodes ⟨acc, es⟩ ns = ⟨acc ++ ns, es⟩ := by
  induction ns generalizing acc with
  | nil => simp [Abs.addNodes]
  | cons n ns ih =>
    have hn : Abs.addNode ⟨acc, es⟩ n = ⟨acc ++ [n], es⟩ := by
      have : (Abs.hasNode ⟨acc, es⟩ n.name) = false := by
        rw [Bool.eq_false_iff]
        intro hc
        rw [hasNode_iff] at hc
        simp only [List.map_append, List.map_cons, List.nodup_append] at h
        exact h.2.2 _ hc _ (List.mem_cons_self) rfl
      simp [Abs.addNode, this]
    have h' : (((acc ++ [n]) ++ ns).map (·.name)).Nodup := by simpa using h
    have := ih (acc ++ [n]) h'
    simp only [Abs.addNodes, List.foldl_cons] at this ⊢
    rw [hn, this]
    simp

theorem addNodes_empty (ns : List Node) (h : (ns.map (·.name)).Nodup) :
    ({} : Abs).addNodes ns = ⟨ns, []⟩ := by
  have := addNodes_fresh ns [] [] (by simpa using h)
  simpa using this

theorem addEdge_valid (sp : Specs) (ns : List Node) (acc : List Edge) (e : Edge)
    (hu : e.u ∈ ns.map (·.name)) (hv : e.v ∈ ns.map (·.name))
    (hsl : sp.selfLoops = true ∨ e.u ≠ e.v) (hc : sp.directed = true ∨ e.u ≤ e.v)
    (hdup : sp.multi = true ∨ ∀ e' ∈ acc, Abs.sameKey sp.directed e' e.u e.v = false) :
    Abs.addEdge sp ⟨ns, acc⟩ e = (⟨ns, acc ++ [e]⟩, none) := by
  have h1 : Abs.hasNode ⟨ns, acc⟩ e.u = true := (hasNode_iff _ _).mpr hu
  have h2 : Abs.hasNode ⟨ns, acc⟩ e.v = true := (hasNode_iff _ _).mpr hv
  have h3 : (!sp.selfLoops && e.u == e.v) = false := by
    rcases hsl with h | h
    · simp [h]
    · simp [h]
  have h4 : Abs.canon sp.directed e = e := by
    unfold Abs.canon Edge.ordered
    rcases hc with h | h
    · simp [h]
    · have : ¬ e.u > e.v := by omega
      simp [this]
  have h5 : (sp.multi || !(acc.any fun e' => Abs.sameKey sp.directed e' e.u e.v)) = true := by
    rcases hdup with h | h
    · simp [h]
    · have : (acc.any fun e' => Abs.sameKey sp.directed e' e.u e.v) = false := by
        rw [List.any_eq_false]
        intro x hx
        simp [h x hx]
      simp [this]
  unfold Abs.addEdge
  simp only [h3, h1, h2, h4, h5, Bool.false_eq_true, if_false, if_true, Bool.not_true, Bool.or_self,
    Bool.and_false]

theorem sameKey_false (dir : Bool) (e' e : Edge) (hk : (e'.u, e'.v) ≠ (e.u, e.v))
    (h1 : dir = true ∨ e'.u ≤ e'.v) (h2 : dir = true ∨ e.u ≤ e.v) : Abs.sameKey dir e' e.u e.v = false :=
  Bool.eq_false_iff.mpr fun h =>
    hk (((sameKey_iff_nameKey dir e' e.u e.v h1).mp h).trans (idxKey_canon dir (e.u, e.v) h2))

theorem addEdges_valid (sp : Specs) (ns : List Node) (es acc : List Edge)
    (hn : ∀ e ∈ es, e.u ∈ ns.map (·.name) ∧ e.v ∈ ns.map (·.name))
    (hsl : ∀ e ∈ es, sp.selfLoops = true ∨ e.u ≠ e.v)
    (hc : ∀ e ∈ acc ++ es, sp.directed = true ∨ e.u ≤ e.v)
    (hdup : sp.multi = true ∨ (acc ++ es).Pairwise (fun e' e => (e'.u, e'.v) ≠ (e.u, e.v))) :
    Abs.addEdges sp ⟨ns, acc⟩ es = (⟨ns, acc ++ es⟩, none) := by
  induction es generalizing acc with
  | nil => rw [List.append_nil]; rfl
  | cons e es ih =>
    have hce := hc e (List.mem_append_right _ List.mem_cons_self)
    have he := addEdge_valid sp ns acc e (hn e List.mem_cons_self).1 (hn e List.mem_cons_self).2
      (hsl e List.mem_cons_self) hce
      (hdup.imp_right fun h e' he' => sameKey_false _ _ _ ((List.pairwise_append.mp h).2.2 e' he' e List.mem_cons_self)
        (hc e' (List.mem_append_left _ he')) hce)
    have hassoc : acc ++ [e] ++ es = acc ++ e :: es := List.append_assoc acc [e] es
    rw [Abs.addEdges, he]
    exact (ih (acc ++ [e]) (fun x hx => hn x (List.mem_cons_of_mem _ hx)) (fun x hx => hsl x (List.mem_cons_of_mem _ hx))
      (hassoc ▸ hc) (hassoc ▸ hdup)).trans (by rw [hassoc])

end Abs

namespace Store

theorem wf_inv {s : Store} (h : s.wf = true) : s.NodesInv ∧ s.EdgesInv :=
  ⟨((wf_iff s).mp h).1, ((wf_iff s).mp h).2.1⟩

theorem flatMap_singletons_map {κ ε : Type} (key : ε → κ) (m : List (κ × List ε))
    (h : ∀ kv ∈ m, kv.2.length = 1 ∧ ∀ e ∈ kv.2, key e = kv.1) :
    (m.flatMap (·.2)).map key = m.map (·.1) := by
  induction m with
  | nil => rfl
  | cons p m ih =>
    obtain ⟨k, l⟩ := p
    obtain ⟨h1, h2⟩ := h (k, l) (by simp)
    match l, h1 with
    | [x], _ =>
      have := h2 x (by simp)
      simp only [List.flatMap_cons, List.map_cons, List.singleton_append]
      rw [ih (fun kv hkv => h kv (List.mem_cons_of_mem _ hkv))]
      simp at this
      rw [this]

theorem allEdges_keys_distinct {s : Store} (he : EdgesInv s) (hm : s.specs.multi = false) :
    s.allEdges.Pairwise (fun e' e => (e'.u, e'.v) ≠ (e.u, e.v)) := by
  have h1 : (s.allEdges.map fun e => (e.u, e.v)) = s.edges.map (·.1) := by
    apply flatMap_singletons_map
    intro kv hkv
    obtain ⟨_, a2, _, _, _, a6, _⟩ := he.edges_ok kv.1 kv.2 (AL.mem_lookup he.edges_nodup hkv)
    refine ⟨?_, a2⟩
    rcases a6 with a6 | a6
    · rw [hm] at a6; cases a6
    · exact a6
  have h2 := he.edges_nodup
  rw [← h1, List.Nodup, List.pairwise_map] at h2
  exact h2

theorem foldl_sinsert_of_mem {κ : Type} [DecidableEq κ] (l acc : List κ) (h : ∀ x ∈ l, x ∈ acc) :
    l.foldl sinsert acc = acc := by
  induction l with
  | nil => rfl
  | cons x l ih =>
    rw [List.foldl_cons, sinsert, if_pos (h x List.mem_cons_self)]
    exact ih fun y hy => h y (List.mem_cons_of_mem _ hy)

theorem dedup_flatMap_keys {κ ε : Type} [DecidableEq κ] (key : ε → κ) (m : List (κ × List ε)) (acc : List κ)
    (hne : ∀ kv ∈ m, kv.2 ≠ [] ∧ ∀ e ∈ kv.2, key e = kv.1) (hnd : (acc ++ m.map (·.1)).Nodup) :
    ((m.flatMap (·.2)).map key).foldl sinsert acc = acc ++ m.map (·.1) := by
  induction m generalizing acc with
  | nil => rw [List.map_nil, List.append_nil]; rfl
  | cons p m ih =>
    obtain ⟨k, l⟩ := p
    have h1 : l ≠ [] := (hne (k, l) List.mem_cons_self).1
    have h2 : ∀ e ∈ l, key e = k := (hne (k, l) List.mem_cons_self).2
    have hk : k ∉ acc := fun hc => (List.nodup_append.mp hnd).2.2 k hc k List.mem_cons_self rfl
    -- the first element of the list appends its key, the others find it there
    have hl : (l.map key).foldl sinsert acc = acc ++ [k] := by
      cases l with
      | nil => exact absurd rfl h1
      | cons x l =>
        rw [List.map_cons, List.foldl_cons, h2 x List.mem_cons_self, sinsert, if_neg hk]
        refine foldl_sinsert_of_mem _ _ fun y hy => ?_
        obtain ⟨z, hz, rfl⟩ := List.mem_map.mp hy
        rw [h2 z (List.mem_cons_of_mem _ hz)]
        exact List.mem_append_right _ List.mem_cons_self
    have hassoc : acc ++ [k] ++ m.map (·.1) = acc ++ k :: m.map (·.1) := List.append_assoc ..
    rw [List.flatMap_cons, List.map_append, List.foldl_append, hl,
      ih (acc ++ [k]) (fun kv hkv => hne kv (List.mem_cons_of_mem _ hkv)) (hassoc ▸ hnd), hassoc]
    rfl

theorem abs_keys {s : Store} (he : EdgesInv s) : s.abs.keys = s.edges.map (·.1) := by
  have := dedup_flatMap_keys (fun e : Edge => (e.u, e.v)) s.edges []
    (fun kv hkv => by
      obtain ⟨a1, a2, _⟩ := he.edges_ok kv.1 kv.2 (AL.mem_lookup he.edges_nodup hkv)
      exact ⟨a1, a2⟩)
    (by simpa using he.edges_nodup)
  simpa [Abs.keys, dedup, Store.abs, allEdges] using this

/-- `collapse_edges` over the edge map is the abstract collapse -/
theorem abs_toSingle {s : Store} (he : EdgesInv s) :
    s.abs.toSingle = ⟨s.nodesVec, s.edges.map collapseEdges⟩ := by
  unfold Abs.toSingle
  rw [abs_keys he, List.map_map]
  show Abs.mk s.nodesVec _ = _
  congr 1
  apply List.map_congr_left
  intro kv hkv
  have hl := AL.mem_lookup he.edges_nodup hkv
  have hf := allEdges_filter he kv.1
  rw [hl] at hf
  have hp : (fun e : Edge => e.u == kv.1.1 && e.v == kv.1.2) = (fun e : Edge => (e.u, e.v) == kv.1) := by
    funext e
    rw [Bool.eq_iff_iff]
    simp [Prod.ext_iff]
  simp only [Function.comp, collapseEdges, Store.abs, hp, hf, Option.getD_some, Abs.sumW]

end Store

theorem newFrom_sim
    (hrest : ∀ (t : Store) (o : Op), t.wf = true → (t.step o).1.nodesOk = true → (t.step o).1.edgesOk = true →
      (t.step o).1.adjOk = true ∧ (t.step o).1.vecOk = true)
    (sp : Specs) (ns : List Node) (es : List Edge) (a' : Abs)
    (h : Abs.addEdges sp (({} : Abs).addNodes ns) es = (a', none)) :
    ∃ t, Store.newFrom sp ns es = .ok t ∧ t.wf = true ∧ t.specs = sp ∧ AbsEq t.abs a' := by
  have h0 := C01_new_wf sp
  have a0 : AbsEq (Store.new sp).abs ({} : Abs) := ⟨rfl, fun _ => rfl⟩
  have s1 := C01_step_sim (Store.new sp) {} (.addNodes ns) hrest h0 a0
  have sp1 : ((Store.new sp).addNodes ns).specs = sp := C01_specs_unchanged (Store.new sp) (.addNodes ns)
  have w1 : ((Store.new sp).addNodes ns).wf = true := s1.2.1
  have e1 : AbsEq ((Store.new sp).addNodes ns).abs (({} : Abs).addNodes ns) := s1.2.2
  have s2 := C01_step_sim ((Store.new sp).addNodes ns) _ (.addEdges es) hrest w1 e1
  rw [sp1] at s2
  have r2 : (((Store.new sp).addNodes ns).addEdges es).2 = (Abs.addEdges sp (({} : Abs).addNodes ns) es).2 := s2.1
  have w2 : (((Store.new sp).addNodes ns).addEdges es).1.wf = true := s2.2.1
  have e2 : AbsEq (((Store.new sp).addNodes ns).addEdges es).1.abs (Abs.addEdges sp (({} : Abs).addNodes ns) es).1 :=
    s2.2.2
  rw [h] at r2 e2
  unfold Store.newFrom
  cases hr : ((Store.new sp).addNodes ns).addEdges es with
  | mk t o =>
    rw [hr] at r2 w2 e2
    simp only at r2 w2 e2
    subst r2
    exact ⟨t, rfl, w2, Store.newFrom_specs (by unfold Store.newFrom; rw [hr]), e2⟩

end Graphrs
