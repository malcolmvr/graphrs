/-
  The undirected triangle models (`get_neighbors_of_nodes`, `get_triangles_and_degrees`) computed in closed form, and the
  entries of `get_triangles_and_degrees` against the definitions of Spec/Cluster.lean.
-/
import GraphrsModel.Lemmas.C11ModelNbr
import GraphrsModel.Lemmas.C11ModelHist
namespace Graphrs
namespace C11M
open C02 C11aux C11G

theorem neighborsOfNodes_ok (s : Store) (h : s.wf = true) (hd : s.specs.directed = false) (names : Option (List Nat))
    (hn : ∀ x ∈ requestedU s names, s.hasNode x = true) :
    s.neighborsOfNodes names = .ok ((dedup (requestedU s names)).map fun n => (n, nm s n)) := by
  unfold Store.neighborsOfNodes
  show List.foldl _ _ (requestedU s names) = _
  rw [Outcome.foldl_ok_pure _ (fun m n => ainsert m n (nm s n))]
  · exact congrArg Outcome.ok (foldl_ainsert_dedup (nm s) (requestedU s names) [])
  · intro acc x hx
    have hx' := hn x hx
    simp only [bind, Outcome.bind, namesOf_nbr s h hd x hx', Outcome.unwrap, dedup_nm s h hd x hx']

/-- per-neighbour triangle counts at `v` as the model computes them -/
def counts (s : Store) (v : Nat) : List Nat := (mN s v).map fun w => (sinter (mN s w) (mN s v)).length

def tadOf (s : Store) (v : Nat) : Store.TAD :=
  ⟨v, (mN s v).length, sumNat ((Store.countMap (counts s v)).map fun kv => kv.1 * kv.2), Store.countMap (counts s v)⟩

/-- the node list `get_triangles_and_degrees` iterates over -/
def reqT (s : Store) (names : Option (List Nat)) : List Nat :=
  match names with
  | none => s.names
  | some l => if l.isEmpty then s.names else dedup l

theorem reqT_eq (s : Store) (h : s.wf = true) (names : Option (List Nat)) :
    reqT s names = dedup (requestedU s names) := by
  have hall : s.names = dedup s.getAllNodeNames := (dedup_of_nodup _ (s.names_nodup h)).symm
  cases names with
  | none => exact hall
  | some l =>
    by_cases hl : l.isEmpty = true
    · simp only [reqT, requestedU, if_pos hl]; exact hall
    · simp only [reqT, requestedU, if_neg hl]

theorem mem_reqT (s : Store) (names : Option (List Nat)) (x : Nat) : x ∈ reqT s names ↔ x ∈ requestedU s names := by
  cases names with
  | none => exact Iff.rfl
  | some l =>
    by_cases hl : l.isEmpty = true
    · simp only [reqT, requestedU, if_pos hl]; exact Iff.rfl
    · simp only [reqT, requestedU, if_neg hl]; exact mem_dedup l x

theorem alookup_nmap (s : Store) (x : Nat) (hx : x ∈ s.names) :
    alookup (s.names.map fun n => (n, nm s n)) x = some (nm s x) := by
  rw [C09M.alookup_map_self, if_pos hx]

theorem trianglesAndDegrees_ok (s : Store) (h : s.wf = true) (hd : s.specs.directed = false) (names : Option (List Nat))
    (hn : ∀ x ∈ reqT s names, s.hasNode x = true) :
    s.trianglesAndDegrees names = .ok ((reqT s names).map (tadOf s)) := by
  have hkeys : akeys (s.names.map fun n => (n, nm s n)) = s.names := by
    rw [akeys, List.map_map]
    exact List.map_id'' (fun _ => rfl) _
  unfold Store.trianglesAndDegrees
  rw [neighborsOfNodes_ok s h hd none (requestedU_none s h)]
  show Outcome.bind (.ok ((dedup s.names).map _)) _ = _
  rw [dedup_of_nodup _ (s.names_nodup h)]
  simp only [Outcome.bind, hkeys]
  show List.foldl _ _ (reqT s names) = _
  rw [Outcome.foldl_ok_map _ (tadOf s) (reqT s names)]
  · rfl
  · intro acc v hv
    have hv' := hn v hv
    simp only [bind, Outcome.bind, alookup_nmap s v ((s.hasNode_names h v).1 hv'), Outcome.ofOption]
    rw [Outcome.foldl_ok_map _ (fun w => (sinter (mN s w) (mN s v)).length)]
    · rfl
    · intro acc w hw
      simp only [alookup_nmap s w ((s.hasNode_names h w).1 (mN_hasNode s h hd v hv' w hw))]
      rfl

theorem trianglesAndDegrees_requestedU (s : Store) (h : s.wf = true) (hd : s.specs.directed = false)
    (names : Option (List Nat)) (hn : ∀ x ∈ requestedU s names, s.hasNode x = true) :
    s.trianglesAndDegrees names = .ok ((reqT s names).map (tadOf s)) :=
  trianglesAndDegrees_ok s h hd names fun x hx => hn x ((mem_reqT s names x).1 hx)

theorem alookup_tads {ν : Type} (s : Store) (names : Option (List Nat))
    (hn : ∀ x ∈ requestedU s names, s.hasNode x = true) (g : Store.TAD → ν) (G : Nat → ν)
    (hg : ∀ v, s.hasNode v = true → g (tadOf s v) = G v) (x : Nat) (hx : x ∈ requestedU s names) :
    alookup (((reqT s names).map (tadOf s)).foldl (fun m t => ainsert m t.name (g t)) []) x = some (G x) := by
  rw [alookup_foldl_ainsert (fun t : Store.TAD => t.name) g G, if_pos]
  · rw [List.map_map]
    exact List.mem_map.2 ⟨x, (mem_reqT s names x).2 hx, rfl⟩
  · intro t ht
    obtain ⟨v, hv, rfl⟩ := List.mem_map.1 ht
    exact hg v (hn v ((mem_reqT s names v).1 hv))

section
variable (s : Store) (h : s.wf = true) (hd : s.specs.directed = false) (v : Nat) (hv : s.hasNode v = true)
include h hd hv

theorem count_eq (w : Nat) (hw : s.hasNode w = true) :
    (sinter (mN s w) (mN s v)).length = ((s.abs.N v).filter fun k => s.abs.adjacent w k).length := by
  unfold sinter
  rw [inter_length_symm _ _ (mN_nodup s h hd w hw) (mN_nodup s h hd v hv)]
  apply filter_length_perm _ _ (mN_perm s h hd v hv)
  intro k _
  rw [Bool.eq_iff_iff, C11_adjacent_iff, decide_eq_true_eq, mem_mN s h hd w hw]

theorem counts_perm :
    (counts s v).Perm ((s.abs.N v).map fun w => ((s.abs.N v).filter fun k => s.abs.adjacent w k).length) := by
  have e : counts s v = (mN s v).map fun w => ((s.abs.N v).filter fun k => s.abs.adjacent w k).length :=
    List.map_congr_left fun w hw => count_eq s h hd v hv w (mN_hasNode s h hd v hv w hw)
  rw [e]
  exact (mN_perm s h hd v hv).map _

theorem tad_ntri : (tadOf s v).ntri = 2 * s.abs.trianglesAt v := by
  show sumNat ((Store.countMap (counts s v)).map fun kv => kv.1 * kv.2) = _
  rw [countMap_sum, sumNat_eq_sum, (counts_perm s h hd v hv).sum_eq, ← sumNat_eq_sum, C11_triangle_count_identity]

theorem tad_degree : (tadOf s v).degree = (s.abs.N v).length := mN_length s h hd v hv

theorem tad_gdeg :
    (∀ t, alookup (tadOf s v).gdeg t = alookup (s.abs.generalizedDegreeAt v) t) ∧
    ((tadOf s v).gdeg).Perm (s.abs.generalizedDegreeAt v) ∧
    (tadOf s v).gdeg = isort keyLe (s.abs.generalizedDegreeAt v) :=
  countMap_specHist _ _ (counts_perm s h hd v hv)

end

end C11M
end Graphrs
