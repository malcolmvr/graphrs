/-
  C05 (Brandes), namespace `Bc`: the bridge between what a single-source stage over positions delivers (`SsOut`: `bfs` with
  hop counts, `dijkstra` with positive weights) followed by `accumulate`, and the specification's enumeration over names.
  `f` maps positions to names (injective below `n`); `A` are the arcs of the traversal lists, `B` the arcs of the abstract
  graph, both with positive costs (`Ren`).
-/
import GraphrsModel.Lemmas.BcBfs
import GraphrsModel.Lemmas.BcAccum
import GraphrsModel.Lemmas.BcSpec
import Mathlib.Data.List.Nodup
import Mathlib.Tactic.FieldSimp
import Mathlib.Tactic.Ring
import Mathlib.Tactic.Linarith
namespace Graphrs
namespace Bc

section arcs
variable {adjOf : Nat → List Adj} {n : Nat} {cost : Adj → Int} {A : Arcs}

theorem arcsOfC_flatMap (adjOf : Nat → List Adj) (n : Nat) (cost : Adj → Int) :
    ArcsOfC adjOf n cost ((List.range n).flatMap fun v => (adjOf v).map fun a => (v, a.1, cost a)) := by
  intro u w c
  simp only [List.mem_flatMap, List.mem_range, List.mem_map, Prod.mk.injEq]
  constructor
  · rintro ⟨v, hv, a, ha, rfl, rfl, rfl⟩
    exact ⟨hv, a, ha, rfl, rfl⟩
  · rintro ⟨hu, a, ha, rfl, rfl⟩
    exact ⟨u, hu, a, ha, rfl, rfl, rfl⟩

theorem ArcsOfC.lt (hA : ArcsOfC adjOf n cost A) (hidx : ∀ v, v < n → ∀ a ∈ adjOf v, a.1 < n) :
    ∀ a ∈ A, a.1 < n ∧ a.2.1 < n := by
  rintro ⟨u, w, c⟩ ha
  obtain ⟨hu, a', ha', rfl, _⟩ := (hA u w c).1 ha
  exact ⟨hu, hidx u hu a' ha'⟩

end arcs

/-- the position arcs `A` and the name arcs `B` carry the same distances under the renaming `f`: off the diagonal every arc
    of `A` is an arc of `B`, and every arc of `B` is matched by an arc of `A` that is not more expensive -/
structure Ren (n : Nat) (A B : Arcs) (f : Nat → Nat) : Prop where
  inj : ∀ i j, i < n → j < n → f i = f j → i = j
  ltA : ∀ a ∈ A, a.1 < n ∧ a.2.1 < n
  posA : PosArcs A
  posB : PosArcs B
  arcsAB : ∀ i j c, i < n → j < n → i ≠ j → (i, j, c) ∈ A → (f i, f j, c) ∈ B
  arcsBA : ∀ i j c, i < n → j < n → i ≠ j → (f i, f j, c) ∈ B → ∃ c', c' ≤ c ∧ (i, j, c') ∈ A
  cover : ∀ a ∈ B, ∃ i j, i < n ∧ j < n ∧ a.1 = f i ∧ a.2.1 = f j

theorem Ren.refl {adjOf : Nat → List Adj} {n : Nat} {cost : Adj → Int} {A : Arcs} (hA : ArcsOfC adjOf n cost A)
    (hidx : ∀ v, v < n → ∀ a ∈ adjOf v, a.1 < n) (hpos : PosArcs A) : Ren n A A id where
  inj := fun _ _ _ _ e => e
  ltA := hA.lt hidx
  posA := hpos
  posB := hpos
  arcsAB := fun _ _ _ _ _ _ h => h
  arcsBA := fun _ _ c _ _ _ h => ⟨c, Int.le_refl _, h⟩
  cover := fun a ha => ⟨a.1, a.2.1, (hA.lt hidx a ha).1, (hA.lt hidx a ha).2, rfl, rfl⟩

section ren
variable {n : Nat} {A B : Arcs} {f : Nat → Nat}

theorem Ren.walk_fwd (hR : Ren n A B f) {a i : Nat} {c : Int} (ha : a < n) (h : Walk A a i c) :
    i < n ∧ ∃ c', c' ≤ c ∧ Walk B (f a) (f i) c' := by
  induction h with
  | nil => exact ⟨ha, 0, Int.le_refl _, Walk.nil _⟩
  | snoc hw harc ih =>
    rename_i u v c0 w
    obtain ⟨hu, hv⟩ := hR.ltA _ harc
    obtain ⟨_, c1, hle, hw1⟩ := ih
    have hwpos : 0 ≤ w := Int.le_of_lt (hR.posA _ harc)
    refine ⟨hv, ?_⟩
    by_cases huv : u = v
    · subst huv
      exact ⟨c1, Int.le_trans hle (Int.le_add_of_nonneg_right hwpos), hw1⟩
    · exact ⟨c1 + w, Int.add_le_add_right hle w, Walk.snoc hw1 (hR.arcsAB u v w hu hv huv harc)⟩

theorem Ren.walk_bwd (hR : Ren n A B f) {a : Nat} {y : Nat} {c : Int} (ha : a < n) (h : Walk B (f a) y c) :
    ∃ i, i < n ∧ y = f i ∧ ∃ c', c' ≤ c ∧ Walk A a i c' := by
  induction h with
  | nil => exact ⟨a, ha, rfl, 0, Int.le_refl _, Walk.nil _⟩
  | snoc hw harc ih =>
    rename_i u v c0 w
    obtain ⟨i, hi, hui, c1, hle, hwi⟩ := ih
    have hwpos : 0 ≤ w := Int.le_of_lt (hR.posB _ harc)
    obtain ⟨i', j, hi', hj, e1, e2⟩ := hR.cover _ harc
    simp only at e1 e2
    have : i' = i := hR.inj i' i hi' hi (by rw [← e1, hui])
    subst this
    by_cases hij : i' = j
    · subst hij
      exact ⟨i', hi', e2, c1, Int.le_trans hle (Int.le_add_of_nonneg_right hwpos), hwi⟩
    · have harc' : (f i', f j, w) ∈ B := by rw [← e1, ← e2]; exact harc
      obtain ⟨w', hw', hA'⟩ := hR.arcsBA i' j w hi' hj hij harc'
      exact ⟨j, hj, e2, c1 + w', Int.add_le_add hle hw', Walk.snoc hwi hA'⟩

theorem Ren.isDist_iff (hR : Ren n A B f) {a i : Nat} (ha : a < n) (hi : i < n) (k : Int) :
    IsDist A a i k ↔ IsDist B (f a) (f i) k := by
  have h1 : ∀ c, Walk A a i c → ∃ c', c' ≤ c ∧ Walk B (f a) (f i) c' := fun c hc => (hR.walk_fwd ha hc).2
  have h2 : ∀ c, Walk B (f a) (f i) c → ∃ c', c' ≤ c ∧ Walk A a i c' := fun c hc => by
    obtain ⟨j, hj, e, hw⟩ := hR.walk_bwd ha hc
    cases hR.inj i j hi hj e
    exact hw
  exact ⟨C06T.isDist_of_walks h1 h2, C06T.isDist_of_walks h2 h1⟩

theorem Ren.isDist_name (hR : Ren n A B f) {a : Nat} (ha : a < n) {y : Nat} {k : Int} (h : IsDist B (f a) y k) :
    ∃ i, i < n ∧ y = f i ∧ IsDist A a i k := by
  obtain ⟨i, hi, e, _⟩ := hR.walk_bwd ha h.1
  subst e
  exact ⟨i, hi, rfl, (hR.isDist_iff ha hi k).2 h⟩

theorem Ren.nodes_cover (hR : Ren n A B f) : ∀ a ∈ B, a.2.1 ∈ (List.range n).map f := by
  intro a ha
  obtain ⟨i, j, _, hj, _, e2⟩ := hR.cover a ha
  exact List.mem_map.2 ⟨j, List.mem_range.2 hj, e2.symm⟩

theorem Ren.exactD (hR : Ren n A B f) {a : Nat} (ha : a < n) : ExactD B (Arcs.distFrom B n (f a)) (f a) :=
  distFrom_exact_pos hR.posB (f a) ((List.range n).map f) (List.mem_map.2 ⟨a, List.mem_range.2 ha, rfl⟩)
    hR.nodes_cover n (by simp)

theorem Ren.tpEq (hR : Ren n A B f) {a : Nat} (ha : a < n) : TpEq B (Arcs.distFrom B n (f a)) (f a) n :=
  tp_eq_pos hR.posB (hR.exactD ha) ((List.range n).map f) (List.mem_map.2 ⟨a, List.mem_range.2 ha, rfl⟩)
    hR.nodes_cover n (by simp)

end ren

theorem le_of_le_sub_add {a c c' : Int} (h : a ≤ a - c + c') : c ≤ c' := by omega

section bridge
variable {adjOf : Nat → List Adj} {n a : Nat} {cost : Adj → Int} {κ : Rat} {A B : Arcs} {f : Nat → Nat}
  {D : List (Option Int)} {r : SSR}

theorem SsOut.dOf_nonneg (out : SsOut adjOf n a cost κ A D r) {x : Nat} (hx : x ∈ r.S) :
    0 ≤ dOf D x ∧ lk D x = some (dOf D x) :=
  have hl := lk_dOf ((out.memD x).1 hx)
  ⟨isDist_nonneg_pos out.posA ((out.dist x _).1 hl), hl⟩

theorem SsOut.P_mem_S (out : SsOut adjOf n a cost κ A D r) {t u : Nat} (hu : u ∈ gP r.P t) : u ∈ r.S :=
  ((out.pMem t u).1 hu).1

theorem SsOut.P_lev (out : SsOut adjOf n a cost κ A D r) {t u : Nat} (hu : u ∈ gP r.P t) : dOf D u < dOf D t := by
  obtain ⟨huS, a', ha', ha1, hl⟩ := (out.pMem t u).1 hu
  rw [dOf_of_lk hl]
  exact Int.lt_add_of_pos_right _ (out.posA _ ((out.arcs u t (cost a')).2 ⟨out.lt u huS, a', ha', ha1, rfl⟩))

theorem SsOut.P_source (out : SsOut adjOf n a cost κ A D r) : gP r.P a = [] := by
  cases hg : gP r.P a with
  | nil => rfl
  | cons u l =>
    exfalso
    have hu : u ∈ gP r.P a := by rw [hg]; exact List.mem_cons_self ..
    have h1 := out.P_lev hu
    have h2 := (out.dOf_nonneg (out.P_mem_S hu)).1
    have h3 : lk D a = some 0 := (out.dist a 0).2 (isDist_source_pos out.posA a)
    rw [dOf_of_lk h3] at h1
    exact Int.lt_irrefl _ (Int.lt_of_lt_of_le h1 h2)

theorem SsOut.leveled (out : SsOut adjOf n a cost κ A D r) : Leveled (gP r.P) r.S (dOf D) where
  nd := out.nd
  ord := out.ord
  step := fun _ _ hv => out.P_lev hv
  sub := fun _ _ hv => out.P_mem_S hv

theorem SsOut.pred_induction (out : SsOut adjOf n a cost κ A D r) {Q : Nat → Prop}
    (step : ∀ t ∈ r.S, (∀ u ∈ gP r.P t, Q u) → Q t) : ∀ t ∈ r.S, Q t := by
  have key : ∀ m : Nat, ∀ t ∈ r.S, (dOf D t).toNat = m → Q t := by
    intro m
    induction m using Nat.strong_induction_on with
    | _ m ih =>
      intro t htS hm
      refine step t htS fun u hu => ih (dOf D u).toNat ?_ u (out.P_mem_S hu) rfl
      rw [← hm]
      exact (Int.toNat_lt_toNat (Int.lt_of_le_of_lt (out.dOf_nonneg (out.P_mem_S hu)).1 (out.P_lev hu))).2 (out.P_lev hu)
  exact fun t ht => key _ t ht rfl

theorem SsOut.label_iff (hR : Ren n A B f) (ha : a < n) (out : SsOut adjOf n a cost κ A D r) {t : Nat} (ht : t < n) (k : Int) :
    alookup (Arcs.distFrom B n (f a)) (f t) = some k ↔ lk D t = some k := by
  rw [hR.exactD ha (f t) k, ← hR.isDist_iff ha ht k, out.dist t k]

theorem SsOut.tpreds_perm (hR : Ren n A B f) (ha : a < n) (out : SsOut adjOf n a cost κ A D r)
    {t : Nat} (ht : t < n) {dt : Int} (hl : lk D t = some dt) :
    (tpreds B (Arcs.distFrom B n (f a)) (f t) dt).Perm ((gP r.P t).map f) := by
  have hnd2 : ((gP r.P t).map f).Nodup :=
    (out.pNd t).map_on (fun x hx y hy e => hR.inj x y (out.lt x (out.P_mem_S hx)) (out.lt y (out.P_mem_S hy)) e)
  have hdt : IsDist A a t dt := (out.dist t dt).1 hl
  rw [List.perm_ext_iff_of_nodup (tpreds_nodup ..) hnd2]
  intro y
  rw [mem_tpreds_pos (hR.exactD ha), List.mem_map]
  constructor
  · rintro ⟨c, harc, hy⟩
    obtain ⟨u, hu, e, hdu⟩ := hR.isDist_name ha hy
    subst e
    refine ⟨u, ?_, rfl⟩
    have hcpos : 0 < c := hR.posB _ harc
    have hut : u ≠ t := by
      intro e; subst e
      have := isDist_unique hdu hdt
      exact Int.lt_irrefl _ (this ▸ Int.sub_lt_self dt hcpos)
    obtain ⟨c', hc', harcA⟩ := hR.arcsBA u t c hu ht hut harc
    obtain ⟨_, a', ha', ha1, hcost⟩ := (out.arcs u t c').1 harcA
    have hlu := (out.dist u (dt - c)).2 hdu
    -- the matching arc of `A` is tight as well
    have hle := isDist_arc_le hdu harcA hdt
    have hcc : c' = c := Int.le_antisymm hc' (le_of_le_sub_add hle)
    rw [out.pMem]
    refine ⟨(out.memD u).2 (by rw [hlu]; simp), a', ha', ha1, ?_⟩
    rw [dOf_of_lk hlu, hl, hcost, hcc, Int.sub_add_cancel]
  · rintro ⟨u, hu, rfl⟩
    obtain ⟨huS, a', ha', ha1, hlt⟩ := (out.pMem t u).1 hu
    have hun := out.lt u huS
    have hlev := out.P_lev hu
    have hut : u ≠ t := fun e => Int.lt_irrefl _ (e ▸ hlev)
    rw [hl] at hlt
    have hdt' : dt = dOf D u + cost a' := Option.some.inj hlt
    have harcA : (u, t, cost a') ∈ A := (out.arcs u t (cost a')).2 ⟨hun, a', ha', ha1, rfl⟩
    refine ⟨cost a', hR.arcsAB u t _ hun ht hut harcA, ?_⟩
    have e : dt - cost a' = dOf D u := by rw [hdt']; exact Int.add_sub_cancel _ _
    rw [e, ← hR.isDist_iff ha hun, ← out.dist]
    exact (out.dOf_nonneg huS).2

theorem SsOut.sum_tpreds (hR : Ren n A B f) (ha : a < n) (out : SsOut adjOf n a cost κ A D r)
    {t : Nat} (ht : t < n) {dt : Int} (hl : lk D t = some dt) (g : Nat → Rat) :
    ((tpreds B (Arcs.distFrom B n (f a)) (f t) dt).map g).sum = ((gP r.P t).map fun u => g (f u)).sum := by
  rw [((out.tpreds_perm hR ha ht hl).map g).sum_eq, List.map_map]
  rfl

/-- **`sigma[t]` is `κ` times the number of shortest paths the specification lists** (positions vs names) -/
theorem SsOut.sigma_eq (hR : Ren n A B f) (ha : a < n) (out : SsOut adjOf n a cost κ A D r) :
    ∀ t ∈ r.S, getD0 r.sigma t = κ * sigH B (Arcs.distFrom B n (f a)) (f a) n (f t) := by
  have hTp := hR.tpEq ha
  refine out.pred_induction fun t htS ih => ?_
  have ht := out.lt t htS
  by_cases hta : t = a
  · subst hta
    rw [sigH_source hTp, out.sig t htS, out.P_source, if_pos rfl, mul_one]
    exact add_zero κ
  · have hl := (out.dOf_nonneg htS).2
    have hne : f t ≠ f a := fun e => hta (hR.inj t a ht ha e)
    rw [sigH_some hTp (f t) hne (dOf D t) ((out.label_iff hR ha ht _).2 hl),
      out.sum_tpreds hR ha ht hl, out.sig t htS, if_neg hta, zero_add, ← sum_map_mul_left']
    exact sum_map_congr _ _ _ ih

/-- **the single-source stage, `bfs` or `dijkstra`**: `S` lists exactly the reachable nodes, each once, in non-decreasing distance; `P[w]` is
    exactly the set of tight predecessors of `w`; `sigma[w]` is `κ` times the number of shortest paths to `w` -/
theorem SsOut.stage_facts (hR : Ren n A A id) (ha : a < n) (out : SsOut adjOf n a cost κ A D r) :
    r.S.Nodup ∧ (∀ v, v ∈ r.S ↔ Reachable A a v) ∧
    (∀ (i j : Nat) (di dj : Int), i < j → (∃ x, r.S[i]? = some x ∧ IsDist A a x di) →
      (∃ y, r.S[j]? = some y ∧ IsDist A a y dj) → di ≤ dj) ∧
    (∀ w ∈ r.S, ∀ v, v ∈ gP r.P w ↔
      ∃ dv dw c, IsDist A a v dv ∧ IsDist A a w dw ∧ dv + c = dw ∧ (v, w, c) ∈ A) ∧
    (∀ w ∈ r.S, r.sigma[w]? = some (κ * sigH A (Arcs.distFrom A n a) a n w)) := by
  refine ⟨out.nd, fun v => ?_, ?_, fun w _ v => ?_, fun w hw => ?_⟩
  · rw [out.memD]
    constructor
    · intro hv
      exact ⟨_, ((out.dist v _).1 (lk_dOf hv)).1⟩
    · intro hv
      obtain ⟨d, hd⟩ := isDist_exists_pos out.posA hv
      rw [(out.dist v d).2 hd]; exact Option.some_ne_none d
  · rintro i j di dj hij ⟨x, hx, hdx⟩ ⟨y, hy, hdy⟩
    obtain ⟨hi, ex⟩ := List.getElem?_eq_some_iff.1 hx
    obtain ⟨hj, ey⟩ := List.getElem?_eq_some_iff.1 hy
    have hord := (List.pairwise_iff_getElem.1 out.ord) i j hi hj hij
    rw [ex, ey, dOf_of_lk ((out.dist x di).2 hdx), dOf_of_lk ((out.dist y dj).2 hdy)] at hord
    exact hord
  · rw [out.pMem]
    constructor
    · rintro ⟨hvS, a', ha', ha1, hl⟩
      exact ⟨dOf D v, dOf D v + cost a', cost a', (out.dist _ _).1 (out.dOf_nonneg hvS).2, (out.dist _ _).1 hl, rfl,
        (out.arcs v w _).2 ⟨out.lt v hvS, a', ha', ha1, rfl⟩⟩
    · rintro ⟨dv, dw, c, hdv, hdw, e, harc⟩
      have hlv := (out.dist _ _).2 hdv
      obtain ⟨_, a', ha', ha1, hc⟩ := (out.arcs v w c).1 harc
      refine ⟨(out.memD v).2 (by rw [hlv]; exact Option.some_ne_none dv), a', ha', ha1, ?_⟩
      rw [dOf_of_lk hlv, hc, e]
      exact (out.dist _ _).2 hdw
  · have h2 : r.sigma[w]? = some (getD0 r.sigma w) := by
      unfold getD0
      rw [List.getElem?_eq_getElem (by rw [out.lenS]; exact out.lt w hw)]; rfl
    rw [h2]
    exact congrArg some (out.sigma_eq hR ha w hw)

/-- the backward recursion of "paths through `x`" (scaled by `κ`), read over the model's `P` -/
theorem SsOut.thr_rec (hR : Ren n A B f) (ha : a < n) (out : SsOut adjOf n a cost κ A D r)
    {x : Nat} (hx : x < n) (hxa : x ≠ a) :
    ∀ t ∈ r.S, κ * thrH B (Arcs.distFrom B n (f a)) (f a) n (f x) (f t) =
      if t = x then getD0 r.sigma x
      else ((gP r.P t).map fun u => κ * thrH B (Arcs.distFrom B n (f a)) (f a) n (f x) (f u)).sum := by
  have hTp := hR.tpEq ha
  have hfx : f x ≠ f a := fun e => hxa (hR.inj x a hx ha e)
  intro t htS
  have ht := out.lt t htS
  by_cases hta : t = a
  · subst hta
    rw [thrH_source hTp, if_neg hfx, if_neg (fun e => hxa e.symm), out.P_source]
    simp
  · obtain ⟨h0, hl⟩ := out.dOf_nonneg htS
    have hne : f t ≠ f a := fun e => hta (hR.inj t a ht ha e)
    rw [thrH_some hTp (f x) (f t) hne (dOf D t) ((out.label_iff hR ha ht _).2 hl)]
    by_cases htx : t = x
    · subst htx
      rw [if_pos rfl, if_pos rfl, out.sigma_eq hR ha t htS]
    · have : f x ≠ f t := fun e => htx (hR.inj x t hx ht e).symm
      rw [if_neg this, if_neg htx, out.sum_tpreds hR ha ht hl, sum_map_mul_left']

theorem SsOut.thr_zero (hR : Ren n A B f) (ha : a < n) (out : SsOut adjOf n a cost κ A D r)
    {x : Nat} (hx : x < n) :
    ∀ y ∈ r.S, ¬ (x ∈ r.S ∧ dOf D x ≤ dOf D y) → κ * thrH B (Arcs.distFrom B n (f a)) (f a) n (f x) (f y) = 0 := by
  refine out.pred_induction fun y hyS ih hnot => ?_
  have hxa : x ≠ a := by
    intro e
    rw [e] at hnot
    refine hnot ⟨out.srcIn, ?_⟩
    rw [dOf_of_lk ((out.dist a 0).2 (isDist_source_pos out.posA a))]
    exact (out.dOf_nonneg hyS).1
  have hyx : y ≠ x := fun e => hnot (e ▸ ⟨hyS, Int.le_refl _⟩)
  rw [out.thr_rec hR ha hx hxa y hyS, if_neg hyx]
  exact sum_map_zero _ _ fun u hu => ih u hu fun ⟨h3, h4⟩ => hnot ⟨h3, Int.le_trans h4 (Int.le_of_lt (out.P_lev hu))⟩

/-- the pair term of the definition for source `a`, target `t` and the node `x` (positions; `f` gives the names) -/
def pairTerm (B : Arcs) (f : Nat → Nat) (n a x t : Nat) : Rat :=
  if x = a ∨ x = t then 0
  else thrH B (Arcs.distFrom B n (f a)) (f a) n (f x) (f t) / sigH B (Arcs.distFrom B n (f a)) (f a) n (f t)

/-- **Brandes' dependency = the sum over targets of the fraction of shortest paths through `x`** -/
theorem SsOut.dlt_eq (hR : Ren n A B f) (ha : a < n) (out : SsOut adjOf n a cost κ A D r)
    {x : Nat} (hxS : x ∈ r.S) (hxa : x ≠ a) :
    dlt (gP r.P) (getD0 r.sigma) r.S x = (r.S.map fun t => pairTerm B f n a x t).sum := by
  have hx := out.lt x hxS
  have hL := out.leveled
  have hκ : κ ≠ 0 := ne_of_gt out.κpos
  have hσ : ∀ t ∈ r.S, getD0 r.sigma t ≠ 0 := fun t ht => ne_of_gt (out.sPos t ht)
  -- telescope with `T t = κ · #(paths to t through x)` and `c t = (1 + δ t) / σ t`
  have htel := telescope r.S out.nd (gP r.P) (fun w _ y hy => out.P_mem_S hy) (fun w _ => out.pNd w)
    (fun t => κ * thrH B (Arcs.distFrom B n (f a)) (f a) n (f x) (f t))
    (fun t => (1 + dlt (gP r.P) (getD0 r.sigma) r.S t) / getD0 r.sigma t)
    (fun t => 1 / getD0 r.sigma t) x hxS (getD0 r.sigma x)
    (out.thr_rec hR ha hx hxa)
    (by
      apply sum_map_zero
      intro u hu
      have h1 := out.P_lev hu
      exact out.thr_zero hR ha hx u (out.P_mem_S hu) (fun ⟨_, h4⟩ => Int.lt_irrefl _ (Int.lt_of_le_of_lt h4 h1)))
    (fun t ht => hL.coeff_rec t (hσ t ht))
  rw [mul_comm, div_mul_cancel₀ _ (hσ x hxS)] at htel
  -- split off the term `t = x`
  have h2 : ∀ t ∈ r.S, pairTerm B f n a x t =
      κ * thrH B (Arcs.distFrom B n (f a)) (f a) n (f x) (f t) * (1 / getD0 r.sigma t) - (if t = x then 1 else 0) := by
    intro t ht
    unfold pairTerm
    by_cases e : x = t
    · subst e
      rw [if_pos (Or.inr rfl), if_pos rfl, out.thr_rec hR ha hx hxa x hxS, if_pos rfl, mul_one_div_cancel (hσ x hxS),
        sub_self]
    · rw [if_neg (fun h => h.elim hxa e), if_neg (fun h => e h.symm), out.sigma_eq hR ha t ht, sub_zero, mul_one_div,
        mul_div_mul_left _ _ hκ]
  rw [sum_map_congr _ _ _ h2, sum_map_sub, htel, sum_indicator_eq out.nd (fun _ => 1) x]
  simp [hxS]

theorem SsOut.bcAdd_eq (hR : Ren n A B f) (ha : a < n) (out : SsOut adjOf n a cost κ A D r)
    {x : Nat} (hx : x < n) :
    bcAdd (gP r.P) (getD0 r.sigma) a r.S x = (r.S.map fun t => pairTerm B f n a x t).sum := by
  have hκ : κ ≠ 0 := ne_of_gt out.κpos
  rw [out.leveled.bcAdd_eq]
  by_cases hxa : x = a
  · rw [if_neg (fun h => h.2 hxa)]
    symm
    apply sum_map_zero
    intro t _
    unfold pairTerm
    rw [if_pos (Or.inl hxa)]
  · by_cases hxS : x ∈ r.S
    · rw [if_pos ⟨hxS, hxa⟩]
      exact out.dlt_eq hR ha hxS hxa
    · rw [if_neg (fun h => hxS h.1)]
      symm
      apply sum_map_zero
      intro t ht
      unfold pairTerm
      split
      · rfl
      · have := out.thr_zero hR ha hx t ht (fun h => hxS h.1)
        rcases mul_eq_zero.1 this with h0 | h0
        · exact absurd h0 hκ
        · rw [h0]; simp

theorem SsOut.adds_bcAdd (out : SsOut adjOf n a cost κ A D r) (bc : List Rat) (hbc : bc.length = n) :
    (accumulate bc r).length = n ∧
    ∀ x, x < n → getD0 (accumulate bc r) x = getD0 bc x + bcAdd (gP r.P) (getD0 r.sigma) a r.S x := by
  have := Bc.accumulate_bcAdd r n bc hbc out.pNd (fun w v hv => out.lt v (out.P_mem_S hv)) out.lt
  rwa [out.rsrc] at this

/-- **accumulation and dependency identity for one source**: `accumulate` adds the pair terms of the definition for this source -/
theorem SsOut.adds_pairTerms (hR : Ren n A B f) (ha : a < n) (out : SsOut adjOf n a cost κ A D r)
    (bc : List Rat) (hbc : bc.length = n) :
    (accumulate bc r).length = n ∧
    ∀ x, x < n → getD0 (accumulate bc r) x = getD0 bc x + (r.S.map fun t => pairTerm B f n a x t).sum :=
  ⟨(out.adds_bcAdd bc hbc).1, fun x hx => by rw [(out.adds_bcAdd bc hbc).2 x hx, out.bcAdd_eq hR ha hx]⟩

end bridge

end Bc
end Graphrs
