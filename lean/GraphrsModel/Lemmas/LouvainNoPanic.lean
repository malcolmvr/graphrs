/-
  Every `unwrap` / `ofOption` / index site of one level of the step-level Louvain model succeeds on well-formed
  level graphs.
-/
import GraphrsModel.Lemmas.LouvainDefs
import GraphrsModel.Lemmas.LouvainVisit
import GraphrsModel.Lemmas.LouvainSweep
import GraphrsModel.Props.C09Model
import GraphrsModel.Props.C12Weighted
namespace Graphrs
open LouvainFull
namespace LF
open Outcome (bind_eq_ok bind_exists bind_exists_of ofOption_eq_ok foldl_ok_exists foldl_ok_exists₀)

/-- the map is defined on every node name -/
def TotalOn {α : Type} (m : List (Nat × α)) (names : List Nat) : Prop := ∀ x ∈ names, ∃ d, alookup m x = some d

theorem TotalOn.map_snd {α β : Type} {m : List (Nat × α)} {names : List Nat} (h : TotalOn m names) (f : α → β) :
    TotalOn (m.map fun kv => (kv.1, f kv.2)) names := by
  intro x hx
  obtain ⟨d, hd⟩ := h x hx
  exact ⟨f d, by rw [AL.lookup_map_snd, hd]; rfl⟩

theorem TotalOn.names_map {α : Type} (s : Store) (g : Nat → α) : TotalOn (s.names.map fun x => (x, g x)) s.names :=
  fun x hx => ⟨g x, by rw [C09M.alookup_map_self, if_pos hx]⟩

/-- on a single-edge store `get_edge` returns the one stored edge between two joined names -/
theorem getEdge_of_hasEdge (s : Store) (h : s.wf = true) (hm : s.specs.multi = false) (x y : Nat)
    (hxy : s.hasEdge x y = true) :
    ∃ e, s.getEdge x y = .ok e ∧ s.abs.between s.specs.directed x y = [e] ∧ x ∈ s.names ∧ y ∈ s.names := by
  rcases getEdge_between s h hm x y with ⟨_, e, h1, h2⟩ | ⟨h1, _⟩
  · exact ⟨e, h1, h2, s.hasEdge_names h hxy⟩
  · rw [hxy] at h1; cases h1

theorem mem_succ_iff (s : Store) (h : s.wf = true) (u v : Nat) :
    v ∈ (alookup s.succ u).getD [] ↔ s.hasEdge u v = true :=
  ((C02.adjOk_iff s).1 (s.wf_parts h).2.2.1).mem_succ (C02.edgesP_of s (s.wf_parts h).2.1) u v

theorem mem_pred_iff (s : Store) (h : s.wf = true) (u v : Nat) :
    v ∈ (alookup s.pred u).getD [] ↔ (s.specs.directed = true ∧ s.hasEdge v u = true) :=
  ((C02.adjOk_iff s).1 (s.wf_parts h).2.2.1).mem_pred (C02.edgesP_of s (s.wf_parts h).2.1) u v

theorem neighborWeights_ok (g : Store) (h : g.wf = true) (hm : g.specs.multi = false) (u : Nat)
    (n2c : List (Nat × Nat)) (hn : TotalOn n2c g.names) : ∃ w2c, neighborWeights g u n2c = .ok w2c := by
  have hsucc : ∀ v ∈ (alookup g.succ u).getD [], ∃ e, g.getEdge u v = .ok e ∧ v ∈ g.names := fun v hv =>
    (getEdge_of_hasEdge g h hm u v ((mem_succ_iff g h u v).1 hv)).imp fun _ he => ⟨he.1, he.2.2.2⟩
  have hpred : ∀ v ∈ (alookup g.pred u).getD [], ∃ e, g.getEdge v u = .ok e ∧ v ∈ g.names := fun v hv =>
    (getEdge_of_hasEdge g h hm v u ((mem_pred_iff g h u v).1 hv).2).imp fun _ he => ⟨he.1, he.2.2.1⟩
  have loop : ∀ (edgeOf : Nat → Outcome Edge) (vs : List Nat), (∀ v ∈ vs, ∃ e, edgeOf v = .ok e ∧ v ∈ g.names) →
      ∀ a, ∃ r, vs.foldl (fun (a : Outcome (List (Nat × Rat))) v => a.bind (nbrStep u n2c edgeOf · v)) (.ok a) = .ok r := by
    intro edgeOf vs hvs
    refine foldl_ok_exists₀ _ vs fun a v hv => ?_
    by_cases huv : u = v
    · exact ⟨a, nbrStep_eq_ok.2 (Or.inl ⟨huv, rfl⟩)⟩
    · obtain ⟨e, he, hvn⟩ := hvs v hv
      obtain ⟨c, hc⟩ := hn v hvn
      exact ⟨_, nbrStep_eq_ok.2 (Or.inr ⟨huv, e, c, he, hc, rfl⟩)⟩
  rw [neighborWeights_eq]
  refine bind_exists (loop _ _ hsucc []) fun m => ?_
  split
  · exact loop _ _ hpred m
  · exact ⟨m, rfl⟩

/-- the degree maps of the bookkeeping are defined on every node and the `stot*` vectors have one slot per community id -/
structure DegOK (g : Store) (k : Nat) (di : DegInfo) : Prop where
  dir : g.specs.directed = true → TotalOn di.inDeg g.names ∧ TotalOn di.outDeg g.names ∧
    di.stotIn.length = k ∧ di.stotOut.length = k
  undir : g.specs.directed = false → TotalOn di.deg g.names ∧ di.stot.length = k

end LF

namespace LT

/-- the weighted degree map as rationals -/
def degList (g : Store) (f : Nat → W) : List (Nat × Rat) :=
  (g.names.map fun x => (x, f x)).map fun kv => (kv.1, ratW kv.2)

theorem degList_total (g : Store) (f : Nat → W) : LF.TotalOn (degList g f) g.names := by
  intro x hx
  unfold degList
  rw [AL.lookup_map_snd, C09M.alookup_map_self, if_pos hx]
  exact ⟨_, rfl⟩

theorem stot_fold (site : String) (D : List (Nat × Rat)) (k : Nat) (ht : ∀ i, i < k → ∃ d, alookup D i = some d) :
    (List.range k).foldl (fun (acc : Outcome (List Rat)) i => do
      let l ← acc
      let x ← Outcome.ofOption site (alookup D i)
      .ok (l ++ [x])) (.ok []) = .ok ((List.range k).map fun i => (alookup D i).getD 0) := by
  rw [Outcome.foldl_ok_map (g := fun i => (alookup D i).getD 0) (acc := [])]
  · simp
  · intro acc i hi
    obtain ⟨d, hd'⟩ := ht i (List.mem_range.1 hi)
    simp only [bind, Outcome.bind, hd', Outcome.ofOption, Option.getD_some]

/-- the initial bookkeeping of an undirected level -/
def diUndir (g : Store) (k : Nat) : DegInfo where
  deg := degList g (g.abs.weightedDegree g.specs.directed)
  stot := (List.range k).map fun i => (alookup (degList g (g.abs.weightedDegree g.specs.directed)) i).getD 0

/-- the initial bookkeeping of a directed level -/
def diDir (g : Store) (k : Nat) : DegInfo where
  inDeg := degList g (fun x => Abs.sumW (g.abs.inEdges x))
  outDeg := degList g (fun x => Abs.sumW (g.abs.outEdges x))
  stotIn := (List.range k).map fun i => (alookup (degList g (fun x => Abs.sumW (g.abs.inEdges x))) i).getD 0
  stotOut := (List.range k).map fun i => (alookup (degList g (fun x => Abs.sumW (g.abs.outEdges x))) i).getD 0

theorem degreeInformation_undir (g : Store) (h : g.wf = true) (k : Nat) (hnames : ∀ x, x < k → x ∈ g.names)
    (hd : g.specs.directed = false) : degreeInformation g k = .ok (diUndir g k) := by
  unfold degreeInformation
  rw [if_neg (by rw [hd]; exact Bool.false_ne_true), C12W.degMapW g h]
  exact Outcome.bind_eq_ok.2 ⟨_, rfl, Outcome.bind_eq_ok.2 ⟨_,
    stot_fold _ (degList g _) k fun i hi => degList_total g _ i (hnames i hi), rfl⟩⟩

theorem degreeInformation_dir (g : Store) (h : g.wf = true) (k : Nat) (hnames : ∀ x, x < k → x ∈ g.names)
    (hd : g.specs.directed = true) : degreeInformation g k = .ok (diDir g k) := by
  unfold degreeInformation
  rw [if_pos hd, C12W.inDegMapW g h hd, C12W.outDegMapW g h hd]
  exact Outcome.bind_eq_ok.2 ⟨_, rfl, Outcome.bind_eq_ok.2 ⟨_, rfl, Outcome.bind_eq_ok.2 ⟨_,
    stot_fold _ (degList g _) k fun i hi => degList_total g _ i (hnames i hi), Outcome.bind_eq_ok.2 ⟨_,
    stot_fold _ (degList g _) k fun i hi => degList_total g _ i (hnames i hi), rfl⟩⟩⟩⟩

end LT

namespace LF
open Outcome (bind_eq_ok bind_exists bind_exists_of ofOption_eq_ok foldl_ok_exists foldl_ok_exists₀)

/-- `get_degree_information` returns, with total degree maps and `stot*` vectors of length `k` -/
theorem degreeInformation_ok (g : Store) (h : g.wf = true) (k : Nat) (hnames : ∀ x, x < k → x ∈ g.names) :
    ∃ di, degreeInformation g k = .ok di ∧ DegOK g k di := by
  cases hd : g.specs.directed
  · exact ⟨_, LT.degreeInformation_undir g h k hnames hd, fun hd' => absurd (hd.symm.trans hd') Bool.false_ne_true,
      fun _ => ⟨LT.degList_total g _, by simp [LT.diUndir]⟩⟩
  · exact ⟨_, LT.degreeInformation_dir g h k hnames hd,
      fun _ => ⟨LT.degList_total g _, LT.degList_total g _, by simp [LT.diDir], by simp [LT.diDir]⟩,
      fun hd' => absurd (hd.symm.trans hd') Bool.noConfusion⟩

theorem DegOK.stotIdx {g : Store} {k : Nat} {di : DegInfo} (h : DegOK g k di) {c : Nat} (hc : c < k) :
    StotIdx g.specs.directed di c := by
  unfold StotIdx
  cases hd : g.specs.directed
  · exact (h.undir hd).2 ▸ hc
  · exact ⟨(h.dir hd).2.2.1 ▸ hc, (h.dir hd).2.2.2 ▸ hc⟩

theorem DegOK.visitDegs {g : Store} {k : Nat} {di : DegInfo} (h : DegOK g k di) {u : Nat} (hu : u ∈ g.names) :
    ∃ t, visitDegs g.specs.directed di u = some t := by
  unfold LF.visitDegs
  cases hd : g.specs.directed
  · obtain ⟨d, hd'⟩ := (h.undir hd).1 u hu
    exact ⟨_, by rw [hd']; rfl⟩
  · obtain ⟨i, hi⟩ := (h.dir hd).1 u hu
    obtain ⟨o, ho⟩ := (h.dir hd).2.1 u hu
    exact ⟨_, by rw [hi, ho]; rfl⟩

theorem visit_exists {lv : Level} {n k : Nat} (hg : GoodLevel lv n k) (hwf : lv.g.wf = true)
    (hm : lv.g.specs.multi = false) {st : LState} (hs : SInv lv k st) (hdeg : DegOK lv.g k st.di)
    (m res : Rat) (u : Nat) (hu : u ∈ lv.g.names) : ∃ st', visit lv m res st u = .ok st' := by
  obtain ⟨cur, hcur⟩ := hs.n2c_total u ((hg.names_iff u).1 hu)
  have hck : cur < k := (hs.n2c_lt u cur hcur).2
  obtain ⟨w2c, hw⟩ := neighborWeights_ok lv.g hwf hm u st.node2com
    fun x hx => hs.n2c_total x ((hg.names_iff x).1 hx)
  have hkeys : ∀ c ∈ w2c.map (·.1), c < k := fun c hc => by
    obtain ⟨v, hv⟩ := neighborWeights_keys hw c hc
    exact (hs.n2c_lt v c hv).2
  obtain ⟨t, ht⟩ := hdeg.visitDegs hu
  have hbk : visitBest lv.g.specs.directed m res st.di cur w2c t < k := by
    rcases visitBest_mem lv.g.specs.directed m res st.di cur w2c t with h | h
    · rw [h]; exact hck
    · exact hkeys _ h
  refine ⟨_, visit_eq_ok.2 ⟨cur, hcur, w2c, hw, visitWith_eq_ok.2 ⟨t, ht, hdeg.stotIdx hck,
    fun a ha => hdeg.stotIdx (hkeys _ (List.mem_map_of_mem ha)), hdeg.stotIdx hbk, fun _ => ⟨?_, ?_, ?_, ?_, ?_⟩, rfl⟩⟩⟩
  · exact (lv.g.hasNode_names hwf u).2 hu
  · exact hs.part_len ▸ hck
  · exact hs.inner_len ▸ hck
  · exact hs.part_len ▸ hbk
  · exact hs.inner_len ▸ hbk

theorem visit_degOK {lv : Level} {k : Nat} {m res : Rat} {st st' : LState} {u : Nat}
    (hv : visit lv m res st u = .ok st') (hdeg : DegOK lv.g k st.di) : DegOK lv.g k st'.di := by
  obtain ⟨_, _, _, _, _, _, h1, h2, h3, h4, h5, h6, _⟩ := visit_ok hv
  exact ⟨fun hd => by rw [h1, h2, h4, h5]; exact hdeg.dir hd, fun hd => by rw [h3, h6]; exact hdeg.undir hd⟩

theorem pass_exists {lv : Level} {n k : Nat} (hg : GoodLevel lv n k) (hwf : lv.g.wf = true)
    (hm : lv.g.specs.multi = false) (m res : Rat) (order : List Nat) (ho : ∀ u ∈ order, u ∈ lv.g.names)
    (st : LState) (hs : SInv lv k st) (hdeg : DegOK lv.g k st.di) :
    ∃ st', order.foldl (fun acc u => do let s ← acc; visit lv m res s u) (.ok st) = .ok st' ∧
      (SInv lv k st' ∧ DegOK lv.g k st'.di) := by
  refine foldl_ok_exists (fun s => SInv lv k s ∧ DegOK lv.g k s.di) _ order ?_ st ⟨hs, hdeg⟩
  intro a u hu ha
  obtain ⟨b, hb⟩ := visit_exists hg hwf hm ha.1 ha.2 m res u (ho u hu)
  exact ⟨b, by simpa [bind, Outcome.bind] using hb, ha.1.visit hg hb, visit_degOK hb ha.2⟩

theorem sweeps_exists {lv : Level} {n k : Nat} (hg : GoodLevel lv n k) (hwf : lv.g.wf = true)
    (hm : lv.g.specs.multi = false) (m res : Rat) (order : List Nat) (ho : ∀ u ∈ order, u ∈ lv.g.names) (fuel : Nat) :
    ∀ (st : LState), SInv lv k st → DegOK lv.g k st.di → ∃ r, sweeps lv m res order fuel st = .ok r := by
  induction fuel with
  | zero => intro st _ _; exact ⟨none, rfl⟩
  | succ fuel ih =>
    intro st hs hdeg
    obtain ⟨st1, h1, hs1, hd1⟩ := pass_exists hg hwf hm m res order ho { st with moves := 0 } hs.moves0 hdeg
    unfold sweeps
    simp only [bind, Outcome.bind] at h1 ⊢
    rw [h1]
    by_cases hmv : st1.moves > 0
    · simp only [hmv, if_true]; exact ih st1 hs1 hd1
    · simp only [hmv, if_false]; exact ⟨_, rfl⟩

theorem computeOneLevel_exists {lv : Level} {n k : Nat} (hg : GoodLevel lv n k) (hwf : lv.g.wf = true)
    (hm : lv.g.specs.multi = false) {partition : List (List Nat)} (hin : InputOK lv k partition)
    (m res : Rat) (perm : List Nat) (fuel : Nat) :
    ∃ r, computeOneLevel lv m res partition perm fuel = .ok r := by
  obtain ⟨di, hdi, hdeg⟩ := degreeInformation_ok lv.g hwf k fun x hx => (hg.names_iff x).2 hx
  rw [computeOneLevel_eq hg hin.len, hdi, Outcome.bind_ok]
  exact bind_exists (sweeps_exists hg hwf hm m res _ (fun _ => mem_order) fuel _ (SInv.init hin di) hdeg)
    fun _ => ⟨_, rfl⟩

/-- the loop of `modularity` that adds up the degrees of the nodes of a community -/
theorem degsum_ok {site : String} {D : List (Nat × Option Rat)} {names : List Nat} (ht : TotalOn D names) {comm : List Nat}
    (hc : ∀ x ∈ comm, x ∈ names) :
    ∃ r, comm.foldl (fun (a : Outcome (Option Rat)) n => a.bind fun t =>
      (Outcome.ofOption site (alookup D n)).bind fun d =>
        .ok (match t, d with | some x, some y => some (x + y) | _, _ => none)) (.ok (some 0)) = .ok r := by
  refine foldl_ok_exists₀ _ comm (fun t n hn => ?_) _
  obtain ⟨d, hd⟩ := ht n (hc n hn)
  exact bind_exists ⟨t, rfl⟩ fun _ => bind_exists ⟨d, ofOption_eq_ok.2 hd⟩ fun _ => ⟨_, rfl⟩

theorem modularity_ok (s : Store) (h : s.wf = true) (comms : List (List Nat)) (hp : s.isPartition comms = true)
    (hnames : ∀ c ∈ comms, ∀ x ∈ c, x ∈ s.names) (weighted : Bool) (res : Rat) :
    ∃ r, s.modularity comms weighted res = .ok r := by
  unfold Store.modularity
  rw [if_neg (by rw [hp]; exact Bool.false_ne_true)]
  refine bind_exists_of (P := fun a => TotalOn a.1 s.names ∧ TotalOn a.2.1 s.names) ?_ ?_
  · cases hd : s.specs.directed
    · rw [if_neg Bool.false_ne_true]
      cases weighted
      · rw [if_neg Bool.false_ne_true, C09M.degMap s h]
        exact ⟨_, rfl, (TotalOn.names_map s _).map_snd fun d : Nat => some (d : Rat),
          (TotalOn.names_map s _).map_snd fun d : Nat => some (d : Rat)⟩
      · rw [if_pos rfl, C12W.degMapW s h]
        exact ⟨_, rfl, (TotalOn.names_map s _).map_snd _, (TotalOn.names_map s _).map_snd _⟩
    · rw [if_pos rfl]
      cases weighted
      · rw [if_neg Bool.false_ne_true, if_neg Bool.false_ne_true, C09M.outDegMap s h hd, C09M.inDegMap s h hd]
        exact ⟨_, rfl, (TotalOn.names_map s _).map_snd fun d : Nat => some (d : Rat),
          (TotalOn.names_map s _).map_snd fun d : Nat => some (d : Rat)⟩
      · rw [if_pos rfl, if_pos rfl, C12W.outDegMapW s h hd, C12W.inDegMapW s h hd]
        exact ⟨_, rfl, (TotalOn.names_map s _).map_snd _, (TotalOn.names_map s _).map_snd _⟩
  · rintro ⟨outD, inD, m, norm⟩ ⟨t1, t2⟩
    refine bind_exists (foldl_ok_exists₀ _ comms (fun acc comm hcm => ?_) []) fun _ => ⟨_, rfl⟩
    obtain ⟨sub, hsub, _⟩ := Core_subgraph s h comm
    refine bind_exists ⟨acc, rfl⟩ fun _ => bind_exists ⟨sub, hsub⟩ fun _ =>
      bind_exists (degsum_ok t1 (hnames comm hcm)) fun outSum => bind_exists ?_ fun _ => ⟨_, rfl⟩
    split
    · exact degsum_ok t2 (hnames comm hcm)
    · exact ⟨outSum, rfl⟩

theorem isPartition_of_part {lv : Level} {n k : Nat} (hg : GoodLevel lv n k) (hwf : lv.g.wf = true)
    {inner : List (List Nat)} (hin : PartOfRange k inner) :
    lv.g.isPartition inner = true ∧ ∀ c ∈ inner, ∀ x ∈ c, x ∈ lv.g.names := by
  have hsub : ∀ c ∈ inner, ∀ x ∈ c, x ∈ lv.g.names := by
    intro c hc x hx
    exact (hg.names_iff x).2 ((hin.2.2 x).1 (List.mem_flatMap.2 ⟨c, hc, hx⟩))
  refine ⟨?_, hsub⟩
  rw [C12_is_partition_iff lv.g inner hg.names_nodup (fun x => lv.g.hasNode_names hwf x)
    (fun c hc => ((List.nodup_flatMap.1 hin.2.1).1 c hc))]
  refine ⟨hin.2.1, ?_, ?_⟩
  · intro x hx; exact (hg.names_iff x).2 ((hin.2.2 x).1 hx)
  · intro x hx; exact (hin.2.2 x).2 ((hg.names_iff x).1 hx)

theorem singletons_part (n : Nat) : PartOfRange n ((List.range n).map fun i => [i]) := by
  have hflat : ((List.range n).map fun i => [i]).flatMap id = List.range n := by
    induction n with
    | zero => rfl
    | succ n ih => simp [List.range_succ, List.flatMap_append, ih]
  refine ⟨?_, ?_, ?_⟩
  · intro c hc; rw [List.mem_map] at hc; obtain ⟨i, _, rfl⟩ := hc; simp
  · rw [hflat]; exact List.nodup_range
  · intro x; rw [hflat, List.mem_range]

end LF
end Graphrs
