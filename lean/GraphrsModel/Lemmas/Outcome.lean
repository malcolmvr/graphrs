/-
  `Outcome` as a calculus.  Inversion: what a `bind`, an `unwrap`, an `ofOption` that returned `.ok` went through.
  Progress: a `bind` returns `.ok` when its parts do.  Folds that thread an `Outcome` through a list: a non-`.ok`
  accumulator is never repaired (`foldl_ok_source`), invariants (`foldl_ok_inv`, `foldl_bind_inv`), progress
  (`foldl_ok_exists`), and the folds with a closed form (`foldl_ok_pure`, `foldl_ok_map`, `guardFold_eq_ok`).
-/
import GraphrsModel.Base
namespace Graphrs
namespace Outcome

theorem bind_ok {α β} (a : α) (f : α → Outcome β) : Outcome.bind (.ok a) f = f a := rfl

theorem ok_bind {α β} (a : α) (f : α → Outcome β) : (Outcome.ok a >>= f) = f a := rfl

theorem bind_eq_ok {α β} {o : Outcome α} {f : α → Outcome β} {b : β} :
    o.bind f = .ok b ↔ ∃ a, o = .ok a ∧ f a = .ok b := by
  cases o with
  | ok a => exact ⟨fun h => ⟨a, rfl, h⟩, fun ⟨_, h1, h2⟩ => by cases h1; exact h2⟩
  | err k => exact ⟨nofun, fun ⟨_, h1, _⟩ => nomatch h1⟩
  | panic k => exact ⟨nofun, fun ⟨_, h1, _⟩ => nomatch h1⟩

theorem bind_err {α β} (k : ErrKind) (f : α → Outcome β) : Outcome.bind (.err k) f = .err k := rfl

theorem bind_panic {α β} (site : String) (f : α → Outcome β) : Outcome.bind (.panic site) f = .panic site := rfl

theorem bind_spec {α β} {o : Outcome α} {f : α → Outcome β} {P : α → Prop} {Q : β → Prop}
    (ho : ∃ a, o = .ok a ∧ P a) (hf : ∀ a, P a → ∃ b, f a = .ok b ∧ Q b) : ∃ b, o.bind f = .ok b ∧ Q b := by
  obtain ⟨a, rfl, ha⟩ := ho
  exact hf a ha

theorem bind_exists_of {α β} {o : Outcome α} {f : α → Outcome β} {P : α → Prop}
    (ho : ∃ a, o = .ok a ∧ P a) (hf : ∀ a, P a → ∃ b, f a = .ok b) : ∃ b, o.bind f = .ok b := by
  obtain ⟨a, rfl, ha⟩ := ho
  exact hf a ha

theorem bind_exists {α β} {o : Outcome α} {f : α → Outcome β} (ho : ∃ a, o = .ok a) (hf : ∀ a, ∃ b, f a = .ok b) :
    ∃ b, o.bind f = .ok b := by
  obtain ⟨a, rfl⟩ := ho
  exact hf a

theorem ofOption_eq_ok {α} {site : String} {o : Option α} {a : α} :
    Outcome.ofOption site o = .ok a ↔ o = some a := by
  cases o with
  | none => exact ⟨nofun, nofun⟩
  | some x => exact ⟨fun h => by cases h; rfl, fun h => by cases h; rfl⟩

theorem unwrap_eq_ok {α} {site : String} {o : Outcome α} {a : α} : o.unwrap site = .ok a ↔ o = .ok a := by
  cases o with
  | ok x => exact Iff.rfl
  | err k => exact ⟨nofun, nofun⟩
  | panic k => exact ⟨nofun, nofun⟩

theorem map'_eq_ok {α β} {o : Outcome α} {f : α → β} {b : β} : o.map' f = .ok b ↔ ∃ a, o = .ok a ∧ f a = b := by
  cases o with
  | ok a => exact ⟨fun h => ⟨a, rfl, Outcome.ok.inj h⟩, fun ⟨_, h1, h2⟩ => by cases h1; exact congrArg Outcome.ok h2⟩
  | err k => exact ⟨nofun, fun ⟨_, h1, _⟩ => nomatch h1⟩
  | panic k => exact ⟨nofun, fun ⟨_, h1, _⟩ => nomatch h1⟩

theorem map'_toOption_eq_some {ε α : Type} {o : Outcome (Except ε α)} {a : α} :
    o.map' Except.toOption = .ok (some a) ↔ o = .ok (.ok a) := by
  constructor
  · intro h
    cases o with
    | err k => cases h
    | panic k => cases h
    | ok r =>
      cases r with
      | error e => cases h
      | ok b => cases h; rfl
  · intro h; rw [h]; rfl

theorem foldl_ok_source {α β : Type} (F : Outcome α → β → Outcome α)
    (hF : ∀ o x b, F o x = .ok b → ∃ a, o = .ok a) (l : List β) :
    ∀ (o : Outcome α) (r : α), l.foldl F o = .ok r → ∃ a, o = .ok a := by
  induction l with
  | nil => intro o r h; exact ⟨r, h⟩
  | cons x l ih =>
    intro o r h
    rw [List.foldl_cons] at h
    obtain ⟨b, hb⟩ := ih _ _ h
    exact hF o x b hb

theorem foldl_ok_inv {α β : Type} (P : α → Prop) (F : Outcome α → β → Outcome α)
    (hF' : ∀ o x b, F o x = .ok b → ∃ a, o = .ok a) (l : List β)
    (hF : ∀ a x b, x ∈ l → F (.ok a) x = .ok b → P a → P b) :
    ∀ (a0 r : α), l.foldl F (.ok a0) = .ok r → P a0 → P r := by
  induction l with
  | nil => intro a0 r h hp; simp only [List.foldl_nil] at h; cases h; exact hp
  | cons x l ih =>
    intro a0 r h hp
    rw [List.foldl_cons] at h
    obtain ⟨b, hb⟩ := foldl_ok_source F hF' l _ _ h
    rw [hb] at h
    exact ih (fun a y b' hy => hF a y b' (List.mem_cons_of_mem _ hy)) b r h (hF a0 x b (List.mem_cons_self) hb hp)

theorem foldl_bind_inv {α β : Type} (P : α → Prop) (f : α → β → Outcome α) (l : List β)
    (hf : ∀ a x b, x ∈ l → f a x = .ok b → P a → P b) {a0 r : α}
    (h : l.foldl (fun (acc : Outcome α) x => acc.bind (f · x)) (.ok a0) = .ok r) (h0 : P a0) : P r :=
  foldl_ok_inv P (fun acc x => acc.bind (f · x)) (fun _ _ _ hb => (bind_eq_ok.1 hb).imp fun _ h => h.1) l hf a0 r h h0

theorem foldl_ok_exists {α β : Type} (P : α → Prop) (F : Outcome α → β → Outcome α) (l : List β)
    (hF : ∀ a x, x ∈ l → P a → ∃ b, F (.ok a) x = .ok b ∧ P b) (a0 : α) (h0 : P a0) :
    ∃ r, l.foldl F (.ok a0) = .ok r ∧ P r := by
  induction l generalizing a0 with
  | nil => exact ⟨a0, rfl, h0⟩
  | cons x l ih =>
    obtain ⟨b, hb, hPb⟩ := hF a0 x List.mem_cons_self h0
    rw [List.foldl_cons, hb]
    exact ih (fun a y hy => hF a y (List.mem_cons_of_mem _ hy)) b hPb

theorem foldl_ok_exists₀ {α β : Type} (F : Outcome α → β → Outcome α) (l : List β)
    (hF : ∀ a x, x ∈ l → ∃ b, F (.ok a) x = .ok b) (a0 : α) : ∃ r, l.foldl F (.ok a0) = .ok r :=
  (foldl_ok_exists (fun _ => True) F l (fun a x hx _ => (hF a x hx).imp fun _ h => ⟨h, trivial⟩) a0 trivial).imp
    fun _ h => h.1

theorem foldl_ok_pure {α σ} (F : Outcome σ → α → Outcome σ) (step : σ → α → σ) (l : List α)
    (hF : ∀ acc x, x ∈ l → F (.ok acc) x = .ok (step acc x)) (acc : σ) :
    l.foldl F (.ok acc) = .ok (l.foldl step acc) := by
  induction l generalizing acc with
  | nil => rfl
  | cons a l ih =>
    rw [List.foldl_cons, hF acc a List.mem_cons_self, ih fun acc x hx => hF acc x (List.mem_cons_of_mem _ hx)]
    rfl

theorem foldl_ok_map {α β : Type} (F : Outcome (List β) → α → Outcome (List β)) (g : α → β) (l : List α)
    (hF : ∀ acc x, x ∈ l → F (.ok acc) x = .ok (acc ++ [g x])) (acc : List β) :
    l.foldl F (.ok acc) = .ok (acc ++ l.map g) := by
  induction l generalizing acc with
  | nil => simp
  | cons x l ih =>
    rw [List.foldl_cons, hF acc x List.mem_cons_self,
      ih (fun a y hy => hF a y (List.mem_cons_of_mem _ hy))]
    simp

theorem guardFold_eq_ok {β : Type} (g : β → Outcome Unit) (l : List β) {a : Unit} :
    l.foldl (fun (acc : Outcome Unit) x => acc.bind fun _ => g x) (.ok ()) = .ok a ↔ ∀ x ∈ l, g x = .ok () := by
  induction l with
  | nil => simp
  | cons x l ih =>
    rw [List.foldl_cons, List.forall_mem_cons, bind_ok]
    by_cases hx : g x = .ok ()
    · rw [hx]
      exact ih.trans (and_iff_right rfl).symm
    · refine ⟨fun h => ?_, fun h => absurd h.1 hx⟩
      obtain ⟨_, h1⟩ := foldl_ok_source _ (fun _ _ _ hb => (bind_eq_ok.1 hb).imp fun _ h => h.1) l _ _ h
      exact absurd h1 hx

theorem foldl_bind_cons {α β : Type} {f : α → β → Outcome α} {x : β} {l : List β} {a r : α} :
    (x :: l).foldl (fun (acc : Outcome α) x => acc.bind (f · x)) (.ok a) = .ok r ↔
      ∃ b, f a x = .ok b ∧ l.foldl (fun (acc : Outcome α) x => acc.bind (f · x)) (.ok b) = .ok r := by
  rw [List.foldl_cons, bind_ok]
  refine ⟨fun h => ?_, fun ⟨b, hb, h⟩ => hb ▸ h⟩
  obtain ⟨b, hb⟩ := foldl_ok_source _ (fun _ _ _ hb => (bind_eq_ok.1 hb).imp fun _ h => h.1) l _ _ h
  exact ⟨b, hb, hb ▸ h⟩

end Outcome
end Graphrs
