/-
  The calculus of the no-panic theorems (C20): `isPanic = false` through `ok` / `err`, `bind`, `map'`, `unwrap` and
  through `Outcome`-valued folds (with an invariant on the accumulator).
-/
import GraphrsModel.Base
namespace Graphrs
namespace C20B

theorem np_ok {α} (a : α) : (Outcome.ok a).isPanic = false := rfl
theorem np_err {α} (k : ErrKind) : (Outcome.err k : Outcome α).isPanic = false := rfl

theorem np_of_ok {α} {o : Outcome α} (h : ∃ v, o = .ok v) : o.isPanic = false := by
  obtain ⟨v, rfl⟩ := h; rfl

theorem np_of_eq_ok {α} {o : Outcome α} {v : α} (h : o = .ok v) : o.isPanic = false := by
  subst h; rfl

theorem np_of_eq_err {α} {o : Outcome α} {k : ErrKind} (h : o = .err k) : o.isPanic = false := by
  subst h; rfl

theorem np_bind {α β} {x : Outcome α} {f : α → Outcome β} (hx : x.isPanic = false)
    (hf : ∀ a, x = .ok a → (f a).isPanic = false) : (x >>= f).isPanic = false := by
  cases x with
  | ok a => exact hf a rfl
  | err k => rfl
  | panic s => cases hx

theorem np_bind' {α β} {x : Outcome α} {f : α → Outcome β} (hx : x.isPanic = false)
    (hf : ∀ a, x = .ok a → (f a).isPanic = false) : (Outcome.bind x f).isPanic = false :=
  np_bind hx hf

theorem np_foldl {α β} (l : List α) (step : Outcome β → α → Outcome β) (P : β → Prop)
    (hstep : ∀ b a, a ∈ l → P b → (step (.ok b) a).isPanic = false ∧ ∀ b', step (.ok b) a = .ok b' → P b')
    (herr : ∀ k a, step (.err k) a = .err k) (init : Outcome β)
    (hinit : init.isPanic = false ∧ ∀ b, init = .ok b → P b) :
    (l.foldl step init).isPanic = false ∧ ∀ b', l.foldl step init = .ok b' → P b' := by
  induction l generalizing init with
  | nil => exact hinit
  | cons a l ih =>
    rw [List.foldl_cons]
    apply ih (fun b a' ha' => hstep b a' (List.mem_cons_of_mem _ ha'))
    cases init with
    | ok b => exact hstep b a (by simp) (hinit.2 b rfl)
    | err k => rw [herr]; exact ⟨rfl, fun b h => by cases h⟩
    | panic s => exact absurd hinit.1 (by simp [Outcome.isPanic])

theorem np_foldl' {α β} (l : List α) (step : Outcome β → α → Outcome β)
    (hstep : ∀ b a, a ∈ l → (step (.ok b) a).isPanic = false)
    (herr : ∀ k a, step (.err k) a = .err k) (b0 : β) :
    (l.foldl step (.ok b0)).isPanic = false :=
  (np_foldl l step (fun _ => True) (fun b a ha _ => ⟨hstep b a ha, fun _ _ => trivial⟩) herr (.ok b0)
    ⟨rfl, fun _ _ => trivial⟩).1

theorem np_map' {α β} (f : α → β) {x : Outcome α} (hx : x.isPanic = false) : (x.map' f).isPanic = false := by
  cases x with
  | ok a => rfl
  | err k => rfl
  | panic s => cases hx

theorem unwrap_ok {α} (site : String) {x : Outcome α} {a : α} (h : x = .ok a) : x.unwrap site = .ok a := by
  subst h; rfl

end C20B
end Graphrs
