/-
  Two invariants of `dijkstraLoop`, for every target / cutoff and non-negative costs:
  * every finalised distance is exact at all times (also when the loop stops early at the target);
  * with `first_only = true` every node that has been seen stores exactly one path.
-/
import GraphrsModel.Lemmas.DijkstraPaths
import GraphrsModel.Lemmas.DijkstraRun
namespace Graphrs

variable {A : Arcs} {src n : Nat} {weighted : Bool} {cut : Option Int} {target : Option Nat} {v : Nat} {d : Int}
  {pend : Arcs} {st st' : DState} {u : Nat} {c : Int}

/-- finalised distances are exact; under a negative cutoff every fringe key is at most 0 (only the source is ever
    pushed) -/
def EInv (A : Arcs) (src : Nat) (cut : Option Int) (st : DState) : Prop :=
  (∀ v d, lk st.dist v = some d → IsDist A src v d) ∧ (overCutoff cut 0 = true → ∀ e ∈ st.fringe, e.1 ≤ 0)

namespace EInv

/-- a push over an arc within the cutoff: under a negative cutoff there is none -/
theorem push (hA : ArcsWf A n)
    (R : RowInv A src n cut v d ((v, u, c) :: pend) st.dist st.seen st.fringe) (E : EInv A src cut st)
    (ho : overCutoff cut (d + c) = false) (hd : st'.dist = st.dist) : EInv A src cut st' := by
  refine ⟨hd ▸ E.1, fun h0 => ?_⟩
  have hd0 : 0 ≤ d := Walk.nonneg (fun a ha => (hA a ha).2) (R.distWalk v d R.hv)
  have hc0 : 0 ≤ c := (hA _ (R.pendA _ (List.mem_cons_self ..))).2
  rw [overCutoff_mono ho (by omega : (0 : Int) ≤ d + c)] at h0
  cases h0

theorem init (A : Arcs) (src n : Nat) (cut : Option Int) (withPaths : Bool) :
    EInv A src cut (DState.start n src withPaths) := by
  refine ⟨fun v d hd => ?_, fun _ e he => ?_⟩
  · rw [show (DState.start n src withPaths).dist = List.replicate n none from rfl, lk_replicate_none] at hd
    cases hd
  · rw [List.mem_singleton.1 he]
    exact Int.le_refl 0

end EInv

theorem dijkstraLoop_exact {firstOnly withPaths : Bool} (rows : List (List Adj)) (hA : ArcsWf A n) (hrows : RowsOk A weighted rows)
    (fuel : Nat) (st st' : DState)
    (I : Inv A src n cut [] st.dist st.seen st.fringe) (E : EInv A src cut st)
    (hm : st.fringe.length + pendFrom rows 0 st.dist < fuel)
    (h : dijkstraLoop (fun v => rows[v]?.getD []) weighted target cut firstOnly withPaths fuel st = .ok st') :
    EInv A src cut st' := by
  have hnn : ∀ a ∈ A, 0 ≤ a.2.2 := fun a ha => (hA a ha).2
  have henter : ∀ (st : DState) (d : Int) (cnt v : Nat), Inv A src n cut [] st.dist st.seen st.fringe → EInv A src cut st →
      (d, cnt, v) ∈ st.fringe → (∀ e ∈ st.fringe, d ≤ e.1) → lk st.dist v = none →
      EInv A src cut { st with fringe := st.fringe.erase (d, cnt, v), dist := st.dist.set v (some d) } := by
    -- within the cutoff every walk to `v` is bounded below by a fringe entry (`Inv.lower_bound`), and `d` is the
    -- fringe minimum
    intro st d cnt v I J hmem hmin hv
    refine ⟨?_, fun h0 e he => J.2 h0 e (List.mem_of_mem_erase he)⟩
    intro v' dv' hd
    by_cases e : v = v'
    · subst e
      rw [lk_set_self _ _ _ (by rw [I.ldist]; exact I.frLt _ hmem)] at hd
      cases hd
      refine ⟨I.frWalk _ hmem, fun c hw => ?_⟩
      cases hc : overCutoff cut c with
      | false =>
        rcases I.lower_bound hA v c hw hc with ⟨x, hx, _⟩ | ⟨e, he, hle⟩
        · rw [hv] at hx; cases hx
        · exact Int.le_trans (hmin e he) hle
      | true =>
        cases h0 : overCutoff cut 0 with
        | false =>
          have h1 := I.frCut h0 (d, cnt, v) hmem
          refine Int.not_lt.1 fun hlt => ?_
          rw [overCutoff_mono h1 (Int.le_of_lt hlt)] at hc
          cases hc
        | true => exact Int.le_trans (J.2 h0 _ hmem) (Walk.nonneg hnn hw)
    · rw [lk_set_ne _ _ _ _ e] at hd
      exact J.1 v' dv' hd
  obtain ⟨st'', _, e, _, _, hJ⟩ := dijkstraLoop_run (target := target) rows hA hrows
    (fun st => EInv A src cut st) (fun _ _ _ st => EInv A src cut st)
    (fun st b J => ⟨J.1, fun h0 e he => J.2 h0 e (List.mem_of_mem_erase he)⟩)
    henter
    (fun v d => ⟨fun _ J _ => J, fun R J ho _ _ => J.push hA R ho rfl, fun R J ho _ _ _ => J.push hA R ho rfl⟩)
    (fun v d st _ J => J) fuel st I E hm
  cases e.symm.trans h
  rcases hJ with hJ | ⟨st0, d, cnt, v, _, I0, E0, hmem, hmin, hd, rfl⟩
  · exact hJ
  · exact henter st0 d cnt v I0 E0 hmem hmin hd

def FInv (n : Nat) (st : DState) : Prop :=
  st.paths.length = n ∧ ∀ u k, lk st.seen u = some k → ∃ p, pth st.paths u = [p]

namespace FInv

theorem init (hsrc : src < n) : FInv n (DState.start n src true) := by
  refine ⟨(List.length_set ..).trans List.length_replicate, fun u k hk => ?_⟩
  by_cases e : src = u
  · subst e
    exact ⟨[src], pth_set_self _ (List.length_replicate.symm ▸ hsrc)⟩
  · rw [show (DState.start n src true).seen = (List.replicate n none).set src (some 0) from rfl,
      lk_set_ne _ _ _ _ e, lk_replicate_none] at hk
    cases hk

theorem push_lt (hA : ArcsWf A n)
    (R : RowInv A src n cut v d ((v, u, c) :: pend) st.dist st.seen st.fringe) (F : FInv n st) :
    FInv n (pushLt true v u (d + c) st) := by
  have hun : u < n := (hA _ (R.pendA _ (List.mem_cons_self ..))).1
  obtain ⟨pv, hpv⟩ := F.2 v d (R.distSeen v d R.hv)
  refine ⟨(List.length_set ..).trans F.1, fun x k hk => ?_⟩
  by_cases hx : u = x
  · subst hx
    refine ⟨pv ++ [u], ?_⟩
    rw [pushLt, if_pos rfl, pth_set_self _ (F.1.symm ▸ hun)]
    show (pth st.paths v).map (· ++ [u]) = _
    rw [hpv]
    rfl
  · rw [pushLt, if_pos rfl, pth_set_ne _ hx]
    exact F.2 x k ((lk_set_ne _ _ _ _ hx).symm.trans hk)

end FInv

theorem dijkstraLoop_first (rows : List (List Adj)) (hA : ArcsWf A n) (hrows : RowsOk A weighted rows)
    (fuel : Nat) (st st' : DState)
    (I : Inv A src n cut [] st.dist st.seen st.fringe) (F : FInv n st)
    (hm : st.fringe.length + pendFrom rows 0 st.dist < fuel)
    (h : dijkstraLoop (fun v => rows[v]?.getD []) weighted target cut true true fuel st = .ok st') :
    FInv n st' := by
  obtain ⟨st'', _, e, _, _, hJ⟩ := dijkstraLoop_run (target := target) (firstOnly := true) (withPaths := true) rows hA hrows
    (fun st => FInv n st) (fun _ _ _ st => FInv n st)
    (fun st b J => J) (fun st d cnt v _ J _ _ _ => J)
    (fun v d => ⟨fun _ J _ => J, fun R J _ _ _ => J.push_lt hA R, fun _ _ _ _ _ hf => (nomatch hf)⟩)
    (fun v d st _ J => J) fuel st I F hm
  cases e.symm.trans h
  rcases hJ with hJ | ⟨st0, _, _, _, _, _, F0, _, _, _, rfl⟩
  · exact hJ
  · exact F0

end Graphrs
