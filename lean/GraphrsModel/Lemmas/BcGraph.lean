/-
  Graph facts for C05 (Brandes; namespace `Bc`) over strictly positive costs, with unit costs (hop counts) as the special case: distances over
  `Walk`/`IsDist`, the pigeonhole bound on the number of arcs of a shortest walk, and exactness of the specification's
  Bellman-Ford labelling `Arcs.distFrom` once the number of rounds reaches the number of nodes.
-/
import GraphrsModel.Spec.Walk
import GraphrsModel.Lemmas.C04Aux
import GraphrsModel.Lemmas.DijkstraInv
import GraphrsModel.Lemmas.C06BellmanFord
import Mathlib.Data.List.Perm.Subperm
import Mathlib.Data.Nat.Find
namespace Graphrs
namespace Bc

/-- every arc costs 1 (hop counts) -/
def UnitArcs (A : Arcs) : Prop := ∀ a ∈ A, a.2.2 = 1

def PosArcs (A : Arcs) : Prop := ∀ a ∈ A, 0 < a.2.2

theorem UnitArcs.pos {A : Arcs} (h : UnitArcs A) : PosArcs A := by
  intro a ha; rw [h a ha]; exact Int.one_pos

theorem PosArcs.nonneg {A : Arcs} (h : PosArcs A) : ∀ a ∈ A, 0 ≤ a.2.2 := fun a ha => Int.le_of_lt (h a ha)

theorem nodup_snoc {α} {l : List α} {x : α} (hl : l.Nodup) (hx : x ∉ l) : (l ++ [x]).Nodup :=
  List.nodup_append.2 ⟨hl, List.pairwise_singleton _ _, fun _ ha _ hb e => hx (List.mem_singleton.1 hb ▸ e ▸ ha)⟩

theorem isDist_unique {A : Arcs} {s t : Nat} {d d' : Int} (h : IsDist A s t d) (h' : IsDist A s t d') : d = d' :=
  Int.le_antisymm (h.2 d' h'.1) (h'.2 d h.1)

theorem isDist_arc_le {A : Arcs} {s u v : Nat} {du dv w : Int} (hu : IsDist A s u du) (ha : (u, v, w) ∈ A)
    (hv : IsDist A s v dv) : dv ≤ du + w :=
  hv.2 _ (Walk.snoc hu.1 ha)

theorem walk_nonneg_pos {A : Arcs} (hP : PosArcs A) {s t : Nat} {c : Int} (h : Walk A s t c) : 0 ≤ c :=
  Walk.nonneg hP.nonneg h

theorem isDist_source_pos {A : Arcs} (hP : PosArcs A) (s : Nat) : IsDist A s s 0 :=
  ⟨Walk.nil s, fun _ hw => walk_nonneg_pos hP hw⟩

theorem isDist_nonneg_pos {A : Arcs} (hP : PosArcs A) {s t : Nat} {d : Int} (h : IsDist A s t d) : 0 ≤ d :=
  walk_nonneg_pos hP h.1

theorem walk_zero_pos {A : Arcs} (hP : PosArcs A) {s t : Nat} {c : Int} (h : Walk A s t c) (hc : c ≤ 0) : t = s := by
  cases h with
  | nil => rfl
  | snoc hw ha => exact absurd hc (Int.not_le.2 (Int.add_pos_of_nonneg_of_pos (walk_nonneg_pos hP hw) (hP _ ha)))

/-- the walk costs from `s` to `t` are natural numbers: there is a least one -/
theorem isDist_exists_pos {A : Arcs} (hP : PosArcs A) {s t : Nat} (h : Reachable A s t) : ∃ d, IsDist A s t d := by
  classical
  have hex : ∃ k : Nat, Walk A s t k := by
    obtain ⟨c, hc⟩ := h
    exact ⟨c.toNat, by rwa [Int.toNat_of_nonneg (walk_nonneg_pos hP hc)]⟩
  refine ⟨Nat.find hex, Nat.find_spec hex, fun c hc => ?_⟩
  have h0 := walk_nonneg_pos hP hc
  have := Nat.find_min' hex (m := c.toNat) (by rwa [Int.toNat_of_nonneg h0])
  omega

inductive WalkN (A : Arcs) : Nat → Nat → Nat → Int → Prop
  | nil (s : Nat) : WalkN A s s 0 0
  | snoc {s u v k : Nat} {c w : Int} : WalkN A s u k c → (u, v, w) ∈ A → WalkN A s v (k + 1) (c + w)

/-- `WalkN` is `C06B.WalkK` (Lemmas/C06BellmanFord.lean) with the arc count before the cost -/
theorem walkN_iff_walkK {A : Arcs} {s t k : Nat} {c : Int} : WalkN A s t k c ↔ C06B.WalkK A s t c k := by
  constructor
  · intro h
    induction h with
    | nil => exact C06B.WalkK.nil _
    | snoc _ ha ih => exact C06B.WalkK.snoc ih ha
  · intro h
    induction h with
    | nil => exact WalkN.nil _
    | snoc _ ha ih => exact WalkN.snoc ih ha

theorem WalkN.walk {A : Arcs} {s t k : Nat} {c : Int} (h : WalkN A s t k c) : Walk A s t c := by
  exact (walkN_iff_walkK.1 h).toWalk

theorem WalkN.of_walk {A : Arcs} {s t : Nat} {c : Int} (h : Walk A s t c) : ∃ k, WalkN A s t k c := by
  induction h with
  | nil => exact ⟨0, WalkN.nil _⟩
  | snoc _ ha ih => exact ih.elim fun k hk => ⟨k + 1, WalkN.snoc hk ha⟩

theorem WalkN.cost_unit {A : Arcs} (hU : UnitArcs A) {s t k : Nat} {c : Int} (h : WalkN A s t k c) : c = k := by
  induction h with
  | nil => rfl
  | @snoc u v k c w _ ha ih =>
    have hw : w = 1 := hU _ ha
    rw [ih, hw, Int.natCast_succ]

/-- a shortest walk visits pairwise distinct nodes (each is reached at a strictly smaller cost than the next): it has fewer
    arcs than there are nodes -/
theorem WalkN.lt_nodes {A : Arcs} (hP : PosArcs A) {s : Nat} (nodes : List Nat) (hs : s ∈ nodes)
    (hA : ∀ a ∈ A, a.2.1 ∈ nodes) {t k : Nat} {c : Int} (h : WalkN A s t k c) (hmin : ∀ c', Walk A s t c' → c ≤ c') :
    k < nodes.length := by
  have key : ∃ l : List Nat, l.length = k + 1 ∧ l.Nodup ∧ ∀ x ∈ l, x ∈ nodes ∧ ∃ cx, cx ≤ c ∧ Walk A s x cx := by
    induction h with
    | nil => exact ⟨[_], rfl, List.pairwise_singleton _ _, fun x hx => by
        rw [List.mem_singleton.1 hx]; exact ⟨hs, 0, Int.le_refl _, Walk.nil _⟩⟩
    | @snoc u v k c w hw ha ih =>
      have hw0 : 0 < w := hP _ ha
      obtain ⟨l, hlen, hnd, hl⟩ := ih (fun c' hc' => Int.le_of_add_le_add_right (hmin _ (Walk.snoc hc' ha)))
      refine ⟨v :: l, by rw [List.length_cons, hlen], List.nodup_cons.2 ⟨fun hv => ?_, hnd⟩, fun x hx => ?_⟩
      · obtain ⟨_, cx, hle, hcx⟩ := hl v hv
        have := hmin cx hcx
        omega
      · rcases List.mem_cons.1 hx with rfl | hx
        · exact ⟨hA _ ha, c + w, Int.le_refl _, Walk.snoc hw.walk ha⟩
        · obtain ⟨hn, cx, hle, hcx⟩ := hl x hx
          exact ⟨hn, cx, by omega, hcx⟩
  obtain ⟨l, hlen, hnd, hl⟩ := key
  have := (List.subperm_of_subset hnd fun x hx => (hl x hx).1).length_le
  omega

theorem isDist_walkN_lt {A : Arcs} (hP : PosArcs A) {s : Nat} (nodes : List Nat) (hs : s ∈ nodes)
    (hA : ∀ a ∈ A, a.2.1 ∈ nodes) {t : Nat} {d : Int} (h : IsDist A s t d) :
    ∃ j, j < nodes.length ∧ WalkN A s t j d := by
  obtain ⟨j, hj⟩ := WalkN.of_walk h.1
  exact ⟨j, hj.lt_nodes hP nodes hs hA h.2, hj⟩

theorem isDist_lt_nodes {A : Arcs} (hU : UnitArcs A) {s : Nat} (nodes : List Nat) (hs : s ∈ nodes)
    (hA : ∀ a ∈ A, a.2.1 ∈ nodes) {t : Nat} {d : Int} (h : IsDist A s t d) : d < (nodes.length : Int) := by
  obtain ⟨j, hj, hw⟩ := isDist_walkN_lt hU.pos nodes hs hA h
  rw [hw.cost_unit hU]
  exact Int.ofNat_lt.2 hj

/-- **the specification's distance labelling is exact** for strictly positive costs, once the number of rounds reaches the
    number of nodes -/
theorem distFrom_exact_pos {A : Arcs} (hP : PosArcs A) (s : Nat) (nodes : List Nat) (hs : s ∈ nodes)
    (hA : ∀ a ∈ A, a.2.1 ∈ nodes) (rounds : Nat) (hr : nodes.length ≤ rounds) :
    ∀ v x, alookup (Arcs.distFrom A rounds s) v = some x ↔ IsDist A s v x := by
  refine C06T.isDist_iff_of_lower (lab := fun v x => alookup (Arcs.distFrom A rounds s) v = some x)
    (fun _ _ _ ha hb => Option.some.inj (ha.symm.trans hb)) (distFrom_witnessed A rounds s) fun v c hc => ?_
  obtain ⟨d, hd⟩ := isDist_exists_pos hP ⟨c, hc⟩
  obtain ⟨j, hj, hwk⟩ := isDist_walkN_lt hP nodes hs hA hd
  obtain ⟨x, hx, hle⟩ := C06B.distFrom_le_walkK A s rounds j v d (by omega) (walkN_iff_walkK.1 hwk)
  exact ⟨x, hx, Int.le_trans hle (hd.2 c hc)⟩

theorem distFrom_none_pos {A : Arcs} (hP : PosArcs A) (s : Nat) (nodes : List Nat) (hs : s ∈ nodes)
    (hA : ∀ a ∈ A, a.2.1 ∈ nodes) (rounds : Nat) (hr : nodes.length ≤ rounds) (v : Nat) :
    alookup (Arcs.distFrom A rounds s) v = none ↔ ¬ Reachable A s v := by
  constructor
  · intro h hr'
    obtain ⟨d, hd⟩ := isDist_exists_pos hP hr'
    rw [(distFrom_exact_pos hP s nodes hs hA rounds hr v d).2 hd] at h
    cases h
  · intro h
    cases hv : alookup (Arcs.distFrom A rounds s) v with
    | none => rfl
    | some x => exact absurd ⟨x, distFrom_witnessed A rounds s v x hv⟩ h

theorem distFrom_none {A : Arcs} (hU : UnitArcs A) (s : Nat) (nodes : List Nat) (hs : s ∈ nodes)
    (hA : ∀ a ∈ A, a.2.1 ∈ nodes) (rounds : Nat) (hr : nodes.length ≤ rounds) (v : Nat) :
    alookup (Arcs.distFrom A rounds s) v = none ↔ ¬ Reachable A s v :=
  distFrom_none_pos hU.pos s nodes hs hA rounds hr v

end Bc
end Graphrs
