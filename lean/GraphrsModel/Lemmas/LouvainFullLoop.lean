/-
  The level loop of Louvain never runs out of fuel.

  A node only ever moves into the community of one of its neighbours (a key of `weights2com`), that is into a
  non-empty community: an empty community stays empty.  The first move of a level leaves the singleton community of
  the moved node empty.  Hence a call of `compute_one_level` that reports an improvement returns strictly fewer
  communities than its graph has nodes, and `generate_graph` builds the next level graph with one node per community:
  every continuing iteration of `levelLoop` shrinks the graph, and a level fuel of `inner.length + 2` suffices.  With a
  sweep fuel of `k^k + 1` no level runs out of sweep fuel either (`C13_computeOneLevel_terminates` of Props/C13Termination.lean, the one property this file builds on).
-/
import GraphrsModel.Lemmas.LouvainFullDefs
import GraphrsModel.Lemmas.LouvainFullEdges
import GraphrsModel.Lemmas.LouvainSweep
import GraphrsModel.Lemmas.LouvainNoPanic
import GraphrsModel.Props.C13Termination
namespace Graphrs
open LouvainFull
namespace LF

/-! ### an unused community id -/

/-- `improvement = false`: nobody has moved, every node is in its own community; `improvement = true`: some
    community id `< k` is unused -/
structure JInv (k : Nat) (st : LState) : Prop where
  ident : st.improvement = false → ∀ x c, alookup st.node2com x = some c → c = x
  empty : st.improvement = true → ∃ c, c < k ∧ ∀ x, alookup st.node2com x ≠ some c

theorem JInv.visit {lv : Level} {k : Nat} {st st' : LState} {m res : Rat} {u : Nat}
    (hs : SInv lv k st) (hj : JInv k st) (hv : LouvainFull.visit lv m res st u = .ok st') : JInv k st' := by
  obtain ⟨cur, w2c, best, hcur, hw, hbest, -, -, -, -, -, -, hcase⟩ := visit_ok hv
  rcases hcase with ⟨hne, hst⟩ | ⟨-, hst⟩
  · have himp : st'.improvement = true := by rw [hst]; rfl
    have hn2c : st'.node2com = ainsert st.node2com u best := by rw [hst]; rfl
    have hbk : best ∈ w2c.map (·.1) := by
      rcases hbest with h1 | h1
      · exact absurd h1 hne
      · exact h1
    obtain ⟨v, hv2⟩ := neighborWeights_keys hw best hbk
    refine ⟨fun h => (by rw [himp] at h; cases h), fun _ => ?_⟩
    by_cases hi : st.improvement = true
    -- somebody moved before: the unused id stays unused, `best` being the community of a neighbour `v`
    · obtain ⟨c, hc, hempty⟩ := hj.empty hi
      refine ⟨c, hc, ?_⟩
      intro x hx
      rw [hn2c, AL.lookup_insert] at hx
      by_cases hux : u = x
      · rw [if_pos hux] at hx
        cases hx
        exact hempty v hv2
      · rw [if_neg hux] at hx
        exact hempty x hx
    -- first move: `u` leaves its own singleton, whose id becomes the unused one
    · have hi' : st.improvement = false := by simpa using hi
      have hcu : cur = u := hj.ident hi' u cur hcur
      refine ⟨u, (hs.n2c_lt u cur hcur).1, ?_⟩
      intro x hx
      rw [hn2c, AL.lookup_insert] at hx
      by_cases hux : u = x
      · rw [if_pos hux] at hx
        cases hx
        exact hne hcu.symm
      · rw [if_neg hux] at hx
        exact hux (hj.ident hi' x u hx)
  · have himp : st'.improvement = st.improvement := by rw [hst]
    have hn2c : st'.node2com = st.node2com := by rw [hst]
    exact ⟨fun h => (by rw [hn2c]; exact hj.ident (by rw [← himp]; exact h)),
      fun h => (by rw [hn2c]; exact hj.empty (by rw [← himp]; exact h))⟩

theorem JInv.pass {lv : Level} {n k : Nat} {m res : Rat} (hg : GoodLevel lv n k) (order : List Nat) (st st' : LState)
    (hs : SInv lv k st) (hj : JInv k st)
    (hf : order.foldl (fun acc u => do let s ← acc; LouvainFull.visit lv m res s u) (.ok st) = .ok st') :
    SInv lv k st' ∧ JInv k st' :=
  Outcome.foldl_bind_inv (fun a => SInv lv k a ∧ JInv k a) (fun s u => LouvainFull.visit lv m res s u) order
    (fun _ _ _ _ hb ha => ⟨ha.1.visit hg hb, ha.2.visit ha.1 hb⟩) hf ⟨hs, hj⟩

theorem JInv.sweeps {lv : Level} {n k : Nat} {m res : Rat} (hg : GoodLevel lv n k) (order : List Nat) (fuel : Nat) :
    ∀ (st st' : LState), SInv lv k st → JInv k st → LouvainFull.sweeps lv m res order fuel st = .ok (some st') →
      SInv lv k st' ∧ JInv k st' :=
  fun st st' hs hj h =>
    sweeps_inv (fun a => SInv lv k a ∧ JInv k a) (fun _ hp => ⟨hp.1.congr rfl rfl rfl, hp.2.ident, hp.2.empty⟩)
      (fun a b hp hf => JInv.pass hg order a b hp.1 hp.2 hf) fuel st st' ⟨hs, hj⟩ h

theorem JInv.init (k : Nat) (partition : List (List Nat)) (di : DegInfo) :
    JInv k (LT.initState partition k di) := by
  refine ⟨fun _ x c hx => ?_, fun h => (by cases h)⟩
  rw [LT.initState, C09M.alookup_map_self] at hx
  split at hx
  · cases hx; rfl
  · cases hx

/-- the non-empty communities of a state in which some community id is unused are fewer than the nodes -/
theorem SInv.filter_lt {lv : Level} {k : Nat} {st : LState} (hs : SInv lv k st) (hj : JInv k st)
    (hi : st.improvement = true) : (st.inner.filter (!·.isEmpty)).length < k := by
  obtain ⟨c, hc, hempty⟩ := hj.empty hi
  have hcl : c < st.inner.length := by rw [hs.inner_len]; exact hc
  have hnil : st.inner[c] = [] := by
    rw [List.eq_nil_iff_forall_not_mem]
    intro x hx
    rw [getElem_eq_getD _ c hcl] at hx
    exact hempty x ((hs.inner_iff c x).1 hx)
  have := List.length_filter_lt_length_iff_exists (p := fun (l : List Nat) => !l.isEmpty) (l := st.inner)
  rw [hs.inner_len] at this
  rw [this]
  exact ⟨st.inner[c], List.getElem_mem hcl, by rw [hnil]; simp⟩

theorem SInv.filter_le {lv : Level} {k : Nat} {st : LState} (hs : SInv lv k st) :
    (st.inner.filter (!·.isEmpty)).length ≤ k := by
  have := List.length_filter_le (fun (l : List Nat) => !l.isEmpty) st.inner
  rw [hs.inner_len] at this
  exact this

/-! ### one level on a good level graph -/

theorem computeOneLevelW_good {lv : Level} {n k : Nat} (hg : GoodLevel lv n k) {partition : List (List Nat)}
    (hin : InputOK lv k partition) (m res : Rat) (perm : List Nat) (fuel : Nat) :
    computeOneLevelW lv m res partition perm fuel =
      (degreeInformation lv.g k).bind fun di =>
        (sweeps lv m res (perm.filterMap fun i => lv.g.getAllNodeNames[i]?) fuel (LT.initState partition k di)).map'
          levelResult := by
  rw [computeOneLevelW_eq, sortNat_eq_range hg.names_nodup hg.names_iff, hin.len]
  rfl

/-- a result `.ok r` of `computeOneLevelW` comes from a result of `sweeps` on the initial state -/
theorem computeOneLevelW_ok {lv : Level} {n k : Nat} (hg : GoodLevel lv n k) {partition : List (List Nat)}
    (hin : InputOK lv k partition) {m res : Rat} {perm : List Nat} {fuel : Nat}
    {r : Except Stop (List (List Nat) × List (List Nat) × Bool)}
    (h : computeOneLevelW lv m res partition perm fuel = .ok r) :
    ∃ di o, degreeInformation lv.g k = .ok di ∧
      sweeps lv m res (perm.filterMap fun i => lv.g.getAllNodeNames[i]?) fuel (LT.initState partition k di) = .ok o ∧
      r = levelResult o := by
  rw [computeOneLevelW_good hg hin] at h
  obtain ⟨di, hdi, h⟩ := Outcome.bind_eq_ok.1 h
  obtain ⟨o, hsw, hr⟩ := Outcome.map'_eq_ok.1 h
  exact ⟨di, o, hdi, hsw, hr.symm⟩

/-- **a level that reports an improvement returns fewer communities than it has nodes** -/
theorem computeOneLevelW_count {lv : Level} {n k : Nat} (hg : GoodLevel lv n k) {partition : List (List Nat)}
    (hin : InputOK lv k partition) {m res : Rat} {perm : List Nat} {fuel : Nat}
    {p i : List (List Nat)} {imp : Bool}
    (h : computeOneLevelW lv m res partition perm fuel = .ok (.ok (p, i, imp))) :
    i.length ≤ k ∧ (imp = true → i.length < k) := by
  obtain ⟨di, o, -, hsw, hr⟩ := computeOneLevelW_ok hg hin h
  obtain ⟨st, rfl, -, hst⟩ := levelResult_ok hr.symm
  cases hst
  obtain ⟨hs, hj⟩ := JInv.sweeps hg _ fuel _ st (SInv.init hin di) (JInv.init k partition di) hsw
  exact ⟨hs.filter_le, fun hi => hs.filter_lt hj hi⟩

/-- One level on a good level graph always returns: a stop `sweepFuel` or `risky` - not `sweepFuel` when there is no
    negative weight, `m > 0`, `res ≥ 0` and the fuel is `≥ k^k + 1` -, or the next `(partition, inner)`, with at most
    `k` communities and fewer than `k` if an improvement is reported. -/
theorem computeOneLevelW_cases {lv : Level} {n k : Nat} (hg : GoodLevel lv n k) (hwf : lv.g.wf = true)
    (hmulti : lv.g.specs.multi = false) {partition : List (List Nat)} (hin : InputOK lv k partition)
    (m res : Rat) (perm : List Nat) (fuel : Nat) :
    (∃ st, computeOneLevelW lv m res partition perm fuel = .ok (.error st) ∧ (st = .sweepFuel ∨ st = .risky) ∧
      (0 < m → 0 ≤ res → EdgesNN lv.g → k ^ k + 1 ≤ fuel → st ≠ .sweepFuel)) ∨
    ∃ p i imp, computeOneLevelW lv m res partition perm fuel = .ok (.ok (p, i, imp)) ∧
      PI lv k p i ∧ i.length ≤ k ∧ (imp = true → i.length < k) := by
  obtain ⟨r0, hr0⟩ := computeOneLevel_exists hg hwf hmulti hin m res perm fuel
  rw [computeOneLevel_erase] at hr0
  cases hr : computeOneLevelW lv m res partition perm fuel with
  | err e => rw [hr] at hr0; cases hr0
  | panic e => rw [hr] at hr0; cases hr0
  | ok r =>
    cases r with
    | error st =>
      obtain ⟨di, o, hdi, hsw, hres⟩ := computeOneLevelW_ok hg hin hr
      refine Or.inl ⟨st, rfl, computeOneLevelW_stop hr, ?_⟩
      · intro hm hres' hw hfuel hst
        obtain ⟨di', hdi', hall⟩ := C13_computeOneLevel_terminates hg hwf hmulti hw hin hm hres' perm
        obtain ⟨st', hst', -⟩ := hall fuel hfuel
        rw [hdi] at hdi'
        cases hdi'
        rw [hst'] at hsw
        cases hsw
        rcases levelResult_error hres.symm with ⟨h, -⟩ | ⟨-, -, -, h⟩
        · cases h
        · rw [hst] at h; cases h
    | ok r =>
      obtain ⟨p, i, imp⟩ := r
      exact Or.inr ⟨p, i, imp, rfl, (computeOneLevel_post hg hin (computeOneLevel_eq_some.2 hr)).1,
        computeOneLevelW_count hg hin hr⟩

theorem length_le_flat (l : List (List Nat)) (h : ∀ c ∈ l, c ≠ []) : l.length ≤ (l.flatMap id).length := by
  induction l with
  | nil => exact Nat.zero_le _
  | cons c l ih =>
    have hpos : 0 < c.length := List.length_pos_of_ne_nil (h c List.mem_cons_self)
    have := ih (fun c' hc' => h c' (List.mem_cons_of_mem _ hc'))
    rw [List.flatMap_cons, List.length_append, List.length_cons]
    show l.length + 1 ≤ c.length + _
    omega

/-- a partition of `{0..k-1}` into non-empty sets has at most `k` sets -/
theorem PartOfRange.length_le {k : Nat} {l : List (List Nat)} (h : PartOfRange k l) : l.length ≤ k := by
  obtain ⟨hne, hnd, hcov⟩ := h
  have hp : (l.flatMap id).Perm (List.range k) := by
    rw [List.perm_ext_iff_of_nodup hnd List.nodup_range]
    intro x; rw [hcov, List.mem_range]
  have := hp.length_eq
  rw [List.length_range] at this
  exact (length_le_flat l hne).trans (le_of_eq this)

theorem pow_self_le {k K : Nat} (h : k ≤ K) : k ^ k ≤ K ^ K := by
  rcases Nat.eq_zero_or_pos K with rfl | hK
  · rw [Nat.le_zero.1 h]
  · exact (Nat.pow_le_pow_left h k).trans (Nat.pow_le_pow_right hK h)

/-! ### the level loop -/

/-- **The level loop never runs out of fuel.**  On a good level graph `levelLoopW` always returns `.ok r`.  With a
    level fuel `≥ inner.length + 2` (`≥ 1` when `improvement = false`), `r` is not `levelFuel` - for every `m`, `res`,
    sweep fuel and shuffle.  Without negative weights, with `m > 0`, `res ≥ 0` and a sweep fuel `≥ k^k + 1`, `r` is not
    `sweepFuel`. -/
theorem levelLoopW_stops (weighted : Bool) (res threshold m : Rat) (perms : List (List Nat)) (F1 n : Nat) :
    ∀ (F2 : Nat) (lv : Level) (k : Nat) (partition inner : List (List Nat)) (improvement : Bool) (modularity : Rat)
      (acc : List (List (List Nat))),
    GoodLevel lv n k → lv.g.wf = true → lv.g.specs.multi = false → PI lv k partition inner →
    ∃ r, levelLoopW weighted res threshold m perms F1 F2 lv partition inner improvement modularity acc = .ok r ∧
      (1 ≤ F2 → (improvement = true → inner.length + 2 ≤ F2) → r ≠ .error .levelFuel) ∧
      (0 < m → 0 ≤ res → EdgesNN lv.g → k ^ k + 1 ≤ F1 → r ≠ .error .sweepFuel) := by
  intro F2
  induction F2 with
  | zero =>
    intro lv k partition inner improvement modularity acc _ _ _ _
    exact ⟨_, rfl, fun h => absurd h (by omega), fun _ _ _ _ => nofun⟩
  | succ F2 ih =>
    intro lv k partition inner improvement modularity acc hg hwf hmulti hpi
    unfold levelLoopW
    by_cases himp : improvement = true
    · obtain ⟨hp, hnm⟩ := isPartition_of_part hg hwf hpi.inner_part
      obtain ⟨omod, hmod⟩ := modularity_ok lv.g hwf inner hp hnm weighted res
      simp only [himp, Bool.not_true, Bool.false_eq_true, if_false, bind, Outcome.bind, hmod, Outcome.unwrap]
      cases omod with
      | none => exact ⟨_, rfl, fun _ _ => nofun, fun _ _ _ _ => nofun⟩
      | some newMod =>
        simp only
        by_cases hth : newMod - modularity ≤ threshold
        · rw [if_pos hth]; exact ⟨_, rfl, fun _ _ => nofun, fun _ _ _ _ => nofun⟩
        · rw [if_neg hth]
          obtain ⟨lv', hgen, hwf', hm', _, hg', hmem'⟩ := generateGraph_spec lv n k hg hwf inner hpi.inner_part
          have hin' : InputOK lv' inner.length partition := hpi.inputOK hmem'
          rw [hmulti] at hm'
          have hlen : inner.length ≤ k := hpi.inner_part.length_le
          simp only [hgen]
          rcases computeOneLevelW_cases hg' hwf' hm' hin' m res (perms[lv'.g.numNodes]?.getD []) F1 with
            ⟨st, hr, hst, hsf⟩ | ⟨p, i, imp, hr, hpi', hc1, hc2⟩
          · simp only [hr]
            refine ⟨_, rfl, fun _ _ h => ?_, fun h1 h2 h3 h4 h => ?_⟩
            · cases h; rcases hst with h | h <;> cases h
            · cases h
              exact hsf h1 h2 (generateGraph_edgesNN hg hwf hmulti hpi.inner_part h3 hgen)
                ((Nat.add_le_add_right (pow_self_le hlen) 1).trans h4) rfl
          · simp only [hr]
            obtain ⟨r, hr', hlf, hsf⟩ := ih lv' inner.length p i imp newMod (acc ++ [partition]) hg' hwf' hm' hpi'
            refine ⟨r, hr', fun _ hF => ?_, fun h1 h2 h3 h4 => ?_⟩
            · have h2 := hF trivial
              exact hlf (by omega) (fun hi => by have := hc2 hi; omega)
            · exact hsf h1 h2 (generateGraph_edgesNN hg hwf hmulti hpi.inner_part h3 hgen)
                ((Nat.add_le_add_right (pow_self_le hlen) 1).trans h4)
    · have himp' : improvement = false := by simpa using himp
      simp only [himp', Bool.not_false, if_true]
      exact ⟨_, rfl, fun _ _ => nofun, fun _ _ _ _ => nofun⟩

/-- the same for `louvainPartitions` after `convert_graph` -/
theorem lpTailW_stops (lv : Level) (n : Nat) (hg : GoodLevel lv n n) (hwf : lv.g.wf = true)
    (hmulti : lv.g.specs.multi = false) (hnum : lv.g.numNodes = n) (hmem : ∀ x, mem lv x = [x])
    (weighted : Bool) (res threshold : Rat) (perms : List (List Nat)) (F1 F2 : Nat) :
    ∃ r, lpTailW F1 F2 lv weighted res threshold perms = .ok r ∧
      (n + 2 ≤ F2 → r ≠ .error .levelFuel) ∧
      (0 < mOf lv weighted → 0 ≤ res → EdgesNN lv.g → n ^ n + 1 ≤ F1 → r ≠ .error .sweepFuel) := by
  have hin : InputOK lv n ((List.range n).map fun i => [i]) := InputOK.singletons n hmem
  obtain ⟨hp, hnm⟩ := isPartition_of_part hg hwf (singletons_part n)
  obtain ⟨omod, hmod⟩ := modularity_ok lv.g hwf _ hp hnm weighted res
  unfold lpTailW
  simp only [bind, Outcome.bind, hnum, hmod, Outcome.unwrap]
  cases omod with
  | none => exact ⟨_, rfl, fun _ => nofun, fun _ _ _ _ => nofun⟩
  | some mod0 =>
    simp only
    rcases computeOneLevelW_cases hg hwf hmulti hin (mOf lv weighted) res (perms[n]?.getD []) F1 with
      ⟨st, hr, hst, hsf⟩ | ⟨p, i, imp, hr, hpi, hc1, -⟩
    · simp only [hr]
      refine ⟨_, rfl, fun _ h => ?_, fun h1 h2 h3 h4 h => ?_⟩
      · cases h; rcases hst with h | h <;> cases h
      · cases h; exact hsf h1 h2 h3 h4 rfl
    · simp only [hr]
      obtain ⟨r, hr', hlf, hsf⟩ := levelLoopW_stops weighted res threshold (mOf lv weighted) perms F1 n F2 lv n p i true
        mod0 [] hg hwf hmulti hpi
      exact ⟨r, hr', fun hF => hlf (by omega) (fun _ => by omega), hsf⟩

end LF
end Graphrs
