/-
  For Props/C10Model.lean: names of the ends of an edge from the coupling invariant, lemmas about `ReachR`
  (defined in Props/C10.lean, hence the import of a Props file), and the "fold over the names, skip seen ones"
  partition lemma.  Namespace `C10M`: helper lemmas of the model-level C10 theorems.
-/
import GraphrsModel.Lemmas.ListSet
import GraphrsModel.Props.Core
import GraphrsModel.Props.C10
import GraphrsModel.Model.Components
namespace Graphrs
namespace C10M
open C02

theorem succ_names (s : Store) (h : s.wf = true) {x y : Nat} (hy : y ∈ s.abs.succ s.specs.directed x) :
    x ∈ s.getAllNodeNames ∧ y ∈ s.getAllNodeNames :=
  s.hasEdge_names h ((mem_abs_succ s x y).1 hy)

theorem pred_names (s : Store) (h : s.wf = true) {x y : Nat} (hy : y ∈ s.abs.pred s.specs.directed x) :
    x ∈ s.getAllNodeNames ∧ y ∈ s.getAllNodeNames :=
  (s.hasEdge_names h ((mem_abs_pred s x y).1 hy).2).symm

theorem nodup_sunion {α} [DecidableEq α] (s t : List α) (h : s.Nodup) : (sunion s t).Nodup :=
  Graphrs.nodup_sunion s t h

theorem sinsert_nil {α} [DecidableEq α] (x : α) : sinsert ([] : List α) x = [x] := by simp [sinsert]

theorem sinsert_append_of_mem {α} [DecidableEq α] (a b : List α) (x : α) (h : x ∈ a) :
    sinsert (a ++ b) x = a ++ b := by
  simp [sinsert, h]

theorem sinsert_append_not_mem {α} [DecidableEq α] (a b : List α) (x : α) (h : x ∉ a) :
    sinsert (a ++ b) x = a ++ sinsert b x := by
  unfold sinsert
  by_cases hb : x ∈ b
  · simp [hb]
  · simp [h, hb]

theorem dedup_of_nodup {α} [DecidableEq α] (l : List α) (h : l.Nodup) : dedup l = l :=
  Graphrs.dedup_of_nodup l h

theorem foldl_sinsert_append {α} [DecidableEq α] (l a b : List α) (hdisj : ∀ x ∈ l, x ∉ a) :
    l.foldl sinsert (a ++ b) = a ++ l.foldl sinsert b := by
  induction l generalizing b with
  | nil => rfl
  | cons x xs ih =>
    rw [List.foldl_cons, List.foldl_cons, sinsert_append_not_mem a b x (hdisj x List.mem_cons_self)]
    exact ih _ (fun y hy => hdisj y (List.mem_cons_of_mem _ hy))

theorem ReachR.trans {nb : Nat → List Nat} {x y z : Nat} (h1 : ReachR nb x y) (h2 : ReachR nb y z) : ReachR nb x z := by
  induction h2 with
  | refl => exact h1
  | step _ hz ih => exact ReachR.step ih hz

theorem ReachR.single {nb : Nat → List Nat} {x y : Nat} (h : y ∈ nb x) : ReachR nb x y :=
  ReachR.step (ReachR.refl x) h

theorem ReachR.head {nb : Nat → List Nat} {x y z : Nat} (h : y ∈ nb x) (h2 : ReachR nb y z) : ReachR nb x z :=
  ReachR.trans (ReachR.single h) h2

theorem ReachR.symm_of {nb : Nat → List Nat} (hs : ∀ x y, y ∈ nb x → x ∈ nb y) {x y : Nat} (h : ReachR nb x y) :
    ReachR nb y x := by
  induction h with
  | refl => exact ReachR.refl _
  | step _ hz ih => exact ReachR.head (hs _ _ hz) ih

theorem ReachR.mono {nb nb' : Nat → List Nat} (hs : ∀ x y, y ∈ nb x → y ∈ nb' x) {x y : Nat} (h : ReachR nb x y) :
    ReachR nb' x y := by
  induction h with
  | refl => exact ReachR.refl _
  | step _ hz ih => exact ReachR.step ih (hs _ _ hz)

theorem ReachR.closed {nb : Nat → List Nat} {P : Nat → Prop} (hP : ∀ x y, P x → y ∈ nb x → P y) {x y : Nat}
    (hx : P x) (h : ReachR nb x y) : P y := by
  induction h with
  | refl => exact hx
  | step _ hz ih => exact hP _ _ ih hz

theorem ReachR.cases_head {nb : Nat → List Nat} {x z : Nat} (h : ReachR nb x z) :
    x = z ∨ ∃ y, y ∈ nb x ∧ ReachR nb y z := by
  induction h with
  | refl => exact Or.inl rfl
  | step hxy hz ih =>
    rcases ih with rfl | ⟨w, hw, hwy⟩
    · exact Or.inr ⟨_, hz, ReachR.refl _⟩
    · exact Or.inr ⟨w, hw, ReachR.step hwy hz⟩

/-- the fold lambda of `connectedComponents` and `weaklyConnectedComponents`, the search from `v` abstracted to `cls v` -/
def compStep (cls : Nat → List Nat) (acc : List Nat × List (List Nat)) (v : Nat) : List Nat × List (List Nat) :=
  if acc.1.contains v then acc else (sunion acc.1 (cls v), acc.2 ++ [cls v])

/-- what the fold has established of `(seen, comps)`: `seen` is the union of the sets, which are pairwise disjoint
    classes of `R` inside `names` -/
structure PartInv (names : List Nat) (R : Nat → Nat → Prop) (seen : List Nat) (comps : List (List Nat)) : Prop where
  seen_iff : ∀ y, y ∈ seen ↔ y ∈ comps.flatMap id
  nodup : (comps.flatMap id).Nodup
  sub : ∀ y ∈ comps.flatMap id, y ∈ names
  cls : ∀ c ∈ comps, c ≠ [] ∧ ∀ x ∈ c, ∀ y, y ∈ c ↔ R x y

/-- **the generic partition lemma**: fold over the names, skipping seen ones; each new set is the class of its start
    under an equivalence relation `R` whose classes stay inside `names` -/
theorem compFold_partition (names : List Nat) (R : Nat → Nat → Prop) (cls : Nat → List Nat)
    (hrefl : ∀ x, R x x) (hsymm : ∀ x y, R x y → R y x) (htrans : ∀ x y z, R x y → R y z → R x z)
    (hclosed : ∀ x ∈ names, ∀ y, R x y → y ∈ names)
    (hcls : ∀ v ∈ names, (cls v).Nodup ∧ ∀ y, y ∈ cls v ↔ R v y) :
    let comps := (names.foldl (compStep cls) ([], [])).2
    (∀ c ∈ comps, c ≠ []) ∧ (comps.flatMap id).Nodup ∧ (∀ x, x ∈ comps.flatMap id ↔ x ∈ names) ∧
    (∀ c ∈ comps, ∀ x ∈ c, ∀ y, y ∈ c ↔ R x y) := by
  -- from any state reached, `seen` only grows and takes in what is still to do
  have key : ∀ (todo : List Nat) (seen : List Nat) (comps : List (List Nat)),
      (∀ v ∈ todo, v ∈ names) → PartInv names R seen comps →
      ∃ seen' comps', todo.foldl (compStep cls) (seen, comps) = (seen', comps') ∧
        PartInv names R seen' comps' ∧ (∀ v ∈ todo, v ∈ seen') ∧ ∀ y ∈ seen, y ∈ seen' := by
    intro todo
    induction todo with
    | nil => exact fun seen comps _ h => ⟨seen, comps, rfl, h, fun _ h => (nomatch h), fun _ h => h⟩
    | cons v vs ih =>
      intro seen comps htodo h
      rw [List.foldl_cons]
      have hv : v ∈ names := htodo v List.mem_cons_self
      have hvs : ∀ w ∈ vs, w ∈ names := fun w hw => htodo w (List.mem_cons_of_mem _ hw)
      by_cases hc : v ∈ seen
      · have hst : compStep cls (seen, comps) v = (seen, comps) := if_pos (List.contains_iff_mem.mpr hc)
        rw [hst]
        obtain ⟨seen', comps', hf, g, g4, g6⟩ := ih seen comps hvs h
        exact ⟨seen', comps', hf, g, List.forall_mem_cons.2 ⟨g6 v hc, g4⟩, g6⟩
      · have hst : compStep cls (seen, comps) v = (sunion seen (cls v), comps ++ [cls v]) :=
          if_neg fun h => hc (List.contains_iff_mem.mp h)
        rw [hst]
        obtain ⟨hnd, hmem⟩ := hcls v hv
        have hflat : (comps ++ [cls v]).flatMap id = comps.flatMap id ++ cls v := by
          simp only [List.flatMap_append, List.flatMap_cons, List.flatMap_nil, List.append_nil, id]
        have hdisj : ∀ y ∈ comps.flatMap id, y ∉ cls v := by
          intro y hy hyc
          obtain ⟨c, hcm, hyc'⟩ := List.mem_flatMap.mp hy
          have : v ∈ c := ((h.cls c hcm).2 y hyc' v).2 (hsymm _ _ ((hmem y).1 hyc))
          exact hc ((h.seen_iff v).2 (List.mem_flatMap.mpr ⟨c, hcm, this⟩))
        obtain ⟨seen', comps', hf, g, g4, g6⟩ := ih (sunion seen (cls v)) (comps ++ [cls v]) hvs
          { seen_iff := fun y => by rw [mem_sunion, hflat, List.mem_append, h.seen_iff y]
            nodup := by
              rw [hflat, List.nodup_append]
              exact ⟨h.nodup, hnd, fun a ha b hb hab => hdisj a ha (hab ▸ hb)⟩
            sub := by
              rw [hflat]
              exact fun y hy => (List.mem_append.mp hy).elim (h.sub y) fun hy => hclosed v hv y ((hmem y).1 hy)
            cls := List.forall_mem_append.2 ⟨h.cls, List.forall_mem_singleton.2
              ⟨List.ne_nil_of_mem ((hmem v).2 (hrefl v)), fun x hx y => by
                have hvx := (hmem x).1 hx
                rw [hmem y]
                exact ⟨fun hvy => htrans _ _ _ (hsymm _ _ hvx) hvy, fun hxy => htrans _ _ _ hvx hxy⟩⟩⟩ }
        exact ⟨seen', comps', hf, g,
          List.forall_mem_cons.2 ⟨g6 v ((mem_sunion _ _ _).2 (Or.inr ((hmem v).2 (hrefl v)))), g4⟩,
          fun y hy => g6 y ((mem_sunion _ _ _).2 (Or.inl hy))⟩
  obtain ⟨seen', comps', hf, g, g4, _⟩ := key names [] [] (fun v hv => hv)
    ⟨fun _ => Iff.rfl, List.nodup_nil, fun _ h => (nomatch h), fun _ h => (nomatch h)⟩
  rw [hf]
  exact ⟨fun c hc => (g.cls c hc).1, g.nodup, fun x => ⟨g.sub x, fun hx => (g.seen_iff x).1 (g4 x hx)⟩,
    fun c hc => (g.cls c hc).2⟩

theorem reachFold_partition (names : List Nat) (nb : Nat → List Nat) (cls : Nat → List Nat)
    (hsymm : ∀ x y, y ∈ nb x → x ∈ nb y) (hclosed : ∀ x ∈ names, ∀ y ∈ nb x, y ∈ names)
    (hcls : ∀ v ∈ names, (cls v).Nodup ∧ ∀ y, y ∈ cls v ↔ ReachR nb v y) :
    let comps := (names.foldl (compStep cls) ([], [])).2
    (∀ c ∈ comps, c ≠ []) ∧ (comps.flatMap id).Nodup ∧ (∀ x, x ∈ comps.flatMap id ↔ x ∈ names) ∧
    (∀ c ∈ comps, ∀ x ∈ c, ∀ y, y ∈ c ↔ ReachR nb x y) :=
  compFold_partition names (ReachR nb) cls ReachR.refl (fun _ _ => ReachR.symm_of hsymm) (fun _ _ _ => ReachR.trans)
    (fun _ hx _ hxy => ReachR.closed (P := (· ∈ names)) (fun a b ha hb => hclosed a ha b hb) hx hxy) hcls

end C10M
end Graphrs
