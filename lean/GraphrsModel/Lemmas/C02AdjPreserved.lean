/-
  The adjacency-set clause through `add_node` and `add_edge`.  Between the steps of `add_edge`
  only part of the invariant holds; `J` is that part.
-/
import GraphrsModel.Lemmas.C02AddEdgeMaps
namespace Graphrs
namespace C02
open Store

theorem hasEdge_congr (s t : Store) (h1 : t.edges = s.edges) (h2 : t.specs = s.specs) (x y : Nat) :
    t.hasEdge x y = s.hasEdge x y := by
  unfold Store.hasEdge Store.allEdges
  rw [h1, h2]

theorem Ends.congr {s t : Store} (h : Ends s) (h1 : t.edges = s.edges) (hsub : ∀ a, a ∈ s.names → a ∈ t.names) :
    Ends t := by
  intro e he
  have : e ∈ s.allEdges := by
    unfold Store.allEdges at he ⊢
    exact h1 ▸ he
  exact ⟨hsub _ (h e this).1, hsub _ (h e this).2⟩

structure J (s : Store) : Prop where
  link : ∀ x i, alookup s.nodesMap x = some i ↔ s.names[i]? = some x
  adj : AdjP s
  ends : Ends s

theorem J_of_wf (s : Store) (h1 : s.nodesOk = true) (h2 : s.edgesOk = true) (h3 : s.adjOk = true) : J s :=
  ⟨(nodesP_of s h1).link, (adjOk_iff s).1 h3, (edgesP_of s h2).ends⟩

/-- re-adding a known node: only its attributes change -/
theorem J_same (s t : Store) (hnm : t.nodesMap = s.nodesMap) (hnames : t.names = s.names)
    (hlen : t.nodesVec.length = s.nodesVec.length) (hsucc : t.succ = s.succ) (hpred : t.pred = s.pred)
    (hsm : t.succMap = s.succMap) (hpm : t.predMap = s.predMap) (hedges : t.edges = s.edges)
    (hspecs : t.specs = s.specs) (hj : J s) : J t := by
  obtain ⟨hl, ha, hends⟩ := hj
  refine ⟨?_, ⟨?_, ?_, ?_, ?_, ?_, ?_, ?_⟩, hends.congr hedges fun a h => hnames ▸ h⟩
  · rw [hnm, hnames]; exact hl
  · rw [hnames, hsucc]; exact ha.okSucc
  · rw [hnames, hpred]; exact ha.okPred
  · rw [hlen, hsm]; exact ha.okSuccMap
  · rw [hlen, hpm]; exact ha.okPredMap
  · rw [hlen, hsm, hpm]; exact ha.total
  · rw [hnames, hsucc, hpred, hspecs]
    intro x hx y hy
    rw [hasEdge_congr s t hedges hspecs, hasEdge_congr s t hedges hspecs]
    exact ha.edge x hx y hy
  · rw [hnames, hsucc, hpred, hsm, hpm]; exact ha.idx

/-- adding a new node `x` at the next position: the new name and the new position occur in no
    set, so every clause is the old one read over the longer name list -/
theorem J_grow (s t : Store) (x : Nat) (hx : alookup s.nodesMap x = none)
    (hnm : t.nodesMap = ainsert s.nodesMap x s.nodesVec.length) (hnames : t.names = s.names ++ [x])
    (hlen : t.nodesVec.length = s.nodesVec.length + 1) (hsucc : t.succ = s.succ) (hpred : t.pred = s.pred)
    (hsm : t.succMap = ainsert s.succMap s.nodesVec.length [])
    (hpm : t.predMap = ainsert s.predMap s.nodesVec.length []) (hedges : t.edges = s.edges)
    (hspecs : t.specs = s.specs) (hj : J s) : J t := by
  obtain ⟨hl, ha, hends⟩ := hj
  have hnew : x ∉ s.names := fun hx' => by
    obtain ⟨i, hi⟩ := List.mem_iff_getElem?.1 hx'
    cases hx.symm.trans ((hl x i).2 hi)
  have hsub : ∀ a, a ∈ s.names → a ∈ s.names ++ [x] := fun a h => List.mem_append_left _ h
  have hirr : ¬ s.nodesVec.length < s.nodesVec.length := Nat.lt_irrefl _
  refine ⟨?_, ⟨?_, ?_, ?_, ?_, ?_, ?_, ?_⟩, hends.congr hedges fun a h => hnames ▸ hsub a h⟩
  · intro y i
    rw [hnm, hnames, AL.lookup_insert, getElem?_concat_eq_some, names_length, ← hl]
    by_cases hy : x = y
    · subst hy
      rw [if_pos rfl, hx, Option.some.injEq, eq_comm]
      exact ⟨fun h => .inr ⟨h, rfl⟩, fun h => h.elim nofun (·.1)⟩
    · rw [if_neg hy, or_iff_left fun c => hy c.2.symm]
  · rw [hnames, hsucc]; exact ha.okSucc.mono hsub
  · rw [hnames, hpred]; exact ha.okPred.mono hsub
  · rw [hlen, hsm]
    exact (ha.okSuccMap.mono fun a h => Nat.lt_succ_of_lt h).ainsert_nil _ (Nat.lt_succ_self _)
  · rw [hlen, hpm]
    exact (ha.okPredMap.mono fun a h => Nat.lt_succ_of_lt h).ainsert_nil _ (Nat.lt_succ_self _)
  · rw [hlen, hsm, hpm]
    intro i hi
    unfold acontains
    rw [AL.lookup_insert, AL.lookup_insert]
    split
    · exact ⟨rfl, rfl⟩
    · rename_i hin
      exact ha.total i (Nat.lt_of_le_of_ne (Nat.le_of_lt_succ hi) (Ne.symm hin))
  · rw [hnames, hsucc, hpred, hspecs]
    intro a ha' b hb'
    rw [hasEdge_congr s t hedges hspecs, hasEdge_congr s t hedges hspecs]
    exact ⟨ha.mem_succ' hends a b, ha.mem_pred' hends a b⟩
  · rw [hnames, hsucc, hpred, hsm, hpm]
    intro a i b j hi hj
    rw [ha.okSuccMap.setOf_ainsert_nil hirr, ha.okPredMap.setOf_ainsert_nil hirr]
    have hi := (getElem?_concat_eq_some _ _ _ _).1 hi
    have hj := (getElem?_concat_eq_some _ _ _ _).1 hj
    rw [names_length] at hi hj
    rcases hi with hi | hi
    · rcases hj with hj | hj
      · exact ha.idx a i b j hi hj
      · exact ⟨iff_of_false (fun h => (ha.okSuccMap.ne_of_mem hirr h).2 hj.1) fun h => (ha.okSucc.ne_of_mem hnew h).2 hj.2,
          iff_of_false (fun h => (ha.okPredMap.ne_of_mem hirr h).2 hj.1) fun h => (ha.okPred.ne_of_mem hnew h).2 hj.2⟩
    · exact ⟨iff_of_false (fun h => (ha.okSuccMap.ne_of_mem hirr h).1 hi.1) fun h => (ha.okSucc.ne_of_mem hnew h).1 hi.2,
        iff_of_false (fun h => (ha.okPredMap.ne_of_mem hirr h).1 hi.1) fun h => (ha.okPred.ne_of_mem hnew h).1 hi.2⟩

theorem addNode_J (s : Store) (nd : Node) (hj : J s) : J (s.addNode nd) := by
  have hl := hj.link
  unfold Store.addNode
  cases hlk : alookup s.nodesMap nd.name with
  | some i =>
    have hi := (hl nd.name i).1 hlk
    have hlt : i < s.nodesVec.length := names_length s ▸ (List.getElem?_eq_some_iff.1 hi).1
    simp only [hlt, if_true]
    have hnames : (s.nodesVec.set i nd).map (·.name) = s.names := by
      rw [List.map_set, ← List.getElem?_eq_some_iff.1 hi |>.2]
      exact List.set_getElem_self _
    exact J_same s _ rfl hnames (List.length_set) rfl rfl rfl rfl rfl rfl hj
  | none =>
    exact J_grow s _ nd.name hlk rfl (List.map_append) (List.length_append) rfl rfl rfl rfl rfl rfl hj

theorem ensure_J (s : Store) (x : Nat) (hj : J s) : J (s.ensure x) := by
  unfold Store.ensure
  split
  · exact addNode_J s _ hj
  · exact hj

theorem pre_J (s : Store) (e : Edge) (hj : J s) : J (pre s e) := ensure_J _ _ (ensure_J _ _ hj)

theorem hasEdge_after (s t : Store) (u v : Nat)
    (hs : ∀ x y, s.hasEdge x y = true ↔ (alookup s.edges (nameKey s.specs.directed x y)).isSome = true)
    (ht : EdgesP t) (hspecs : t.specs = s.specs)
    (hedges : (∃ l f, t.edges = amodify s.edges (nameKey s.specs.directed u v) l f) ∨
      (∃ l, t.edges = ainsert s.edges (nameKey s.specs.directed u v) l) ∨
      (t.edges = s.edges ∧ (alookup s.edges (nameKey s.specs.directed u v)).isSome = true))
    (x y : Nat) :
    t.hasEdge x y = true ↔ (s.hasEdge x y = true ∨ (x, y) ∈ arcs s.specs.directed u v) := by
  rw [ht.hasEdge_iff, hs, hspecs, mem_arcs, ← nameKey_eq_iff]
  rcases hedges with ⟨l, f, h⟩ | ⟨l, h⟩ | ⟨h, h'⟩
  · rw [h, AL.lookup_modify]
    split
    · rename_i hk; exact iff_of_true rfl (.inr hk.symm)
    · rename_i hk; exact (or_iff_left fun h => hk h.symm).symm
  · rw [h, AL.lookup_insert]
    split
    · rename_i hk; exact iff_of_true rfl (.inr hk.symm)
    · rename_i hk; exact (or_iff_left fun h => hk h.symm).symm
  · rw [h]
    exact ⟨.inl, fun h1 => h1.elim id fun h1 => h1 ▸ h'⟩

/-- `AdjP` is re-established when the name-keyed sets gain the arcs `P` (successors) and `R`
    (predecessors), the position-keyed sets the arcs between the corresponding positions, and
    `hasEdge` gains `P` -/
theorem AdjP_insert (s t : Store) (P PI R RI : List (Nat × Nat)) (ha : AdjP s) (hends : Ends s)
    (hnames : t.names = s.names) (hlen : t.nodesVec.length = s.nodesVec.length) (hspecs : t.specs = s.specs)
    (hsucc : t.succ = addArcs s.succ P) (hsm : t.succMap = addArcs s.succMap PI)
    (hpred : t.pred = addArcs s.pred R) (hpm : t.predMap = addArcs s.predMap RI)
    (hP : (∀ p ∈ P, p.1 ∈ s.names ∧ p.2 ∈ s.names) ∧ ∀ p ∈ R, p.1 ∈ s.names ∧ p.2 ∈ s.names)
    (hPI : (∀ p ∈ PI, p.1 < s.nodesVec.length ∧ p.2 < s.nodesVec.length) ∧
      ∀ p ∈ RI, p.1 < s.nodesVec.length ∧ p.2 < s.nodesVec.length)
    (hidx : ∀ x i y j, s.names[i]? = some x → s.names[j]? = some y →
      ((i, j) ∈ PI ↔ (x, y) ∈ P) ∧ ((i, j) ∈ RI ↔ (x, y) ∈ R))
    (hRP : ∀ x y, (x, y) ∈ R ↔ (s.specs.directed = true ∧ (y, x) ∈ P))
    (hE : ∀ x y, t.hasEdge x y = true ↔ (s.hasEdge x y = true ∨ (x, y) ∈ P)) :
    AdjP t := by
  refine ⟨?_, ?_, ?_, ?_, ?_, ?_, ?_⟩
  · rw [hnames, hsucc]; exact ha.okSucc.addArcs P hP.1
  · rw [hnames, hpred]; exact ha.okPred.addArcs R hP.2
  · rw [hlen, hsm]; exact ha.okSuccMap.addArcs PI hPI.1
  · rw [hlen, hpm]; exact ha.okPredMap.addArcs RI hPI.2
  · rw [hlen, hsm, hpm]
    exact fun i hi => ⟨acontains_addArcs _ _ i (ha.total i hi).1, acontains_addArcs _ _ i (ha.total i hi).2⟩
  · intro x _ y _
    rw [hsucc, hpred, mem_setOf_addArcs, mem_setOf_addArcs, hE, hE, ha.mem_succ' hends, ha.mem_pred' hends,
      hspecs, hRP, and_or_left]
    exact ⟨Iff.rfl, Iff.rfl⟩
  · rw [hnames, hsucc, hpred, hsm, hpm]
    intro x i y j hx hy
    rw [mem_setOf_addArcs, mem_setOf_addArcs, mem_setOf_addArcs, mem_setOf_addArcs]
    exact ⟨or_congr (ha.idx x i y j hx hy).1 (hidx x i y j hx hy).1,
      or_congr (ha.idx x i y j hx hy).2 (hidx x i y j hx hy).2⟩

theorem AdjP_addEdge (s t : Store) (e : Edge) (ui vi : Nat) (upd : AdjUpd) (hj : J s)
    (hs : ∀ x y, s.hasEdge x y = true ↔ (alookup s.edges (nameKey s.specs.directed x y)).isSome = true)
    (hui : alookup s.nodesMap e.u = some ui) (hvi : alookup s.nodesMap e.v = some vi)
    (ht : t = edgePhase s.specs
      (adjPhase s.specs s e ui vi (idxKey s.specs.directed ui vi).1 (idxKey s.specs.directed ui vi).2 upd)
      (Abs.canon s.specs.directed e) (idxKey s.specs.directed ui vi).1 (idxKey s.specs.directed ui vi).2)
    (h1 : t.nodesOk = true) (h2 : t.edgesOk = true) : AdjP t := by
  have hF := adjPhase_arcs s.specs s e ui vi (idxKey s.specs.directed ui vi).1 (idxKey s.specs.directed ui vi).2 upd
  obtain ⟨E, EM, hst, hE⟩ := edgePhase_edges s.specs
    (adjPhase s.specs s e ui vi (idxKey s.specs.directed ui vi).1 (idxKey s.specs.directed ui vi).2 upd)
    (Abs.canon s.specs.directed e) (idxKey s.specs.directed ui vi).1 (idxKey s.specs.directed ui vi).2
  rw [hst] at ht
  generalize adjPhase s.specs s e ui vi (idxKey s.specs.directed ui vi).1 (idxKey s.specs.directed ui vi).2 upd = a
    at hF hE ht
  have hn := nodesP_of t h1
  have het := edgesP_of t h2
  have hvec : t.nodesVec = s.nodesVec := (congrArg Store.nodesVec ht).trans hF.nodesVec
  have hnames : t.names = s.names := congrArg (List.map Node.name) hvec
  have hspecs : t.specs = s.specs := (congrArg Store.specs ht).trans hF.specs
  have hmap : t.nodesMap = s.nodesMap := (congrArg Store.nodesMap ht).trans hF.nodesMap
  have hedges : t.edges = E := congrArg Store.edges ht
  have hu := (hj.link _ _).1 hui
  have hv := (hj.link _ _).1 hvi
  have hlt : ∀ {w wi : Nat}, s.names[wi]? = some w → wi < s.nodesVec.length := fun h =>
    names_length s ▸ (List.getElem?_eq_some_iff.1 h).1
  refine AdjP_insert s t _ _ _ _ hj.adj hj.ends hnames (congrArg List.length hvec) hspecs
    ((congrArg Store.succ ht).trans hF.succ) ((congrArg Store.succMap ht).trans hF.succMap)
    ((congrArg Store.pred ht).trans hF.pred) ((congrArg Store.predMap ht).trans hF.predMap)
    (forall_arcs (List.mem_of_getElem? hu) (List.mem_of_getElem? hv) _)
    (forall_arcs (Q := (· < s.nodesVec.length)) (hlt hu) (hlt hv) _)
    (fun x i y j hx hy => arcs_idx (hnames ▸ hn.namesNodup) _ hu hv hx hy) (fun x y => mem_parcs _ _ _ x y)
    (hasEdge_after s t e.u e.v hs het hspecs ?_)
  rw [canon_key] at hE
  rcases hE with h | h | ⟨h, h', h''⟩
  · exact .inl ⟨_, _, hedges.trans (h.trans (by rw [hF.edges]))⟩
  · exact .inr (.inl ⟨_, hedges.trans (h.trans (by rw [hF.edges]))⟩)
  · refine .inr (.inr ⟨hedges.trans (h.trans hF.edges), ?_⟩)
    -- the duplicate was found in the position-keyed store; `t`, which is well-formed, holds it
    -- under the name key as well
    have hk : a.edgesByIdx (idxKey s.specs.directed ui vi).1 (idxKey s.specs.directed ui vi).2 =
        alookup t.edgesMap (idxKey t.specs.directed ui vi) := by
      rw [congrArg Store.edgesMap ht, h', hspecs]
      exact congrArg (alookup a.edgesMap) (hF.specs ▸ idxKey_idem s.specs.directed ui vi)
    rw [hk, edgesMap_eq_edges hn het (hmap ▸ hui) (hmap ▸ hvi), hedges, h, hF.edges, hspecs] at h''
    exact h''

theorem addEdge_adjOk (s : Store) (e : Edge) (hn0 : s.nodesOk = true) (he0 : s.edgesOk = true)
    (ha0 : s.adjOk = true)
    (h1 : (s.addEdge e).1.nodesOk = true) (h2 : (s.addEdge e).1.edgesOk = true) :
    (s.addEdge e).1.adjOk = true := by
  have hj := pre_J s e (J_of_wf s hn0 he0 ha0)
  obtain ⟨pe, psp⟩ := pre_fields s e
  revert h1 h2
  refine addEdge_elim (P := fun r => r.1.nodesOk = true → r.1.edgesOk = true → r.1.adjOk = true) s e
    (fun _ => by split <;> exact fun _ _ => ha0) (fun _ _ _ _ => ha0) fun _ _ => ?_
  have hpanic : ∀ site, ((pre s e).poison site).nodesOk = true → ((pre s e).poison site).edgesOk = true →
      ((pre s e).poison site).adjOk = true := fun site h1 _ => absurd (nodesP_of _ h1).notPoisoned (poison_poisoned (pre s e) site)
  cases hu : alookup (pre s e).nodesMap e.u with
  | none => rw [addEdgeMain_of_none (.inl hu)]; exact hpanic _
  | some ui =>
    cases hv : alookup (pre s e).nodesMap e.v with
    | none => rw [addEdgeMain_of_none (.inr hv)]; exact hpanic _
    | some vi =>
      rw [addEdgeMain_of_lookup hu hv]
      split
      · exact fun _ _ => (adjOk_iff _).2 hj.adj
      · intro h1 h2
        rw [← psp] at h1 h2 ⊢
        refine (adjOk_iff _).2 (AdjP_addEdge (pre s e) _ e ui vi _ hj (fun x y => ?_) hu hv rfl h1 h2)
        rw [hasEdge_congr s (pre s e) pe psp, (edgesP_of s he0).hasEdge_iff, pe, psp]

end C02
end Graphrs
