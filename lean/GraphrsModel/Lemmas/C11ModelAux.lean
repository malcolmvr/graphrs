/-
  List and association-list facts for the model-level C11 proofs (namespace `C11M`, shared by Lemmas/C11Model*.lean and
  Lemmas/C11W*.lean): association lists built by folds of `ainsert`, intersections of duplicate-free lists, sums over a
  sub-list of a duplicate-free universe, sums over unordered pairs.  It builds on Props/C11.lean (namespace `C11aux`: sums,
  `dsum_pairs`) and on the store invariant of Props/Core.lean, which is why it imports those two Props files.
-/
import GraphrsModel.Lemmas.ListSet
import GraphrsModel.Props.Core
import GraphrsModel.Props.C11
import GraphrsModel.Model.Cluster
import GraphrsModel.Lemmas.C09ModelAux
import Mathlib.Data.List.Perm.Basic
import Mathlib.Algebra.BigOperators.Group.List.Basic
import Mathlib.Algebra.BigOperators.Ring.List
import Mathlib.Tactic.Ring
namespace Graphrs
namespace C11M
open C02

theorem alookup_foldl_ainsert {α ν : Type} (k : α → Nat) (g : α → ν) (G : Nat → ν) (l : List α)
    (hg : ∀ x ∈ l, g x = G (k x)) (m0 : List (Nat × ν)) (key : Nat) :
    alookup (l.foldl (fun m x => ainsert m (k x) (g x)) m0) key
      = if key ∈ l.map k then some (G key) else alookup m0 key := by
  induction l generalizing m0 with
  | nil => rfl
  | cons a l ih =>
    rw [List.foldl_cons, ih fun x hx => hg x (List.mem_cons_of_mem _ hx), AL.lookup_insert, List.map_cons]
    by_cases h1 : key ∈ l.map k
    · rw [if_pos h1, if_pos (List.mem_cons_of_mem _ h1)]
    · rw [if_neg h1]
      by_cases h2 : k a = key
      · rw [if_pos h2, if_pos (h2 ▸ List.mem_cons_self), hg a List.mem_cons_self, h2]
      · rw [if_neg h2, if_neg fun hc => (List.mem_cons.1 hc).elim (fun e => h2 e.symm) h1]

theorem mem_keys_ainsert {ν : Type} (m : List (Nat × ν)) (k : Nat) (v : ν) (key : Nat) :
    key ∈ (ainsert m k v).map (·.1) ↔ key ∈ m.map (·.1) ∨ key = k := by
  rw [AL.keys_insert]
  split
  · exact ⟨Or.inl, fun h => h.elim id fun e => e ▸ ‹k ∈ m.map (·.1)›⟩
  · rw [List.mem_append, List.mem_singleton]

theorem keys_foldl_ainsert {α ν : Type} (k : α → Nat) (g : α → ν) (l : List α)
    (m0 : List (Nat × ν)) (key : Nat) :
    key ∈ (l.foldl (fun m x => ainsert m (k x) (g x)) m0).map (·.1) ↔ key ∈ m0.map (·.1) ∨ key ∈ l.map k := by
  induction l generalizing m0 with
  | nil => exact (or_iff_left List.not_mem_nil).symm
  | cons a l ih => rw [List.foldl_cons, ih, mem_keys_ainsert, List.map_cons, List.mem_cons, or_assoc]

theorem ainsert_same {ν : Type} (g : Nat → ν) (acc : List Nat) (a : Nat) (ha : a ∈ acc) :
    ainsert (acc.map fun n => (n, g n)) a (g a) = acc.map fun n => (n, g n) := by
  induction acc with
  | nil => cases ha
  | cons b acc ih =>
    by_cases hb : b = a
    · rw [List.map_cons, ainsert, if_pos hb, hb]
    · rw [List.map_cons, ainsert, if_neg hb, ih ((List.mem_cons.1 ha).resolve_left (Ne.symm hb))]

theorem foldl_ainsert_dedup {ν : Type} (g : Nat → ν) (l acc : List Nat) :
    l.foldl (fun m n => ainsert m n (g n)) (acc.map fun n => (n, g n))
      = (l.foldl sinsert acc).map fun n => (n, g n) := by
  induction l generalizing acc with
  | nil => rfl
  | cons a l ih =>
    rw [List.foldl_cons, List.foldl_cons, ← ih]
    congr 1
    unfold sinsert
    split
    · exact ainsert_same g acc a ‹a ∈ acc›
    · rw [C09M.ainsert_fresh _ a _ (by rwa [List.map_map, List.map_id'' (f := _ ∘ _) fun _ => rfl]), List.map_append]
      rfl

theorem inter_length_symm {α} [DecidableEq α] (l1 l2 : List α) (h1 : l1.Nodup) (h2 : l2.Nodup) :
    (l1.filter (· ∈ l2)).length = (l2.filter (· ∈ l1)).length := by
  apply List.Perm.length_eq
  apply (List.perm_ext_iff_of_nodup (h1.filter _) (h2.filter _)).2
  intro x
  rw [List.mem_filter, List.mem_filter, decide_eq_true_eq, decide_eq_true_eq]
  exact and_comm

theorem filter_length_perm {α} {l1 l2 : List α} (p q : α → Bool) (h : l1.Perm l2) (hpq : ∀ x ∈ l1, p x = q x) :
    (l1.filter p).length = (l2.filter q).length := by
  rw [List.filter_congr hpq]
  exact (h.filter q).length_eq

theorem foldl_add_map {α M} [AddMonoid M] (l : List α) (f : α → M) (t0 : M) :
    l.foldl (fun t j => t + f j) t0 = t0 + (l.map f).sum := by
  induction l generalizing t0 with
  | nil => exact (add_zero t0).symm
  | cons a l ih => rw [List.foldl_cons, ih, List.map_cons, List.sum_cons, add_assoc]

theorem sum_flatMap {α M} [AddMonoid M] (l : List α) (f : α → List M) :
    (l.flatMap f).sum = (l.map fun x => (f x).sum).sum := by
  rw [List.flatMap_def, List.sum_flatten, List.map_map]
  rfl

theorem sum_sublist {M} [AddCommMonoid M] {ns L : List Nat} (hns : ns.Nodup) (hL : L.Nodup)
    (hsub : ∀ x ∈ L, x ∈ ns) (f : Nat → M) :
    (L.map f).sum = (ns.map fun j => if j ∈ L then f j else 0).sum := by
  have hp : L.Perm (ns.filter (· ∈ L)) :=
    (List.perm_ext_iff_of_nodup hL (hns.filter _)).2 fun x => by
      rw [List.mem_filter, decide_eq_true_eq]
      exact ⟨fun hx => ⟨hsub x hx, hx⟩, fun hx => hx.2⟩
  rw [(hp.map f).sum_eq, C11aux.sum_filter]
  simp only [decide_eq_true_eq]

theorem pairsOf_eq_pairs {α} (l : List α) : Store.pairsOf l = Abs.pairs l := by
  induction l with
  | nil => rfl
  | cons a l ih => rw [Store.pairsOf, Abs.pairs, ih]

theorem mem_pairs {α} (l : List α) (p : α × α) (hp : p ∈ Abs.pairs l) : p.1 ∈ l ∧ p.2 ∈ l := by
  induction l with
  | nil => cases hp
  | cons a l ih =>
    rw [Abs.pairs, List.mem_append, List.mem_map] at hp
    rcases hp with ⟨y, hy, rfl⟩ | hp
    · exact ⟨List.mem_cons_self, List.mem_cons_of_mem _ hy⟩
    · exact ⟨List.mem_cons_of_mem _ (ih hp).1, List.mem_cons_of_mem _ (ih hp).2⟩

theorem sum_pairs_perm {α} (f : α × α → Int) (hf : ∀ a b, f (a, b) = f (b, a)) {l1 l2 : List α}
    (h : l1.Perm l2) : ((Abs.pairs l1).map f).sum = ((Abs.pairs l2).map f).sum := by
  induction h with
  | nil => rfl
  | cons x hp ih =>
    simp only [Abs.pairs, List.map_append, List.sum_append, List.map_map, ih]
    congr 1
    exact ((hp.map _).sum_eq)
  | swap x y l =>
    simp only [Abs.pairs, List.map_append, List.sum_append, List.map_map, List.map_cons, List.sum_cons,
      Function.comp_def]
    rw [hf x y]
    ring
  | trans _ _ ih1 ih2 => exact ih1.trans ih2

/-- `Graphrs.length_sortNat` of Lemmas/ListSet.lean under this namespace -/
theorem length_sortNat (l : List Nat) : (sortNat l).length = l.length :=
  Graphrs.length_sortNat l

end C11M
end Graphrs
