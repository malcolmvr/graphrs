/-
  Association-list algebra (alookup / ainsert / amodify).
-/
import GraphrsModel.Lemmas.ListSet
namespace Graphrs
namespace AL

section
universe u v
variable {κ : Type u} {ν : Type v} [DecidableEq κ]

theorem lookup_insert (m : List (κ × ν)) (k k' : κ) (v : ν) :
    alookup (ainsert m k v) k' = if k = k' then some v else alookup m k' := by
  induction m with
  | nil => rfl
  | cons p m ih =>
    obtain ⟨a, b⟩ := p
    by_cases h : a = k
    · subst h
      simp only [ainsert, alookup, if_true]
      split <;> rfl
    · simp only [ainsert, alookup, if_neg h, ih]
      by_cases h2 : a = k'
      · simp only [if_pos h2, if_neg (fun e : k = k' => h (h2.trans e.symm))]
      · simp only [if_neg h2]

theorem lookup_insert_self (m : List (κ × ν)) (k : κ) (v : ν) : alookup (ainsert m k v) k = some v :=
  (lookup_insert m k k v).trans (if_pos rfl)

theorem lookup_insert_ne (m : List (κ × ν)) {k k' : κ} (v : ν) (h : k ≠ k') :
    alookup (ainsert m k v) k' = alookup m k' :=
  (lookup_insert m k k' v).trans (if_neg h)

theorem lookup_mem {m : List (κ × ν)} {k : κ} {v : ν}
    (h : alookup m k = some v) : (k, v) ∈ m := by
  induction m with
  | nil => cases h
  | cons p m ih =>
    obtain ⟨a, b⟩ := p
    simp only [alookup] at h
    split at h
    · rename_i h2
      cases h; subst h2
      exact List.mem_cons_self
    · exact List.mem_cons_of_mem _ (ih h)

theorem lookup_none_iff (m : List (κ × ν)) (k : κ) :
    alookup m k = none ↔ k ∉ m.map (·.1) := by
  induction m with
  | nil => exact ⟨fun _ h => (nomatch h), fun _ => rfl⟩
  | cons p m ih =>
    obtain ⟨a, b⟩ := p
    simp only [alookup, List.map_cons, List.mem_cons, not_or]
    split
    · rename_i h
      exact ⟨fun e => (nomatch e), fun e => absurd h.symm e.1⟩
    · rename_i h
      exact ⟨fun e => ⟨fun e' => h e'.symm, ih.mp e⟩, fun e => ih.mpr e.2⟩

theorem mem_lookup {m : List (κ × ν)} (hn : (m.map (·.1)).Nodup) {k : κ} {v : ν}
    (h : (k, v) ∈ m) : alookup m k = some v := by
  induction m with
  | nil => cases h
  | cons p m ih =>
    obtain ⟨a, b⟩ := p
    rw [List.map_cons, List.nodup_cons] at hn
    rcases List.mem_cons.mp h with h | h
    · cases h
      exact if_pos rfl
    · have : a ≠ k := fun e => hn.1 (List.mem_map.mpr ⟨(k, v), h, e.symm⟩)
      exact (if_neg this).trans (ih hn.2 h)

theorem all_iff {m : List (κ × ν)} (hn : (m.map (·.1)).Nodup) (p : κ × ν → Bool) :
    m.all p = true ↔ ∀ k v, alookup m k = some v → p (k, v) = true := by
  rw [List.all_eq_true]
  exact ⟨fun h k v hl => h _ (lookup_mem hl), fun h kv hkv => h kv.1 kv.2 (mem_lookup hn hkv)⟩

theorem lookup_map_snd {ν' : Type v} (m : List (κ × ν)) (f : ν → ν') (k : κ) :
    alookup (m.map fun kv => (kv.1, f kv.2)) k = (alookup m k).map f := by
  induction m with
  | nil => rfl
  | cons p m ih =>
    obtain ⟨a, b⟩ := p
    by_cases h : a = k
    · simp only [List.map_cons, alookup, if_pos h, Option.map_some]
    · simp only [List.map_cons, alookup, if_neg h, ih]

theorem mem_insert {m : List (κ × ν)} {k : κ} {v : ν} {p : κ × ν} (h : p ∈ ainsert m k v) :
    p ∈ m ∨ p = (k, v) := by
  induction m with
  | nil => exact .inr (List.mem_singleton.1 h)
  | cons q m ih =>
    unfold ainsert at h
    split at h
    · exact (List.mem_cons.1 h).symm.imp_left (List.mem_cons_of_mem _)
    · rcases List.mem_cons.1 h with h | h
      · exact .inl (h ▸ List.mem_cons_self)
      · exact (ih h).imp_left (List.mem_cons_of_mem _)

theorem keys_insert (m : List (κ × ν)) (k : κ) (v : ν) :
    (ainsert m k v).map (·.1) = if k ∈ m.map (·.1) then m.map (·.1) else m.map (·.1) ++ [k] := by
  induction m with
  | nil => rfl
  | cons p m ih =>
    obtain ⟨a, b⟩ := p
    by_cases h : a = k
    · subst h
      simp only [ainsert, if_true, List.map_cons, List.mem_cons, true_or]
    · have h' : k ≠ a := fun e => h e.symm
      simp only [ainsert, if_neg h, List.map_cons, ih, List.mem_cons, h', false_or]
      split <;> rfl

theorem nodup_insert {m : List (κ × ν)} (hn : (m.map (·.1)).Nodup) (k : κ) (v : ν) :
    ((ainsert m k v).map (·.1)).Nodup := by
  rw [keys_insert]
  split
  · exact hn
  · rename_i h
    rw [List.nodup_append]
    exact ⟨hn, List.pairwise_singleton _ k, fun a ha b hb e => h (List.mem_singleton.mp hb ▸ e ▸ ha)⟩

end

variable {κ ν : Type} [DecidableEq κ]

theorem lookup_isSome_iff (m : List (κ × ν)) (k : κ) :
    (alookup m k).isSome = true ↔ k ∈ m.map (·.1) := by
  rw [← Decidable.not_iff_not, ← lookup_none_iff, Option.not_isSome_iff_eq_none]

theorem mem_iff_lookup {m : List (κ × ν)} (hn : (m.map (·.1)).Nodup) (k : κ) (v : ν) :
    (k, v) ∈ m ↔ alookup m k = some v := ⟨mem_lookup hn, lookup_mem⟩

theorem lookup_modify (m : List (κ × ν)) (k k' : κ) (d : ν) (f : ν → ν) :
    alookup (amodify m k d f) k' =
      if k = k' then some (f ((alookup m k).getD d)) else alookup m k' :=
  lookup_insert _ _ _ _

theorem nodup_modify {m : List (κ × ν)} (hn : (m.map (·.1)).Nodup) (k : κ) (d : ν) (f : ν → ν) :
    ((amodify m k d f).map (·.1)).Nodup := nodup_insert hn _ _

theorem flatMap_filter {ε : Type} [BEq κ] [LawfulBEq κ] (key : ε → κ) (m : List (κ × List ε))
    (hn : (m.map (·.1)).Nodup) (hk : ∀ kv ∈ m, ∀ e ∈ kv.2, key e = kv.1) (k : κ) :
    (m.flatMap (·.2)).filter (fun e => key e == k) = (alookup m k).getD [] := by
  induction m with
  | nil => rfl
  | cons p m ih =>
    obtain ⟨a, l⟩ := p
    rw [List.map_cons, List.nodup_cons] at hn
    have hl : ∀ e ∈ l, key e = a := hk (a, l) List.mem_cons_self
    rw [List.flatMap_cons, List.filter_append, ih hn.2 (fun kv h => hk kv (List.mem_cons_of_mem _ h))]
    simp only [alookup]
    split
    · rename_i h
      subst h
      rw [(lookup_none_iff m a).mpr hn.1, List.filter_eq_self.mpr (fun e he => beq_iff_eq.mpr (hl e he))]
      exact List.append_nil l
    · rename_i h
      rw [List.filter_eq_nil_iff.mpr (fun e he hc => h ((hl e he).symm.trans (beq_iff_eq.mp hc)))]
      rfl

omit [DecidableEq κ] in
theorem mem_flatMap_iff {ε : Type} (m : List (κ × List ε)) (e : ε) :
    e ∈ m.flatMap (·.2) ↔ ∃ k l, (k, l) ∈ m ∧ e ∈ l := by
  rw [List.mem_flatMap]
  exact ⟨fun ⟨kv, h1, h2⟩ => ⟨kv.1, kv.2, h1, h2⟩, fun ⟨k, l, h1, h2⟩ => ⟨(k, l), h1, h2⟩⟩

end AL
end Graphrs
