/-
  Definitions for Props/C13TerminationFull.lean: copies of `computeOneLevel`, `levelLoop` and `louvainPartitions`
  (Model/LouvainFull.lean) that
    * take the two fuels as parameters (`louvainPartitionsF`), and
    * report WHY they stop without a result (`computeOneLevelW`, `levelLoopW`, `louvainPartitionsW`:
      `Except Stop _` instead of `Option _`),
  the proofs that they are the same functions (erasing the reason with `Except.toOption` gives back the functions
  of the model), and fuel monotonicity: more fuel never changes a result that was not caused by the fuel.
-/
import GraphrsModel.Model.LouvainFull
import GraphrsModel.Lemmas.LouvainGraphs
namespace Graphrs
namespace LouvainFull

/-- why the model stops without a list of levels -/
inductive Stop where
  /-- the fuel of the local-moving loop `sweeps` ran out -/
  | sweepFuel
  /-- the fuel of the level loop ran out -/
  | levelFuel
  /-- the local-moving loop finished, in a state flagged `risky` (two candidate gains within 1e-9) -/
  | risky
  /-- `modularity` returned `None` (an undefined value) -/
  | modularityUndefined
  deriving DecidableEq, Repr

/-- the total edge weight `louvain_partitions` passes down as `m` -/
def mOf (lv : Level) (weighted : Bool) : Rat :=
  if weighted then ratW lv.g.sizeWeighted else (lv.g.sizeUnweighted : Rat)

/-- `computeOneLevel`, reporting why there is no result -/
def computeOneLevelW (lv : Level) (m res : Rat) (partition : List (List Nat)) (perm : List Nat) (fuel : Nat) :
    Outcome (Except Stop (List (List Nat) × List (List Nat) × Bool)) := do
  let names := sortNat lv.g.getAllNodeNames
  let di ← degreeInformation lv.g partition.length
  let base := lv.g.getAllNodeNames
  let order := perm.filterMap fun i => base[i]?
  let st0 : LState := { part := partition, inner := names.map fun n => [n], node2com := names.map fun n => (n, n),
                        di := di, improvement := false, moves := 0 }
  match ← sweeps lv m res order fuel st0 with
  | none => .ok (.error .sweepFuel)
  | some st => if st.risky then .ok (.error .risky)
               else .ok (.ok (st.part.filter (!·.isEmpty), st.inner.filter (!·.isEmpty), st.improvement))

/-- `levelLoop`, reporting why there is no result -/
def levelLoopW (weighted : Bool) (res threshold m : Rat) (perms : List (List Nat)) (sweepFuel : Nat) :
    Nat → Level → List (List Nat) → List (List Nat) → Bool → Rat → List (List (List Nat)) →
      Outcome (Except Stop (List (List (List Nat))))
  | 0, _, _, _, _, _, _ => .ok (.error .levelFuel)
  | fuel + 1, lv, partition, inner, improvement, modularity, acc =>
    if !improvement then .ok (.ok acc)
    else do
      let acc := acc ++ [partition]
      match ← (lv.g.modularity inner weighted res).unwrap "louvain_partitions: modularity().unwrap()" with
      | none => .ok (.error .modularityUndefined)
      | some newMod =>
        if newMod - modularity ≤ threshold then .ok (.ok acc)
        else do
          let lv' ← generateGraph lv inner
          let perm := perms[lv'.g.numNodes]?.getD []
          match ← computeOneLevelW lv' m res partition perm sweepFuel with
          | .error s => .ok (.error s)
          | .ok (p, i, imp) => levelLoopW weighted res threshold m perms sweepFuel fuel lv' p i imp newMod acc

/-- `louvainPartitions` after `convert_graph`, with the two fuels as parameters, reporting why there is no result -/
def lpTailW (sweepFuel levelFuel : Nat) (lv : Level) (weighted : Bool) (res threshold : Rat) (perms : List (List Nat)) :
    Outcome (Except Stop (List (List (List Nat)))) := do
  let n := lv.g.numNodes
  let partition : List (List Nat) := (List.range n).map fun i => [i]
  match ← (lv.g.modularity partition weighted res).unwrap "louvain_partitions: modularity().unwrap()" with
  | none => .ok (.error .modularityUndefined)
  | some mod0 =>
    match ← computeOneLevelW lv (mOf lv weighted) res partition (perms[n]?.getD []) sweepFuel with
    | .error s => .ok (.error s)
    | .ok (p, i, _) => levelLoopW weighted res threshold (mOf lv weighted) perms sweepFuel levelFuel lv p i true mod0 []

/-- `louvainPartitions` with the two fuels as parameters, reporting why there is no result -/
def louvainPartitionsW (sweepFuel levelFuel : Nat) (s : Store) (weighted : Bool) (res threshold : Rat)
    (perms : List (List Nat)) : Outcome (Except Stop (List (List (List Nat)))) := do
  let lv ← convertGraph s weighted
  lpTailW sweepFuel levelFuel lv weighted res threshold perms

/-- `louvainPartitions` after `convert_graph`, with the two fuels as parameters -/
def lpTailF (sweepFuel levelFuel : Nat) (lv : Level) (weighted : Bool) (res threshold : Rat) (perms : List (List Nat)) :
    Outcome (Option (List (List (List Nat)))) := do
  let n := lv.g.numNodes
  let partition : List (List Nat) := (List.range n).map fun i => [i]
  match ← (lv.g.modularity partition weighted res).unwrap "louvain_partitions: modularity().unwrap()" with
  | none => .ok none
  | some mod0 =>
    match ← computeOneLevel lv (mOf lv weighted) res partition (perms[n]?.getD []) sweepFuel with
    | none => .ok none
    | some (p, i, _) => levelLoop weighted res threshold (mOf lv weighted) perms sweepFuel levelFuel lv p i true mod0 []

/-- `louvainPartitions` with the two fuels as parameters (the level loop `levelLoop` of the model already takes both) -/
def louvainPartitionsF (sweepFuel levelFuel : Nat) (s : Store) (weighted : Bool) (res threshold : Rat)
    (perms : List (List Nat)) : Outcome (Option (List (List (List Nat)))) := do
  let lv ← convertGraph s weighted
  lpTailF sweepFuel levelFuel lv weighted res threshold perms

end LouvainFull

open LouvainFull
namespace LF
open Outcome (bind_ok)

/-- the model is `convert_graph` followed by `lpTailF` at the hard-coded fuels `4 n² + 16` and `n + 2` -/
theorem louvainPartitions_eq_tail (s : Store) (weighted : Bool) (res threshold : Rat) (perms : List (List Nat)) :
    louvainPartitions s weighted res threshold perms =
      Outcome.bind (convertGraph s weighted) fun lv =>
        lpTailF (4 * lv.g.numNodes * lv.g.numNodes + 16) (lv.g.numNodes + 2) lv weighted res threshold perms := by
  unfold louvainPartitions lpTailF mOf
  rfl

/-! ### erasing the reason -/

theorem computeOneLevel_erase (lv : Level) (m res : Rat) (partition : List (List Nat)) (perm : List Nat) (fuel : Nat) :
    computeOneLevel lv m res partition perm fuel =
      (computeOneLevelW lv m res partition perm fuel).map' Except.toOption := by
  unfold computeOneLevel computeOneLevelW
  simp only [bind, Outcome.bind]
  cases degreeInformation lv.g partition.length with
  | err k => rfl
  | panic k => rfl
  | ok di =>
    simp only
    generalize sweeps lv m res _ fuel _ = o
    cases o with
    | err k => rfl
    | panic k => rfl
    | ok r =>
      cases r with
      | none => rfl
      | some st =>
        simp only
        by_cases hr : st.risky = true
        · simp only [hr, if_true]; rfl
        · simp only [hr]; rfl

theorem computeOneLevel_eq_some {lv : Level} {m res : Rat} {partition : List (List Nat)} {perm : List Nat} {fuel : Nat}
    {r : List (List Nat) × List (List Nat) × Bool} :
    computeOneLevel lv m res partition perm fuel = .ok (some r) ↔
      computeOneLevelW lv m res partition perm fuel = .ok (.ok r) := by
  rw [computeOneLevel_erase, Outcome.map'_toOption_eq_some]

/-- what one level returns, from what its `sweeps` returned -/
def levelResult : Option LState → Except Stop (List (List Nat) × List (List Nat) × Bool)
  | none => .error .sweepFuel
  | some st => if st.risky then .error .risky
               else .ok (st.part.filter (!·.isEmpty), st.inner.filter (!·.isEmpty), st.improvement)

theorem computeOneLevelW_eq (lv : Level) (m res : Rat) (partition : List (List Nat)) (perm : List Nat) (fuel : Nat) :
    computeOneLevelW lv m res partition perm fuel =
      (degreeInformation lv.g partition.length).bind fun di =>
        (sweeps lv m res (perm.filterMap fun i => lv.g.getAllNodeNames[i]?) fuel
          { part := partition, inner := (sortNat lv.g.getAllNodeNames).map fun n => [n],
            node2com := (sortNat lv.g.getAllNodeNames).map fun n => (n, n), di := di, improvement := false,
            moves := 0 }).map' levelResult := by
  unfold computeOneLevelW
  simp only [bind, Outcome.bind]
  cases degreeInformation lv.g partition.length with
  | err k => rfl
  | panic k => rfl
  | ok di =>
    simp only
    generalize sweeps lv m res _ fuel _ = o
    cases o with
    | err k => rfl
    | panic k => rfl
    | ok r =>
      cases r with
      | none => rfl
      | some st =>
        simp only [Outcome.map', levelResult]
        split <;> rfl

theorem levelResult_error {o : Option LState} {s : Stop} (h : levelResult o = .error s) :
    (o = none ∧ s = .sweepFuel) ∨ ∃ st, o = some st ∧ st.risky = true ∧ s = .risky := by
  cases o with
  | none => cases h; exact Or.inl ⟨rfl, rfl⟩
  | some st =>
    by_cases hr : st.risky = true
    · rw [levelResult, if_pos hr] at h; cases h; exact Or.inr ⟨st, rfl, hr, rfl⟩
    · rw [levelResult, if_neg hr] at h; cases h

theorem levelResult_ok {o : Option LState} {r : List (List Nat) × List (List Nat) × Bool} (h : levelResult o = .ok r) :
    ∃ st, o = some st ∧ st.risky = false ∧
      r = (st.part.filter (!·.isEmpty), st.inner.filter (!·.isEmpty), st.improvement) := by
  cases o with
  | none => cases h
  | some st =>
    by_cases hr : st.risky = true
    · rw [levelResult, if_pos hr] at h; cases h
    · rw [levelResult, if_neg hr] at h; cases h; exact ⟨st, rfl, Bool.eq_false_iff.2 hr, rfl⟩

/-- `computeOneLevelW` never reports `levelFuel` or `modularityUndefined` -/
theorem computeOneLevelW_stop {lv : Level} {m res : Rat} {partition : List (List Nat)} {perm : List Nat} {fuel : Nat}
    {st : Stop} (h : computeOneLevelW lv m res partition perm fuel = .ok (.error st)) :
    st = .sweepFuel ∨ st = .risky := by
  rw [computeOneLevelW_eq] at h
  obtain ⟨di, -, h⟩ := Outcome.bind_eq_ok.1 h
  obtain ⟨o, -, hr⟩ := Outcome.map'_eq_ok.1 h
  rcases levelResult_error hr with ⟨-, h⟩ | ⟨-, -, -, h⟩
  · exact Or.inl h
  · exact Or.inr h

theorem levelLoop_erase (weighted : Bool) (res threshold m : Rat) (perms : List (List Nat)) (sweepFuel : Nat) :
    ∀ (fuel : Nat) (lv : Level) (partition inner : List (List Nat)) (improvement : Bool) (modularity : Rat)
      (acc : List (List (List Nat))),
    levelLoop weighted res threshold m perms sweepFuel fuel lv partition inner improvement modularity acc =
      (levelLoopW weighted res threshold m perms sweepFuel fuel lv partition inner improvement modularity acc).map'
        Except.toOption := by
  intro fuel
  induction fuel with
  | zero => intro lv partition inner improvement modularity acc; rfl
  | succ fuel ih =>
    intro lv partition inner improvement modularity acc
    unfold levelLoop levelLoopW
    cases improvement with
    | false => rfl
    | true =>
      cases (lv.g.modularity inner weighted res).unwrap "louvain_partitions: modularity().unwrap()" with
      | err k => rfl
      | panic k => rfl
      | ok omod =>
        cases omod with
        | none => rfl
        | some newMod =>
          simp only [bind, bind_ok, Bool.not_true, Bool.false_eq_true, if_false]
          by_cases hth : newMod - modularity ≤ threshold
          · rw [if_pos hth, if_pos hth]; rfl
          · rw [if_neg hth, if_neg hth]
            cases generateGraph lv inner with
            | err k => rfl
            | panic k => rfl
            | ok lv' =>
              rw [bind_ok, bind_ok, computeOneLevel_erase]
              cases computeOneLevelW lv' m res partition (perms[lv'.g.numNodes]?.getD []) sweepFuel with
              | err k => rfl
              | panic k => rfl
              | ok r =>
                cases r with
                | error s => rfl
                | ok r => exact ih lv' r.1 r.2.1 r.2.2 newMod _

theorem lpTail_erase (sweepFuel levelFuel : Nat) (lv : Level) (weighted : Bool) (res threshold : Rat)
    (perms : List (List Nat)) :
    lpTailF sweepFuel levelFuel lv weighted res threshold perms =
      (lpTailW sweepFuel levelFuel lv weighted res threshold perms).map' Except.toOption := by
  unfold lpTailF lpTailW
  simp only [bind, Outcome.bind]
  cases (lv.g.modularity ((List.range lv.g.numNodes).map fun i => [i]) weighted res).unwrap
      "louvain_partitions: modularity().unwrap()" with
  | err k => rfl
  | panic k => rfl
  | ok omod =>
    cases omod with
    | none => rfl
    | some mod0 =>
      simp only
      rw [computeOneLevel_erase]
      cases computeOneLevelW lv (mOf lv weighted) res ((List.range lv.g.numNodes).map fun i => [i])
          (perms[lv.g.numNodes]?.getD []) sweepFuel with
      | err k => rfl
      | panic k => rfl
      | ok r =>
        cases r with
        | error s => rfl
        | ok r =>
          obtain ⟨p, i, imp⟩ := r
          simp only [Outcome.map', Except.toOption]
          exact levelLoop_erase weighted res threshold _ perms sweepFuel levelFuel lv p i true mod0 []

/-! ### more fuel never changes a result that was not caused by the fuel -/

/-- the result is not one of the two fuel stops -/
def NotFuel {α : Type} (r : Outcome (Except Stop α)) : Prop :=
  r ≠ .ok (.error .sweepFuel) ∧ r ≠ .ok (.error .levelFuel)

/-- a result of `sweeps` other than "fuel exhausted" is the result for every larger fuel -/
theorem sweeps_fuel_mono (lv : Level) (m res : Rat) (order : List Nat) :
    ∀ (F F' : Nat) (st : LState), F ≤ F' → sweeps lv m res order F st ≠ .ok none →
      sweeps lv m res order F' st = sweeps lv m res order F st := by
  intro F
  induction F with
  | zero => intro F' st _ h; exact absurd rfl h
  | succ F ih =>
    intro F' st hle h
    obtain ⟨G, rfl⟩ : ∃ G, F' = G + 1 := ⟨F' - 1, by omega⟩
    unfold sweeps at h ⊢
    simp only [bind, Outcome.bind] at h ⊢
    generalize List.foldl _ _ order = o at h ⊢
    cases o with
    | err k => rfl
    | panic k => rfl
    | ok st1 =>
      simp only at h ⊢
      by_cases hmv : st1.moves > 0
      · simp only [if_pos hmv] at h ⊢
        exact ih G st1 (by omega) h
      · simp only [if_neg hmv]

theorem computeOneLevelW_fuel_mono {lv : Level} {m res : Rat} {partition : List (List Nat)} {perm : List Nat} {F F' : Nat}
    (hle : F ≤ F') (h : computeOneLevelW lv m res partition perm F ≠ .ok (.error .sweepFuel)) :
    computeOneLevelW lv m res partition perm F' = computeOneLevelW lv m res partition perm F := by
  simp only [computeOneLevelW_eq] at h ⊢
  cases hdi : degreeInformation lv.g partition.length with
  | err k => rfl
  | panic k => rfl
  | ok di =>
    rw [hdi, bind_ok] at h
    rw [bind_ok, bind_ok, sweeps_fuel_mono lv m res _ F F' _ hle]
    intro hc
    rw [hc] at h
    exact h rfl

theorem levelLoopW_fuel_mono (weighted : Bool) (res threshold m : Rat) (perms : List (List Nat)) (F1 F1' : Nat)
    (h1 : F1 ≤ F1') :
    ∀ (F2 F2' : Nat) (lv : Level) (partition inner : List (List Nat)) (improvement : Bool) (modularity : Rat)
      (acc : List (List (List Nat))), F2 ≤ F2' →
    NotFuel (levelLoopW weighted res threshold m perms F1 F2 lv partition inner improvement modularity acc) →
    levelLoopW weighted res threshold m perms F1' F2' lv partition inner improvement modularity acc =
      levelLoopW weighted res threshold m perms F1 F2 lv partition inner improvement modularity acc := by
  intro F2
  induction F2 with
  | zero => intro F2' lv partition inner improvement modularity acc _ h; exact absurd rfl h.2
  | succ F2 ih =>
    intro F2' lv partition inner improvement modularity acc hle h
    obtain ⟨G, rfl⟩ : ∃ G, F2' = G + 1 := ⟨F2' - 1, by omega⟩
    unfold levelLoopW at h ⊢
    cases improvement with
    | false => simp only [Bool.not_false, if_true]
    | true =>
      simp only [bind, Bool.not_true, Bool.false_eq_true, if_false] at h ⊢
      cases hmod : (lv.g.modularity inner weighted res).unwrap "louvain_partitions: modularity().unwrap()" with
      | err k => rw [Outcome.bind_err, Outcome.bind_err]
      | panic k => rw [Outcome.bind_panic, Outcome.bind_panic]
      | ok omod =>
        rw [hmod] at h
        rw [bind_ok] at h ⊢
        rw [bind_ok]
        cases omod with
        | none => exact rfl
        | some newMod =>
          simp only at h ⊢
          by_cases hth : newMod - modularity ≤ threshold
          · rw [if_pos hth, if_pos hth]
          · rw [if_neg hth] at h
            rw [if_neg hth, if_neg hth]
            cases hgen : generateGraph lv inner with
            | err k => rw [Outcome.bind_err, Outcome.bind_err]
            | panic k => rw [Outcome.bind_panic, Outcome.bind_panic]
            | ok lv' =>
              rw [hgen, bind_ok] at h
              rw [bind_ok, bind_ok]
              have hne : computeOneLevelW lv' m res partition (perms[lv'.g.numNodes]?.getD []) F1 ≠
                  .ok (.error .sweepFuel) := by
                intro hc
                rw [hc] at h
                exact h.1 rfl
              rw [computeOneLevelW_fuel_mono h1 hne]
              cases hcol : computeOneLevelW lv' m res partition (perms[lv'.g.numNodes]?.getD []) F1 with
              | err k => rw [Outcome.bind_err, Outcome.bind_err]
              | panic k => rw [Outcome.bind_panic, Outcome.bind_panic]
              | ok r =>
                rw [hcol] at h
                rw [bind_ok] at h ⊢
                rw [bind_ok]
                cases r with
                | error s => exact rfl
                | ok r => exact ih G lv' r.1 r.2.1 r.2.2 newMod _ (by omega) h

theorem lpTailW_fuel_mono {F1 F1' F2 F2' : Nat} (h1 : F1 ≤ F1') (h2 : F2 ≤ F2') (lv : Level) (weighted : Bool)
    (res threshold : Rat) (perms : List (List Nat))
    (h : NotFuel (lpTailW F1 F2 lv weighted res threshold perms)) :
    lpTailW F1' F2' lv weighted res threshold perms = lpTailW F1 F2 lv weighted res threshold perms := by
  unfold lpTailW at h ⊢
  simp only [bind, Outcome.bind] at h ⊢
  generalize (lv.g.modularity ((List.range lv.g.numNodes).map fun i => [i]) weighted res).unwrap
      "louvain_partitions: modularity().unwrap()" = om at h ⊢
  cases om with
  | err k => rfl
  | panic k => rfl
  | ok omod =>
    cases omod with
    | none => rfl
    | some mod0 =>
      simp only at h ⊢
      have hne : computeOneLevelW lv (mOf lv weighted) res ((List.range lv.g.numNodes).map fun i => [i])
          (perms[lv.g.numNodes]?.getD []) F1 ≠ .ok (.error .sweepFuel) := by
        intro hc
        rw [hc] at h
        exact h.1 rfl
      rw [computeOneLevelW_fuel_mono h1 hne]
      cases hcol : computeOneLevelW lv (mOf lv weighted) res ((List.range lv.g.numNodes).map fun i => [i])
          (perms[lv.g.numNodes]?.getD []) F1 with
      | err k => rfl
      | panic k => rfl
      | ok r =>
        rw [hcol] at h
        cases r with
        | error s => rfl
        | ok r =>
          obtain ⟨p, i, imp⟩ := r
          simp only at h ⊢
          exact levelLoopW_fuel_mono weighted res threshold _ perms F1 F1' h1 F2 F2' lv p i true mod0 [] h2 h

end LF
end Graphrs
