/-
  The loop invariant of the Dijkstra model (lazy deletion), stated over the three components
  (dist, seen, fringe) of `DState`, and its preservation by the abstract steps (pop of a stale
  entry, pop of a fresh entry, skip of an adjacency entry, push).
-/
import GraphrsModel.Model.Dijkstra
import GraphrsModel.Spec.Walk
import GraphrsModel.Lemmas.C04Aux
namespace Graphrs

def lk (l : List (Option Int)) (v : Nat) : Option Int := l[v]?.join

theorem lk_set_self (l : List (Option Int)) (u : Nat) (x : Option Int) (h : u < l.length) :
    lk (l.set u x) u = x := by
  simp [lk, h]

theorem lk_set_ne (l : List (Option Int)) (u v : Nat) (x : Option Int) (h : u ≠ v) :
    lk (l.set u x) v = lk l v := by
  simp [lk, List.getElem?_set_ne h]

theorem lk_replicate_none (n v : Nat) : lk (List.replicate n none) v = none := by
  unfold lk
  rw [List.getElem?_replicate]
  split <;> rfl

theorem lk_lt_of_some {l : List (Option Int)} {v : Nat} {d : Int} (h : lk l v = some d) : v < l.length := by
  refine Nat.lt_of_not_le fun hv => ?_
  rw [lk, List.getElem?_eq_none hv] at h
  cases h

theorem lk_set_forall {l : List (Option Int)} {v : Nat} {d : Int} {P : Nat → Int → Prop} (hvn : v < l.length)
    (hv : P v d) (h : ∀ u du, lk l u = some du → P u du) :
    ∀ u du, lk (l.set v (some d)) u = some du → P u du := by
  intro u du hu
  by_cases e : v = u
  · rw [← e, lk_set_self _ _ _ hvn] at hu
    cases hu
    exact e ▸ hv
  · rw [lk_set_ne _ _ _ _ e] at hu
    exact h u du hu

theorem better_le {a b : FNode} (h : FNode.better a b = true) : a.1 ≤ b.1 := by
  unfold FNode.better at h
  simp only [Bool.or_eq_true, decide_eq_true_eq, Bool.and_eq_true, beq_iff_eq] at h
  exact h.elim Int.le_of_lt fun h => Int.le_of_eq h.1

theorem not_better_le {a b : FNode} (h : ¬ FNode.better a b = true) : b.1 ≤ a.1 := by
  unfold FNode.better at h
  simp only [Bool.or_eq_true, decide_eq_true_eq, Bool.and_eq_true, beq_iff_eq, not_or] at h
  exact Int.not_lt.1 h.1

theorem popFringe_none {fr : List FNode} (h : popFringe fr = none) : fr = [] := by
  cases fr with
  | nil => rfl
  | cons x xs => cases h

theorem popFringe_some {fr : List FNode} {b : FNode} {rest : List FNode}
    (h : popFringe fr = some (b, rest)) :
    b ∈ fr ∧ rest = fr.erase b ∧ (∀ e ∈ fr, b.1 ≤ e.1) := by
  cases fr with
  | nil => cases h
  | cons x xs =>
    simp only [popFringe, Option.some.injEq, Prod.mk.injEq] at h
    obtain ⟨h1, h2⟩ := h
    subst h1
    exact ⟨foldl_pick_mem _ xs x, h2.symm,
      foldl_pick_le _ (·.1) (fun _ _ => better_le) (fun _ _ => not_better_le) xs x⟩

theorem overCutoff_mono {cut : Option Int} {a b : Int} (h : overCutoff cut a = false) (hb : b ≤ a) :
    overCutoff cut b = false := by
  cases cut with
  | none => rfl
  | some c =>
    have h1 : ¬ 2 * a > c := of_decide_eq_false h
    exact decide_eq_false fun h2 : 2 * b > c =>
      h1 (Int.lt_of_lt_of_le h2 (Int.mul_le_mul_of_nonneg_left hb (by decide)))

theorem Walk.nonneg {A : Arcs} (hnn : ∀ a ∈ A, 0 ≤ a.2.2) {s t : Nat} {c : Int} (h : Walk A s t c) : 0 ≤ c := by
  induction h with
  | nil => exact Int.le_refl 0
  | snoc _ ha ih => exact Int.add_nonneg ih (hnn _ ha)

def ArcOk (cut : Option Int) (seen : List (Option Int)) (du : Int) (x : Nat) (w : Int) : Prop :=
  overCutoff cut (du + w) = true ∨ ∃ k, lk seen x = some k ∧ k ≤ du + w

/-- The loop invariant over `dist` (finalised labels), `seen` (tentative labels) and the fringe `fr`; `pend` are the
    arcs of the row being relaxed that have not been looked at yet (`[]` at row boundaries).
    `frWalk`, `distWalk`: every fringe key and every finalised label is the cost of a walk from `src`.
    `frCut`, `distCut`: they are within the cutoff - guarded by `overCutoff cut 0 = false`, because the source is pushed
    with key 0 before any cutoff test. `frSeen`: a fringe entry is not below the tentative label of its node.
    `distSeen`: a finalised node keeps its label as tentative label. `mono`: pops come in non-decreasing order.
    `cover`: a labelled node that is not finalised has a fringe entry carrying exactly its label (lazy deletion never
    loses the live entry). `closed`: every arc out of a finalised node is pending or `ArcOk`: over the cutoff,
    or its head carries a label that the arc cannot improve. `srcOk`: the source is labelled, at most 0. -/
structure Inv (A : Arcs) (src n : Nat) (cut : Option Int) (pend : Arcs)
    (dist seen : List (Option Int)) (fr : List FNode) : Prop where
  ldist : dist.length = n
  lseen : seen.length = n
  frLt : ∀ e ∈ fr, e.2.2 < n
  frWalk : ∀ e ∈ fr, Walk A src e.2.2 e.1
  frCut : overCutoff cut 0 = false → ∀ e ∈ fr, overCutoff cut e.1 = false
  frSeen : ∀ e ∈ fr, ∃ k, lk seen e.2.2 = some k ∧ k ≤ e.1
  distWalk : ∀ v d, lk dist v = some d → Walk A src v d
  distCut : overCutoff cut 0 = false → ∀ v d, lk dist v = some d → overCutoff cut d = false
  distSeen : ∀ v d, lk dist v = some d → lk seen v = some d
  mono : ∀ v d, lk dist v = some d → ∀ e ∈ fr, d ≤ e.1
  cover : ∀ v k, lk dist v = none → lk seen v = some k → ∃ cnt, (k, cnt, v) ∈ fr
  closed : ∀ u du, lk dist u = some du → ∀ x w, (u, x, w) ∈ A → (u, x, w) ∈ pend ∨ ArcOk cut seen du x w
  srcOk : ∃ k, lk seen src = some k ∧ k ≤ 0

/-- the invariant while the row of the freshly finalised node `v` (distance `d`) is being relaxed: `d` is the largest
    finalised label (`hle`) and a lower bound of the fringe (`hfr`); the pending arcs leave `v` and are arcs of `A` -/
structure RowInv (A : Arcs) (src n : Nat) (cut : Option Int) (v : Nat) (d : Int) (pend : Arcs)
    (dist seen : List (Option Int)) (fr : List FNode) : Prop extends Inv A src n cut pend dist seen fr where
  hv : lk dist v = some d
  hle : ∀ u du, lk dist u = some du → du ≤ d
  hfr : ∀ e ∈ fr, d ≤ e.1
  pendSrc : ∀ a ∈ pend, a.1 = v
  pendA : ∀ a ∈ pend, a ∈ A

def ArcsWf (A : Arcs) (n : Nat) : Prop := ∀ a ∈ A, a.2.1 < n ∧ 0 ≤ a.2.2

theorem Inv.init (A : Arcs) (src n : Nat) (cut : Option Int) (hsrc : src < n) :
    Inv A src n cut [] (List.replicate n none) ((List.replicate n none).set src (some 0)) [(0, 0, src)] := by
  have hnone : ∀ {p : Prop} v d, lk (List.replicate n none) v = some d → p := by
    intro p v d h
    rw [lk_replicate_none] at h
    cases h
  have hs : lk ((List.replicate n none).set src (some 0)) src = some 0 :=
    lk_set_self _ _ _ (by rw [List.length_replicate]; exact hsrc)
  exact {
    ldist := List.length_replicate
    lseen := by rw [List.length_set, List.length_replicate]
    frLt := List.forall_mem_singleton.2 hsrc
    frWalk := List.forall_mem_singleton.2 (Walk.nil _)
    frCut := fun h => List.forall_mem_singleton.2 h
    frSeen := List.forall_mem_singleton.2 ⟨0, hs, Int.le_refl 0⟩
    distWalk := fun v d h => hnone v d h
    distCut := fun _ v d h => hnone v d h
    distSeen := fun v d h => hnone v d h
    mono := fun v d h => hnone v d h
    cover := by
      intro v k _ hk
      by_cases e : src = v
      · rw [← e, hs] at hk
        cases hk
        exact ⟨0, e ▸ List.mem_singleton.2 rfl⟩
      · rw [lk_set_ne _ _ _ _ e] at hk
        exact hnone v k hk
    closed := fun v d h => hnone v d h
    srcOk := ⟨0, hs, Int.le_refl 0⟩ }

section
variable {A : Arcs} {src n : Nat} {cut : Option Int} {v : Nat} {d : Int} {pend : Arcs}
  {dist seen : List (Option Int)} {fr : List FNode} {u : Nat} {c : Int}

theorem Inv.pop_stale (I : Inv A src n cut [] dist seen fr) (b : FNode) (dv : Int)
    (hstale : lk dist b.2.2 = some dv) :
    Inv A src n cut [] dist seen (fr.erase b) where
  ldist := I.ldist
  lseen := I.lseen
  frLt := fun e he => I.frLt e (List.mem_of_mem_erase he)
  frWalk := fun e he => I.frWalk e (List.mem_of_mem_erase he)
  frCut := fun h e he => I.frCut h e (List.mem_of_mem_erase he)
  frSeen := fun e he => I.frSeen e (List.mem_of_mem_erase he)
  distWalk := I.distWalk
  distCut := I.distCut
  distSeen := I.distSeen
  mono := fun v d h e he => I.mono v d h e (List.mem_of_mem_erase he)
  cover := by
    intro v k hn hk
    obtain ⟨cnt, hm⟩ := I.cover v k hn hk
    refine ⟨cnt, (List.mem_erase_of_ne fun e => ?_).2 hm⟩
    rw [← e, hn] at hstale
    cases hstale
  closed := I.closed
  srcOk := I.srcOk

theorem Inv.pop_fresh (I : Inv A src n cut [] dist seen fr) (d : Int) (cnt v : Nat)
    (hmem : (d, cnt, v) ∈ fr) (hmin : ∀ e ∈ fr, d ≤ e.1) (hfresh : lk dist v = none)
    (pend : Arcs) (hp1 : ∀ x w, (v, x, w) ∈ A → (v, x, w) ∈ pend) (hp2 : ∀ a ∈ pend, a.1 = v)
    (hp3 : ∀ a ∈ pend, a ∈ A) :
    RowInv A src n cut v d pend (dist.set v (some d)) seen (fr.erase (d, cnt, v)) := by
  have hvn : v < dist.length := I.ldist ▸ I.frLt _ hmem
  -- `seen[v]` is at most `d` by `frSeen`, and the entry that `cover` gives for it is at least `d`
  have hseenv : lk seen v = some d := by
    obtain ⟨k, hk, hle⟩ := I.frSeen _ hmem
    obtain ⟨c2, hm2⟩ := I.cover v k hfresh hk
    rw [hk, Int.le_antisymm hle (hmin _ hm2)]
  have herase : ∀ {e}, e ∈ fr.erase (d, cnt, v) → e ∈ fr := List.mem_of_mem_erase
  exact {
    ldist := by rw [List.length_set, I.ldist]
    lseen := I.lseen
    frLt := fun e he => I.frLt e (herase he)
    frWalk := fun e he => I.frWalk e (herase he)
    frCut := fun h e he => I.frCut h e (herase he)
    frSeen := fun e he => I.frSeen e (herase he)
    distWalk := lk_set_forall hvn (I.frWalk _ hmem) I.distWalk
    distCut := fun h0 => lk_set_forall hvn (I.frCut h0 _ hmem) (I.distCut h0)
    distSeen := lk_set_forall hvn hseenv I.distSeen
    mono := lk_set_forall hvn (fun e he => hmin e (herase he)) fun u du h e he => I.mono u du h e (herase he)
    cover := by
      intro u k hn hk
      have hne : v ≠ u := fun e => by rw [← e, lk_set_self _ _ _ hvn] at hn; cases hn
      rw [lk_set_ne _ _ _ _ hne] at hn
      obtain ⟨c2, hm⟩ := I.cover u k hn hk
      exact ⟨c2, (List.mem_erase_of_ne fun e => hne (Prod.mk.inj (Prod.mk.inj e).2).2.symm).2 hm⟩
    closed := lk_set_forall hvn (fun x w ha => Or.inl (hp1 x w ha)) fun u du h x w ha =>
      Or.inr ((I.closed u du h x w ha).resolve_left List.not_mem_nil)
    srcOk := I.srcOk
    hv := lk_set_self _ _ _ hvn
    hle := lk_set_forall hvn (Int.le_refl d) fun u du h => I.mono u du h _ hmem
    hfr := fun e he => hmin e (herase he)
    pendSrc := hp2
    pendA := hp3 }

theorem RowInv.skip
    (R : RowInv A src n cut v d ((v, u, c) :: pend) dist seen fr)
    (hok : ArcOk cut seen d u c) :
    RowInv A src n cut v d pend dist seen fr :=
  { R with
    closed := by
      intro u' du h x w ha
      rcases R.closed u' du h x w ha with hc | hc
      · rcases List.mem_cons.1 hc with e | hc
        · obtain ⟨e1, e2, e3⟩ : u' = v ∧ x = u ∧ w = c := by simpa only [Prod.mk.injEq] using e
          subst e1 e2 e3
          rw [R.hv] at h
          cases h
          exact Or.inr hok
        · exact Or.inl hc
      · exact Or.inr hc
    pendSrc := fun a ha => R.pendSrc a (List.mem_cons_of_mem _ ha)
    pendA := fun a ha => R.pendA a (List.mem_cons_of_mem _ ha) }

/-- a finalised head of the arc is always fine (monotonicity of pops) -/
theorem RowInv.final_ok
    (hA : ArcsWf A n)
    (R : RowInv A src n cut v d ((v, u, c) :: pend) dist seen fr) (du : Int) (hu : lk dist u = some du) :
    du ≤ d + c ∧ ArcOk cut seen d u c :=
  have h : du ≤ d + c :=
    Int.le_trans (R.hle u du hu) (Int.le_add_of_nonneg_right (hA _ (R.pendA _ (List.mem_cons_self ..))).2)
  ⟨h, Or.inr ⟨du, R.distSeen u du hu, h⟩⟩

/-- push of a new fringe entry `(d + c, cnt, u)`, with `seen[u]` (re)set to `d + c` -/
theorem RowInv.push
    (hA : ArcsWf A n)
    (R : RowInv A src n cut v d ((v, u, c) :: pend) dist seen fr)
    (hcut : overCutoff cut (d + c) = false)
    (hdec : ∀ su, lk seen u = some su → d + c ≤ su)
    (seen' : List (Option Int)) (hs1 : seen'.length = n) (hs2 : lk seen' u = some (d + c))
    (hs3 : ∀ x, x ≠ u → lk seen' x = lk seen x) (cnt : Nat) :
    RowInv A src n cut v d pend dist seen' ((d + c, cnt, u) :: fr) := by
  have harc : (v, u, c) ∈ A := R.pendA _ (List.mem_cons_self ..)
  have hdc : d ≤ d + c := Int.le_add_of_nonneg_right (hA _ harc).2
  -- labels in `seen` only decrease
  have hseen_le : ∀ {x k b}, lk seen x = some k → k ≤ b → ∃ k', lk seen' x = some k' ∧ k' ≤ b := by
    intro x k b hk hb
    by_cases e : x = u
    · exact ⟨d + c, e ▸ hs2, Int.le_trans (hdec k (e ▸ hk)) hb⟩
    · exact ⟨k, (hs3 x e).trans hk, hb⟩
  exact {
    ldist := R.ldist
    lseen := hs1
    frLt := List.forall_mem_cons.2 ⟨(hA _ harc).1, R.frLt⟩
    frWalk := List.forall_mem_cons.2 ⟨Walk.snoc (R.distWalk v d R.hv) harc, R.frWalk⟩
    frCut := fun h0 => List.forall_mem_cons.2 ⟨hcut, R.frCut h0⟩
    frSeen := List.forall_mem_cons.2 ⟨⟨d + c, hs2, Int.le_refl _⟩, fun e he =>
      (R.frSeen e he).elim fun _ hk => hseen_le hk.1 hk.2⟩
    distWalk := R.distWalk
    distCut := R.distCut
    distSeen := by
      intro x dx hx
      have hold := R.distSeen x dx hx
      -- if `u` is finalised, `seen[u] = dist[u] ≤ d ≤ d + c ≤ seen[u]`: the reset writes the value that was there
      by_cases e : x = u
      · subst e
        rw [hs2, Int.le_antisymm (hdec dx hold) (Int.le_trans (R.hle x dx hx) hdc)]
      · exact (hs3 x e).trans hold
    mono := fun x dx hx => List.forall_mem_cons.2 ⟨Int.le_trans (R.hle x dx hx) hdc, R.mono x dx hx⟩
    cover := by
      intro x k hn hk
      by_cases e : x = u
      · subst e
        rw [hs2] at hk
        cases hk
        exact ⟨cnt, List.mem_cons_self ..⟩
      · rw [hs3 x e] at hk
        exact (R.cover x k hn hk).elim fun c2 hm => ⟨c2, List.mem_cons_of_mem _ hm⟩
    closed := by
      intro u' du h x w ha
      rcases R.closed u' du h x w ha with hc | ho | ⟨k, hk, hle⟩
      · rcases List.mem_cons.1 hc with e | hc
        · obtain ⟨e1, e2, e3⟩ : u' = v ∧ x = u ∧ w = c := by simpa only [Prod.mk.injEq] using e
          subst e1 e2 e3
          rw [R.hv] at h
          cases h
          exact Or.inr (Or.inr ⟨_, hs2, Int.le_refl _⟩)
        · exact Or.inl hc
      · exact Or.inr (Or.inl ho)
      · exact Or.inr (Or.inr (hseen_le hk hle))
    srcOk := R.srcOk.elim fun _ hk => hseen_le hk.1 hk.2
    hv := R.hv
    hle := R.hle
    hfr := List.forall_mem_cons.2 ⟨hdc, R.hfr⟩
    pendSrc := fun a ha => R.pendSrc a (List.mem_cons_of_mem _ ha)
    pendA := fun a ha => R.pendA a (List.mem_cons_of_mem _ ha) }

theorem RowInv.done
    (R : RowInv A src n cut v d [] dist seen fr) : Inv A src n cut [] dist seen fr := R.toInv

theorem Inv.lower_bound (hA : ArcsWf A n) (I : Inv A src n cut [] dist seen fr) :
    ∀ t c, Walk A src t c → overCutoff cut c = false →
      (∃ x, lk dist t = some x ∧ x ≤ c) ∨ ∃ e ∈ fr, e.1 ≤ c := by
  have hcov : ∀ {x k c}, lk seen x = some k → k ≤ c → (∃ y, lk dist x = some y ∧ y ≤ c) ∨ ∃ e ∈ fr, e.1 ≤ c := by
    intro x k c hk hle
    cases hd : lk dist x with
    | none => exact (I.cover x k hd hk).elim fun _ hm => Or.inr ⟨_, hm, hle⟩
    | some dx => exact Or.inl ⟨k, (I.distSeen x dx hd).symm.trans hk, hle⟩
  intro t c hw
  induction hw with
  | nil => exact fun _ => I.srcOk.elim fun k hk => hcov hk.1 hk.2
  | @snoc u x c' w _ ha ih =>
    intro hc
    have hw0 : 0 ≤ w := (hA _ ha).2
    rcases ih (overCutoff_mono hc (Int.le_add_of_nonneg_right hw0)) with ⟨du, hdu, hle⟩ | ⟨e, he, hle⟩
    · have hle' : du + w ≤ c' + w := Int.add_le_add_right hle w
      -- the last arc leaves the finalised `u`: `closed` offers pending (there is none), over the cutoff (it is not),
      -- or a label of `x` that is at most `du + w`
      rcases I.closed u du hdu x w ha with h | h | ⟨k, hk, hle2⟩
      · cases h
      · rw [overCutoff_mono hc hle'] at h
        cases h
      · exact hcov hk (Int.le_trans hle2 hle')
    · exact Or.inr ⟨e, he, Int.le_trans hle (Int.le_add_of_nonneg_right hw0)⟩

theorem Inv.final_lower (hA : ArcsWf A n) (I : Inv A src n cut [] dist seen []) (t : Nat) (c : Int)
    (hw : Walk A src t c) (hc : overCutoff cut c = false) : ∃ x, lk dist t = some x ∧ x ≤ c :=
  (I.lower_bound hA t c hw hc).resolve_right fun ⟨_, he, _⟩ => nomatch he

theorem Inv.final_exact
    (hA : ArcsWf A n) (h0 : overCutoff cut 0 = false) (I : Inv A src n cut [] dist seen []) (t : Nat) (d : Int) :
    lk dist t = some d ↔ (IsDist A src t d ∧ overCutoff cut d = false) := by
  constructor
  · intro h
    have hcd := I.distCut h0 t d h
    refine ⟨⟨I.distWalk t d h, fun c hw => Int.not_lt.1 fun hlt => ?_⟩, hcd⟩
    -- a cheaper walk would be within the cutoff as well
    obtain ⟨x, hx, hle⟩ := I.final_lower hA t c hw (overCutoff_mono hcd (Int.le_of_lt hlt))
    rw [h] at hx
    cases hx
    exact Int.lt_irrefl _ (Int.lt_of_le_of_lt hle hlt)
  · rintro ⟨⟨hw, hmin⟩, hc⟩
    obtain ⟨x, hx, hle⟩ := I.final_lower hA t d hw hc
    rw [hx, Int.le_antisymm hle (hmin x (I.distWalk t x hx))]

end

end Graphrs
