/-
  The level-synchronous BFS of closeness.rs (`ccLevels`, Model/Centrality.lean) computes exactly the hop
  distances: loop invariant `LInv`, fuel bound, exactness at every exit (empty level / all nodes seen).
  The namespace `C06L` stands for "C06, levels".
-/
import GraphrsModel.Lemmas.ListSet
import GraphrsModel.Model.Centrality
import GraphrsModel.Lemmas.C06Walk
import GraphrsModel.Lemmas.AList
import Mathlib.Data.List.Perm.Subperm
namespace Graphrs
namespace C06L

theorem mem_foldl_grow {α β} (g : List α → β → List α) (P : β → α → Prop)
    (hg : ∀ acc b y, y ∈ g acc b ↔ y ∈ acc ∨ P b y) (l : List β) (acc : List α) (y : α) :
    y ∈ l.foldl g acc ↔ y ∈ acc ∨ ∃ b ∈ l, P b y := by
  induction l generalizing acc with
  | nil => simp only [List.foldl_nil, List.not_mem_nil, false_and, exists_false, or_false]
  | cons x xs ih => rw [List.foldl_cons, ih, hg, or_assoc, List.exists_mem_cons_iff]

theorem nodup_lt_length_le {l : List Nat} {n : Nat} (hnd : l.Nodup) (hlt : ∀ v ∈ l, v < n) : l.length ≤ n := by
  have hs : l.Subperm (List.range n) := hnd.subperm (fun x hx => List.mem_range.2 (hlt x hx))
  simpa using hs.length_le

theorem nodup_lt_full {l : List Nat} {n : Nat} (hnd : l.Nodup) (hlt : ∀ v ∈ l, v < n) (hlen : l.length = n) :
    ∀ x, x < n → x ∈ l := by
  have hs : l.Subperm (List.range n) := hnd.subperm (fun x hx => List.mem_range.2 (hlt x hx))
  have hp : l.Perm (List.range n) := hs.perm_of_length_le (by simp [hlen])
  intro x hx
  exact hp.mem_iff.2 (List.mem_range.2 hx)

def lvlStep (lvl : Int) (acc : List Nat × List Nat × List (Nat × Int)) (v : Nat) :
    List Nat × List Nat × List (Nat × Int) :=
  if acc.1.contains v then acc else (acc.1 ++ [v], acc.2.1 ++ [v], acc.2.2 ++ [(v, lvl)])

def nextOf (adjOf : Nat → List Adj) (found : List Nat) : List Nat :=
  found.foldl (fun nx v => (adjOf v).foldl (fun nx a => sinsert nx a.1) nx) []

theorem ccLevels_succ (adjOf : Nat → List Adj) (n fuel : Nat) (level seen : List Nat) (lvl : Int)
    (res : List (Nat × Int)) :
    ccLevels adjOf n (fuel + 1) level seen lvl res =
      if level.isEmpty then res
      else
        if (level.foldl (lvlStep lvl) (seen, [], res)).1.length == n then (level.foldl (lvlStep lvl) (seen, [], res)).2.2
        else ccLevels adjOf n fuel (nextOf adjOf (level.foldl (lvlStep lvl) (seen, [], res)).2.1)
          (level.foldl (lvlStep lvl) (seen, [], res)).1 (lvl + 1) (level.foldl (lvlStep lvl) (seen, [], res)).2.2 := by
  rw [ccLevels]
  rfl

theorem lvl_fold (lvl : Int) (level : List Nat) : ∀ (seen found : List Nat) (res : List (Nat × Int)),
    ∃ fnd, level.foldl (lvlStep lvl) (seen, found, res) = (seen ++ fnd, found ++ fnd, res ++ fnd.map (fun v => (v, lvl))) ∧
      (seen.Nodup → (seen ++ fnd).Nodup) ∧ (∀ v ∈ fnd, v ∈ level) ∧ (∀ v ∈ level, v ∈ seen ++ fnd) := by
  induction level with
  | nil =>
    intro seen found res
    refine ⟨[], ?_, fun h => ?_, fun v hv => hv, fun v hv => absurd hv List.not_mem_nil⟩
    · rw [List.foldl_nil, List.append_nil, List.append_nil, List.map_nil, List.append_nil]
    · rwa [List.append_nil]
  | cons v l ih =>
    intro seen found res
    rw [List.foldl_cons]
    by_cases hc : seen.contains v = true
    · rw [show lvlStep lvl (seen, found, res) v = (seen, found, res) from if_pos hc]
      obtain ⟨fnd, h1, h2, h3, h4⟩ := ih seen found res
      refine ⟨fnd, h1, h2, fun x hx => List.mem_cons_of_mem _ (h3 x hx), fun x hx => ?_⟩
      rcases List.mem_cons.1 hx with rfl | hx
      · exact List.mem_append_left _ (List.contains_iff_mem.1 hc)
      · exact h4 x hx
    · rw [show lvlStep lvl (seen, found, res) v = (seen ++ [v], found ++ [v], res ++ [(v, lvl)]) from if_neg hc]
      obtain ⟨fnd, h1, h2, h3, h4⟩ := ih (seen ++ [v]) (found ++ [v]) (res ++ [(v, lvl)])
      simp only [List.append_assoc, List.singleton_append] at h1 h2 h4
      refine ⟨v :: fnd, h1, fun h => h2 ?_, fun x hx => ?_, fun x hx => ?_⟩
      · exact List.nodup_append.2 ⟨h, List.nodup_cons.2 ⟨List.not_mem_nil, List.nodup_nil⟩, fun a ha b hb hab =>
          hc (List.contains_iff_mem.2 (List.mem_singleton.1 hb ▸ hab ▸ ha))⟩
      · rcases List.mem_cons.1 hx with rfl | hx
        · exact List.mem_cons_self ..
        · exact List.mem_cons_of_mem _ (h3 x hx)
      · rcases List.mem_cons.1 hx with rfl | hx
        · exact List.mem_append_right _ (List.mem_cons_self ..)
        · exact h4 x hx

theorem mem_nextOf (adjOf : Nat → List Adj) (found : List Nat) (x : Nat) :
    x ∈ nextOf adjOf found ↔ ∃ v ∈ found, ∃ a ∈ adjOf v, a.1 = x := by
  unfold nextOf
  rw [mem_foldl_grow _ (fun v x => ∃ a ∈ adjOf v, a.1 = x) (fun acc v y =>
    mem_foldl_grow _ (fun a x => a.1 = x) (fun acc a y => by rw [mem_sinsert, eq_comm]) (adjOf v) acc y)]
  simp only [List.not_mem_nil, false_or]

/-- The loop invariant at the head of round `k`: `res` holds the nodes at distance `< k`, each with its distance, and
    `seen` is its key list; `level` contains every unseen node at distance `k` (and only nodes at walk cost `k`).
    `closed`: an arc out of a recorded node leads to a recorded node, or - from a node of the last round - into the
    pending level.  `srcOk`: the source is recorded, or it is round 0 and the source is the pending level. -/
structure LInv (A : Arcs) (n src : Nat) (k : Int) (level seen : List Nat) (res : List (Nat × Int)) : Prop where
  seenEq : seen = res.map (·.1)
  nd : seen.Nodup
  lt : ∀ v ∈ seen, v < n
  resWalk : ∀ v d, (v, d) ∈ res → Walk A src v d ∧ d < k
  lvlWalk : ∀ v ∈ level, Walk A src v k ∧ v < n
  closed : ∀ u du, (u, du) ∈ res → ∀ x w, (u, x, w) ∈ A →
    (∃ dx, (x, dx) ∈ res ∧ dx ≤ du + w) ∨ (du + 1 = k ∧ x ∈ level)
  srcOk : (∃ x, (src, x) ∈ res ∧ x ≤ 0) ∨ (k = 0 ∧ src ∈ level)

/-- what every exit of the loop establishes -/
structure LFin (A : Arcs) (src : Nat) (res : List (Nat × Int)) : Prop where
  nd : (res.map (·.1)).Nodup
  resWalk : ∀ v d, (v, d) ∈ res → Walk A src v d
  closed : ∀ u du, (u, du) ∈ res → ∀ x w, (u, x, w) ∈ A → ∃ dx, (x, dx) ∈ res ∧ dx ≤ du + w
  srcOk : ∃ x, (src, x) ∈ res ∧ x ≤ 0

theorem LFin.lower {A : Arcs} {src : Nat} {res : List (Nat × Int)} (F : LFin A src res) :
    ∀ t c, Walk A src t c → ∃ x, (t, x) ∈ res ∧ x ≤ c := by
  intro t c hw
  induction hw with
  | nil => exact F.srcOk
  | snoc hw' ha ih =>
    obtain ⟨du, hdu, hle⟩ := ih
    obtain ⟨dx, hdx, hle2⟩ := F.closed _ du hdu _ _ ha
    exact ⟨dx, hdx, Int.le_trans hle2 (Int.add_le_add_right hle _)⟩

theorem nodup_keys_unique {res : List (Nat × Int)} (hnd : (res.map (·.1)).Nodup) {v : Nat} {a b : Int}
    (ha : (v, a) ∈ res) (hb : (v, b) ∈ res) : a = b :=
  Option.some.inj ((AL.mem_lookup hnd ha).symm.trans (AL.mem_lookup hnd hb))

theorem LFin.exact {A : Arcs} {src : Nat} {res : List (Nat × Int)} (F : LFin A src res) (v : Nat) (d : Int) :
    (v, d) ∈ res ↔ IsDist A src v d :=
  C06T.isDist_iff_of_lower (lab := fun v d => (v, d) ∈ res) (fun _ _ _ ha hb => nodup_keys_unique F.nd ha hb)
    F.resWalk F.lower v d

section
variable {A : Arcs} {n src : Nat} {k : Int} {level seen : List Nat} {res : List (Nat × Int)}

theorem LInv.fin_of_empty (I : LInv A n src k [] seen res) : LFin A src res where
  nd := I.seenEq ▸ I.nd
  resWalk := fun v d h => (I.resWalk v d h).1
  closed := fun u du hu x w ha => (I.closed u du hu x w ha).resolve_right fun h => List.not_mem_nil h.2
  srcOk := I.srcOk.resolve_right fun h => List.not_mem_nil h.2

theorem LInv.seen_res (I : LInv A n src k level seen res) {x : Nat} (hx : x ∈ seen) :
    ∃ dx, (x, dx) ∈ res ∧ dx < k := by
  rw [I.seenEq] at hx
  obtain ⟨⟨y, dy⟩, hy, rfl⟩ := List.mem_map.1 hx
  exact ⟨dy, hy, (I.resWalk y dy hy).2⟩

/-- all nodes seen: the nodes of the pending level have their entries already -/
theorem LInv.fin_of_full (hA : ∀ u x w, (u, x, w) ∈ A → w = 1) (I : LInv A n src k level seen res)
    (hfull : seen.length = n) : LFin A src res where
  nd := I.seenEq ▸ I.nd
  resWalk := fun v d h => (I.resWalk v d h).1
  closed := by
    intro u du hu x w ha
    rcases I.closed u du hu x w ha with h | ⟨hk, hx⟩
    · exact h
    · obtain ⟨dx, hdx, hlt⟩ := I.seen_res (nodup_lt_full I.nd I.lt hfull x (I.lvlWalk x hx).2)
      rw [hA u x w ha, hk]
      exact ⟨dx, hdx, Int.le_of_lt hlt⟩
  srcOk := by
    rcases I.srcOk with h | ⟨hk, hs⟩
    · exact h
    · obtain ⟨dx, hdx, hlt⟩ := I.seen_res (nodup_lt_full I.nd I.lt hfull src (I.lvlWalk src hs).2)
      exact ⟨dx, hdx, Int.le_of_lt (hk ▸ hlt)⟩

theorem mem_append_level {fnd : List Nat} {v : Nat} {d : Int} :
    (v, d) ∈ res ++ fnd.map (fun v => (v, k)) ↔ (v, d) ∈ res ∨ (v ∈ fnd ∧ d = k) := by
  rw [List.mem_append, List.mem_map]
  refine or_congr_right ⟨?_, ?_⟩
  · rintro ⟨x, hx, e⟩
    cases e
    exact ⟨hx, rfl⟩
  · rintro ⟨hx, rfl⟩
    exact ⟨v, hx, rfl⟩

theorem LInv.level_res (I : LInv A n src k level seen res) {fnd : List Nat}
    (hcov : ∀ v ∈ level, v ∈ seen ++ fnd) {x : Nat} (hx : x ∈ level) :
    ∃ dx, (x, dx) ∈ res ++ fnd.map (fun v => (v, k)) ∧ dx ≤ k := by
  rcases List.mem_append.1 (hcov x hx) with h | h
  · obtain ⟨dx, hdx, hlt⟩ := I.seen_res h
    exact ⟨dx, List.mem_append_left _ hdx, Int.le_of_lt hlt⟩
  · exact ⟨k, mem_append_level.2 (Or.inr ⟨h, rfl⟩), Int.le_refl k⟩

theorem LInv.next {adjOf : Nat → List Adj}
    (hA : ∀ u x w, (u, x, w) ∈ A ↔ (u < n ∧ w = 1 ∧ ∃ a ∈ adjOf u, a.1 = x))
    (hidx : ∀ v, v < n → ∀ a ∈ adjOf v, a.1 < n) (I : LInv A n src k level seen res) {fnd : List Nat}
    (hnd : seen.Nodup → (seen ++ fnd).Nodup) (hfnd : ∀ v ∈ fnd, v ∈ level) (hcov : ∀ v ∈ level, v ∈ seen ++ fnd) :
    LInv A n src (k + 1) (nextOf adjOf fnd) (seen ++ fnd) (res ++ fnd.map fun v => (v, k)) where
  seenEq := by
    rw [List.map_append, ← I.seenEq, List.map_map]
    exact congrArg _ (List.map_id' fnd).symm
  nd := hnd I.nd
  lt := fun v hv => (List.mem_append.1 hv).elim (I.lt v) fun h => (I.lvlWalk v (hfnd v h)).2
  resWalk := by
    intro v d h
    rcases mem_append_level.1 h with h | ⟨hv, rfl⟩
    · have := I.resWalk v d h
      exact ⟨this.1, Int.lt_trans this.2 (Int.lt_succ k)⟩
    · exact ⟨(I.lvlWalk v (hfnd v hv)).1, Int.lt_succ d⟩
  lvlWalk := by
    intro x hx
    obtain ⟨v, hv, a, haa, rfl⟩ := (mem_nextOf adjOf fnd x).1 hx
    have hv' := I.lvlWalk v (hfnd v hv)
    exact ⟨Walk.snoc hv'.1 ((hA v a.1 1).2 ⟨hv'.2, rfl, a, haa, rfl⟩), hidx v hv'.2 a haa⟩
  closed := by
    intro u du hu x w ha
    have hw1 : w = 1 := ((hA u x w).1 ha).2.1
    rcases mem_append_level.1 hu with hm | ⟨hm, rfl⟩
    · rcases I.closed u du hm x w ha with ⟨dx, hdx, hle⟩ | ⟨hk, hx⟩
      · exact Or.inl ⟨dx, List.mem_append_left _ hdx, hle⟩
      · obtain ⟨dx, hdx, hle⟩ := I.level_res hcov hx
        rw [hw1, hk]
        exact Or.inl ⟨dx, hdx, hle⟩
    · exact Or.inr ⟨rfl, (mem_nextOf adjOf fnd x).2 ⟨u, hm, ((hA u x w).1 ha).2.2⟩⟩
  srcOk := by
    rcases I.srcOk with ⟨x, hx, hle⟩ | ⟨hk, hs⟩
    · exact Or.inl ⟨x, List.mem_append_left _ hx, hle⟩
    · obtain ⟨dx, hdx, hle⟩ := I.level_res hcov hs
      exact Or.inl ⟨dx, hdx, hk ▸ hle⟩

end

/-- The fuel `n + 1` suffices: every level but the last finds a new node, and the level after one that finds none is
    empty. -/
theorem ccLevels_fin {A : Arcs} {adjOf : Nat → List Adj} {n src : Nat}
    (hA : ∀ u x w, (u, x, w) ∈ A ↔ (u < n ∧ w = 1 ∧ ∃ a ∈ adjOf u, a.1 = x))
    (hidx : ∀ v, v < n → ∀ a ∈ adjOf v, a.1 < n) :
    ∀ (fuel : Nat) (level seen : List Nat) (k : Int) (res : List (Nat × Int)),
      LInv A n src k level seen res →
      ((level = [] ∧ 1 ≤ fuel) ∨ (seen.length < n ∧ n + 1 ≤ fuel + seen.length)) →
      LFin A src (ccLevels adjOf n fuel level seen k res) := by
  intro fuel
  induction fuel with
  | zero => intro level seen k res _ hf; omega
  | succ f ih =>
    intro level seen k res I hf
    rw [ccLevels_succ]
    cases level with
    | nil => exact I.fin_of_empty
    | cons v level =>
      obtain ⟨fnd, hfold, hnd, hfnd, hcov⟩ := lvl_fold k (v :: level) seen [] res
      have I' := I.next hA hidx hnd hfnd hcov
      rw [List.isEmpty_cons, if_neg Bool.false_ne_true, hfold]
      by_cases hfull : (seen ++ fnd).length = n
      · rw [if_pos (beq_iff_eq.2 hfull)]
        exact I'.fin_of_full (fun u x w ha => ((hA u x w).1 ha).2.1) hfull
      · rw [if_neg (fun h => hfull (beq_iff_eq.1 h))]
        refine ih _ _ _ _ I' ?_
        have hle := nodup_lt_length_le I'.nd I'.lt
        have hf2 : seen.length < n ∧ n + 1 ≤ (f + 1) + seen.length := hf.resolve_left fun h => List.cons_ne_nil _ _ h.1
        cases fnd with
        | nil => exact Or.inl ⟨rfl, by omega⟩
        | cons y ys =>
          rw [List.length_append, List.length_cons] at hfull hle ⊢
          exact Or.inr (by omega)

theorem LInv.init (A : Arcs) (n src : Nat) (hsrc : src < n) : LInv A n src 0 [src] [] [] where
  seenEq := rfl
  nd := List.nodup_nil
  lt := fun _ hv => absurd hv List.not_mem_nil
  resWalk := fun _ _ h => absurd h List.not_mem_nil
  lvlWalk := by
    intro v hv
    cases List.mem_singleton.1 hv
    exact ⟨Walk.nil _, hsrc⟩
  closed := fun _ _ h => absurd h List.not_mem_nil
  srcOk := Or.inr ⟨rfl, List.mem_singleton.2 rfl⟩

/-- **exactness of `ccLevels`** over any arc list that lists exactly the entries of the traversal lists, at cost 1 -/
theorem ccLevels_exact {A : Arcs} {adjOf : Nat → List Adj} {n src : Nat}
    (hA : ∀ u x w, (u, x, w) ∈ A ↔ (u < n ∧ w = 1 ∧ ∃ a ∈ adjOf u, a.1 = x))
    (hidx : ∀ v, v < n → ∀ a ∈ adjOf v, a.1 < n) (hsrc : src < n) :
    ((ccLevels adjOf n (n + 1) [src] [] 0 []).map (·.1)).Nodup ∧
      ∀ v d, (v, d) ∈ ccLevels adjOf n (n + 1) [src] [] 0 [] ↔ IsDist A src v d := by
  have F := ccLevels_fin hA hidx (n + 1) [src] [] 0 [] (LInv.init A n src hsrc)
    (Or.inr ⟨Nat.lt_of_le_of_lt (Nat.zero_le src) hsrc, Nat.le_refl _⟩)
  exact ⟨F.nd, F.exact⟩

end C06L
end Graphrs
