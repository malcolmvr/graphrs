/-
  The local-moving loop over the step lemma `LT.visit_step`: a pass keeps the invariants and makes progress, so the
  number `mu` of better assignments bounds the number of passes; the all-singletons state `LT.initState` satisfies the
  bookkeeping invariant; the potential as one sum over the community ids; and the checks by which the example levels
  of Props/C13Termination.lean are shown to be good levels.
-/
import GraphrsModel.Lemmas.LouvainTermInit
import GraphrsModel.Lemmas.LouvainNoPanic
import Mathlib.Algebra.BigOperators.Field
namespace Graphrs
open LouvainFull
namespace LT

theorem pass_step {lv : Level} {n k : Nat} (hg : LF.GoodLevel lv n k) (hwf : lv.g.wf = true)
    (hmulti : lv.g.specs.multi = false) {m res : Rat} (hm : 0 < m) (hres : 0 ≤ res)
    {deg0 in0 out0 : List (Nat × Rat)}
    (hnn : ∀ x, 0 ≤ dgOf deg0 x ∧ 0 ≤ dgOf in0 x ∧ 0 ≤ dgOf out0 x)
    (order : List Nat) (st st1 : LState) (hs : LF.SInv lv k st) (ht : TInv lv k deg0 in0 out0 st)
    (hf : order.foldl (fun acc u => do let s ← acc; visit lv m res s u) (.ok st) = .ok st1) :
    TInv lv k deg0 in0 out0 st1 ∧ Progress (Phi lv k m res deg0 in0 out0) k st st1 := by
  refine (Outcome.foldl_bind_inv
    (fun a => LF.SInv lv k a ∧ TInv lv k deg0 in0 out0 a ∧ Progress (Phi lv k m res deg0 in0 out0) k st a) _ order
    (fun a x b _ hb ha => ?_) hf ⟨hs, ht, Progress.refl _ _ _⟩).2
  obtain ⟨h1, h2⟩ := visit_step hg hwf hmulti hm hres hnn ha.1 ha.2.1 hb
  exact ⟨ha.1.visit hg hb, h1, ha.2.2.trans h2⟩

theorem edges_lt {lv : Level} {n k : Nat} (hg : LF.GoodLevel lv n k) (hwf : lv.g.wf = true) :
    ∀ e ∈ lv.g.allEdges, e.u < k ∧ e.v < k := by
  intro e he
  obtain ⟨h1, h2⟩ := edge_names lv.g hwf e he
  exact ⟨(hg.names_iff e.u).1 h1, (hg.names_iff e.v).1 h2⟩

theorem Phi_congr {lv : Level} {n k : Nat} (hg : LF.GoodLevel lv n k) (hwf : lv.g.wf = true) (m res : Rat)
    (deg0 in0 out0 : List (Nat × Rat)) (a b : Nat → Nat) (h : ∀ x, x < k → a x = b x) :
    Phi lv k m res deg0 in0 out0 a = Phi lv k m res deg0 in0 out0 b := by
  unfold Phi potU potD
  split <;> exact pot_congr (edges_lt hg hwf) _ _ _ _ _ h

theorem asg_lt {lv : Level} {k : Nat} {st : LState} (hs : LF.SInv lv k st) (x : Nat) (hx : x < k) : asg st x < k := by
  obtain ⟨c, hc⟩ := hs.n2c_total x hx
  have := (hs.n2c_lt x c hc).2
  simp [asg, hc, this]

theorem sweeps_terminate_aux {lv : Level} {n k : Nat} (hg : LF.GoodLevel lv n k) (hwf : lv.g.wf = true)
    (hmulti : lv.g.specs.multi = false) {m res : Rat} (hm : 0 < m) (hres : 0 ≤ res)
    {deg0 in0 out0 : List (Nat × Rat)}
    (hnn : ∀ x, 0 ≤ dgOf deg0 x ∧ 0 ≤ dgOf in0 x ∧ 0 ≤ dgOf out0 x)
    (order : List Nat) (ho : ∀ u ∈ order, u ∈ lv.g.names) :
    ∀ (N : Nat) (st : LState), LF.SInv lv k st → LF.DegOK lv.g k st.di → TInv lv k deg0 in0 out0 st →
      mu (Phi lv k m res deg0 in0 out0) k (asg st) < N →
      ∀ fuel, N ≤ fuel → ∃ st', sweeps lv m res order fuel st = .ok (some st') := by
  intro N
  induction N with
  | zero => intro st _ _ _ h; exact absurd h (Nat.not_lt_zero _)
  | succ N ih =>
    intro st hs hdeg ht hmu fuel hfuel
    obtain ⟨f, rfl⟩ : ∃ f, fuel = f + 1 := ⟨fuel - 1, by omega⟩
    obtain ⟨st1, h1, hs1, hd1⟩ := LF.pass_exists hg hwf hmulti m res order ho { st with moves := 0 } hs.moves0 hdeg
    obtain ⟨ht1, hq⟩ := pass_step hg hwf hmulti hm hres hnn order _ st1 hs.moves0 ht.moves0 h1
    rw [sweeps, h1]
    change ∃ st', (if st1.moves > 0 then _ else _) = _
    by_cases hmv : st1.moves > 0
    · rw [if_pos hmv]
      have hbetter : Better (Phi lv k m res deg0 in0 out0) k (asg st1) (asg st) := by
        rcases hq with ⟨h2, _⟩ | ⟨_, h2⟩
        · exact absurd h2 (Nat.ne_of_gt hmv)
        · exact h2
      have hlt := mu_lt (Phi_congr hg hwf m res deg0 in0 out0) (asg_lt hs1) hbetter
      exact ih st1 hs1 hd1 ht1 (Nat.lt_of_lt_of_le hlt (Nat.le_of_lt_succ hmu)) f (Nat.le_of_succ_le_succ hfuel)
    · rw [if_neg hmv]
      exact ⟨_, rfl⟩

theorem csum_id {k : Nat} {a : Nat → Nat} (h : ∀ x, x < k → a x = x) (p : Nat → Rat) (c : Nat) (hc : c < k) :
    csum k a p c = p c := by
  unfold csum
  have : ∀ x ∈ Finset.range k, (if a x = c then p x else 0) = (if x = c then p x else 0) := by
    intro x hx
    rw [h x (Finset.mem_range.1 hx)]
  rw [Finset.sum_congr rfl this, Finset.sum_ite_eq' (Finset.range k) c p, if_pos (Finset.mem_range.2 hc)]

theorem asg_init (partition : List (List Nat)) (k : Nat) (di : DegInfo) (x : Nat) (hx : x < k) :
    asg (initState partition k di) x = x := by
  unfold asg initState
  simp only
  rw [C09M.alookup_map_self, if_pos (List.mem_range.2 hx)]
  rfl

theorem TInv_init (lv : Level) (partition : List (List Nat)) (k : Nat) (di : DegInfo)
    (hU : lv.g.specs.directed = false → ∀ c, c < k → getR di.stot c = dgOf di.deg c)
    (hD : lv.g.specs.directed = true → ∀ c, c < k → getR di.stotIn c = dgOf di.inDeg c ∧ getR di.stotOut c = dgOf di.outDeg c) :
    TInv lv k di.deg di.inDeg di.outDeg (initState partition k di) := by
  refine ⟨rfl, rfl, rfl, ?_, ?_⟩
  · intro hd c hc
    rw [csum_id (asg_init partition k di) _ c hc]
    exact hU hd c hc
  · intro hd c hc
    rw [csum_id (asg_init partition k di) _ c hc, csum_id (asg_init partition k di) _ c hc]
    exact hD hd c hc

end LT

open _root_.Graphrs.LT

/-- weight of the edges with both endpoints in community `c` -/
def LT.Lc (es : List Edge) (a : Nat → Nat) (c : Nat) : Rat :=
  (es.map fun e => if a e.u = c ∧ a e.v = c then ratW e.w else 0).sum

theorem LT.sum_Lc (es : List Edge) (k : Nat) (a : Nat → Nat) (h : ∀ e ∈ es, a e.u < k) :
    ∑ c ∈ Finset.range k, Lc es a c = asum es a := by
  induction es with
  | nil => exact Finset.sum_const_zero
  | cons e es ih =>
    unfold Lc asum at ih ⊢
    simp only [List.map_cons, List.sum_cons, Finset.sum_add_distrib]
    rw [ih (fun e' he' => h e' (List.mem_cons_of_mem _ he'))]
    congr 1
    by_cases heq : a e.u = a e.v
    · simp only [← heq, and_self, if_true]
      rw [Finset.sum_ite_eq (Finset.range k) (a e.u), if_pos (Finset.mem_range.2 (h e List.mem_cons_self))]
    · rw [if_neg heq]
      exact Finset.sum_eq_zero fun c _ => if_neg fun hc => heq (hc.1.trans hc.2.symm)

/-- the potential as one sum over the community ids -/
theorem LT.pot_eq_sum (es : List Edge) (k : Nat) (m res coef : Rat) (p q : Nat → Rat) (a : Nat → Nat)
    (h : ∀ e ∈ es, a e.u < k) :
    pot es k m res coef p q a = ∑ c ∈ Finset.range k, (Lc es a c / m - res * coef * (csum k a p c * csum k a q c)) := by
  rw [pot, bsum, ← sum_Lc es k a h, Finset.sum_div, Finset.mul_sum, ← Finset.sum_sub_distrib]

/-- a store whose node names are `0..k-1`, every node its own block: a good level, with the singletons as input -/
theorem LT.singletons_ok (g : Store) (k : Nat) (hn : g.getAllNodeNames = List.range k) :
    LF.GoodLevel ⟨g, []⟩ k k ∧ LF.InputOK ⟨g, []⟩ k ((List.range k).map fun i => [i]) := by
  have hmem : ∀ x, LF.mem ⟨g, []⟩ x = [x] := fun x => rfl
  exact ⟨LF.GoodLevel.of_singletons (hn ▸ List.nodup_range) (fun x => hn ▸ List.mem_range) hmem,
    LF.InputOK.singletons k hmem⟩

/-- what is checked on an example store by evaluation: the names are `0..k-1`, no weight is negative -/
def LT.exCheck (g : Store) (k : Nat) : Bool :=
  decide (g.getAllNodeNames = List.range k) && (g.allEdges.all fun e => e.w.all fun w => decide (0 ≤ w))

theorem LT.exCheck_ok {g : Store} {k : Nat} (h : exCheck g k = true) :
    LF.GoodLevel ⟨g, []⟩ k k ∧ (∀ e ∈ g.allEdges, ∀ w, e.w = some w → 0 ≤ w) ∧
      LF.InputOK ⟨g, []⟩ k ((List.range k).map fun i => [i]) := by
  rw [exCheck, Bool.and_eq_true, decide_eq_true_eq] at h
  refine ⟨(singletons_ok g k h.1).1, ?_, (singletons_ok g k h.1).2⟩
  intro e he w hw
  have := List.all_eq_true.1 h.2 e he
  rw [hw] at this
  exact of_decide_eq_true this

end Graphrs
