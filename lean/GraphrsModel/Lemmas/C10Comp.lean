/-
  For Props/C10Model.lean: totality of the BFS model, `connectedComponents` and `weaklyConnectedComponents` as pure
  folds of `compStep`, and the plain BFS of weak_connectivity.rs as an instance of the level search.
  Namespace `C10M` as in Lemmas/C10Base.lean.
-/
import GraphrsModel.Lemmas.C10Base
namespace Graphrs
namespace C10M
open C02

theorem bfs_total (s : Store)
    (hok : ∀ v ∈ s.getAllNodeNames, ∃ l, s.getSuccessorsOrNeighbors v = .ok l ∧ ∀ z ∈ l.map (·.name), z ∈ s.getAllNodeNames)
    (x : Nat) (hx : x ∈ s.getAllNodeNames) : ∃ out, s.breadthFirstSearch x = .ok out :=
  ⟨_, bfsLoop_eq s id (fun _ _ h => h) s.bfsLevels (isBfsLoop_bfsLevels s) hok _ _ _ _
    (fun v hv => by rw [List.mem_singleton.mp hv]; exact hx)⟩

/-- the BFS answer (empty on an error; never on a well-formed store) -/
def bfsOf (s : Store) (v : Nat) : List Nat :=
  match s.breadthFirstSearch v with
  | .ok b => b
  | _ => []

theorem bfsOf_eq (s : Store) (v : Nat) (b : List Nat) (h : s.breadthFirstSearch v = .ok b) : bfsOf s v = b := by
  unfold bfsOf; rw [h]

theorem connectedComponents_eq (s : Store) (hd : s.specs.directed = false)
    (htot : ∀ v ∈ s.getAllNodeNames, ∃ out, s.breadthFirstSearch v = .ok out) :
    s.connectedComponents = .ok (s.getAllNodeNames.foldl (compStep fun v => dedup (bfsOf s v)) ([], [])).2 := by
  unfold Store.connectedComponents Store.ensureUndirected
  rw [hd]
  simp only [Bool.false_eq_true, if_false, bind, Outcome.bind]
  rw [Outcome.foldl_ok_pure _ (compStep fun v => dedup (bfsOf s v)) s.getAllNodeNames]
  intro ⟨seen, comps⟩ v hv
  obtain ⟨b, hb⟩ := htot v hv
  show (if seen.contains v then Outcome.ok (seen, comps)
      else (s.breadthFirstSearch v).bind fun b => .ok (sunion seen (dedup b), comps ++ [dedup b])) = _
  show _ = Outcome.ok (if seen.contains v then (seen, comps)
      else (sunion seen (dedup (bfsOf s v)), comps ++ [dedup (bfsOf s v)]))
  rw [hb, bfsOf_eq s v b hb]
  split <;> rfl

/-- the neighbour function of `plain_bfs` -/
def wnb (s : Store) (v : Nat) : List Nat := (alookup s.succ v).getD [] ++ (alookup s.pred v).getD []

def plainGrow (s : Store) (next : List Nat) (v : Nat) : List Nat :=
  sunion (sunion next ((alookup s.succ v).getD [])) ((alookup s.pred v).getD [])

theorem mem_plainGrow (s : Store) (next : List Nat) (v y : Nat) :
    y ∈ plainGrow s next v ↔ y ∈ next ∨ y ∈ wnb s v := by
  rw [plainGrow, mem_sunion, mem_sunion, wnb, List.mem_append, or_assoc]

theorem plainBfsLevels_eq (s : Store) (fuel : Nat) (level seen out : List Nat) :
    s.plainBfsLevels fuel level seen out = lvBfs (fun v => [v, v]) (plainGrow s) id fuel level seen out := by
  induction fuel generalizing level seen out with
  | zero => rfl
  | succ fuel ih =>
    rw [Store.plainBfsLevels, lvBfs]
    by_cases hemp : level.isEmpty = true
    · rw [if_pos hemp, if_pos hemp]
    · rw [if_neg hemp, if_neg hemp]
      exact ih _ _ _

theorem plainBfs_correct (s : Store) (nb : Nat → List Nat) (x : Nat)
    (hnb : ∀ v z, z ∈ wnb s v ↔ z ∈ nb v)
    (hnames : ∀ v, ReachR nb x v → v ∈ s.getAllNodeNames) :
    ∀ y, y ∈ s.plainBfsLevels (s.numNodes + 2) [x] [] [] ↔ ReachR nb x y := by
  obtain ⟨ext, he, _, _, h⟩ := lvBfs_correct (fun v => [v, v]) (plainGrow s) id nb x s.getAllNodeNames
    (fun _ _ => Iff.rfl) (fun v _ next y => by rw [mem_plainGrow, hnb]) hnames (s.numNodes + 2) (length_names_lt s)
  intro y
  rw [plainBfsLevels_eq, he, ← h y]
  simp only [List.mem_flatMap, List.mem_cons, List.not_mem_nil, or_false, or_self, exists_eq_right']

theorem weaklyConnectedComponents_eq (s : Store) (hd : s.specs.directed = true) :
    s.weaklyConnectedComponents =
      .ok (s.getAllNodeNames.foldl (compStep fun v => dedup (s.plainBfsLevels (s.numNodes + 2) [v] [] [])) ([], [])).2 := by
  unfold Store.weaklyConnectedComponents Store.ensureDirected
  rw [hd]
  rfl

end C10M
end Graphrs
