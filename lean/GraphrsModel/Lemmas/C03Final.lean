/-
  Store-level assembly: what `add_edge` does to a store with `Pre`, stated once as an induction principle
  (`addEdge_ind`), and the re-establishment of the traversal-list invariant as its first use.
-/
import GraphrsModel.Lemmas.C03Main
namespace Graphrs
namespace C03
open Store

theorem pre_poison (s : Store) (site : String) (h : Pre s) : Pre (s.poison site) := by
  unfold Store.poison
  split
  · exact h
  · exact h

theorem acontains_ainsert {κ ν : Type} [DecidableEq κ] (m : List (κ × ν)) (k k' : κ) (v : ν) :
    acontains (ainsert m k v) k' = (decide (k = k') || acontains m k') := by
  unfold acontains
  rw [AL.lookup_insert]
  by_cases h : k = k'
  · rw [if_pos h, decide_eq_true h]; rfl
  · rw [if_neg h, decide_eq_false h]; rfl

theorem ensure_ind {P : Store → Prop} (s : Store) (x : Nat) (hp : Pre s) (h0 : P s)
    (hN : ∀ t n, Pre t → P t → P (t.addNode n)) :
    Pre (s.ensure x) ∧ P (s.ensure x) ∧ acontains (s.ensure x).nodesMap x = true ∧
    ∀ k, acontains s.nodesMap k = true → acontains (s.ensure x).nodesMap k = true := by
  unfold Store.ensure
  by_cases hc : acontains s.nodesMap x = true
  · rw [if_neg (by rw [hc]; decide)]
    exact ⟨hp, h0, hc, fun _ h => h⟩
  · rw [if_pos (by rw [Bool.not_eq_true] at hc; rw [hc]; rfl)]
    refine ⟨pre_addNode s _ hp, hN s _ hp h0, ?_⟩
    refine addNode_ind (P := fun t => acontains t.nodesMap x = true ∧
      ∀ k, acontains s.nodesMap k = true → acontains t.nodesMap k = true) s ⟨x, none⟩ hp
      (fun i hl _ => ⟨by show (alookup s.nodesMap x).isSome = true; rw [hl]; rfl, fun _ h => h⟩)
      (fun _ => ⟨?_, fun k h => ?_⟩)
    · show acontains (ainsert s.nodesMap x _) x = true
      rw [acontains_ainsert, decide_eq_true rfl]; rfl
    · show acontains (ainsert s.nodesMap x _) k = true
      rw [acontains_ainsert, h, Bool.or_true]

theorem pre_ensure (s : Store) (x : Nat) (hp : Pre s) : Pre (s.ensure x) :=
  (ensure_ind (P := fun _ => True) s x hp trivial fun _ _ _ _ => trivial).1

theorem ensure2_ind {P : Store → Prop} (s : Store) (e : Edge) (hp : Pre s) (h0 : P s)
    (hN : ∀ t n, Pre t → P t → P (t.addNode n)) :
    ∃ ui vi, Pre ((s.ensure e.u).ensure e.v) ∧ P ((s.ensure e.u).ensure e.v) ∧
      alookup ((s.ensure e.u).ensure e.v).nodesMap e.u = some ui ∧
      alookup ((s.ensure e.u).ensure e.v).nodesMap e.v = some vi := by
  obtain ⟨p1, q1, u1, k1⟩ := ensure_ind s e.u hp h0 hN
  obtain ⟨p2, q2, v2, k2⟩ := ensure_ind _ e.v p1 q1 hN
  have u2 := k2 e.u u1
  unfold acontains at u2 v2
  obtain ⟨ui, hu⟩ := Option.isSome_iff_exists.1 u2
  obtain ⟨vi, hv⟩ := Option.isSome_iff_exists.1 v2
  exact ⟨ui, vi, p2, q2, hu, hv⟩

theorem adjPhase_eq_of_updates_dir (sp : Specs) (s : Store) (e : Edge) (ui vi ou ov : Nat) (upd : AdjUpd)
    (sv1 pv1 : AVec) (hd : sp.directed = true)
    (h1 : adjUpdate s.succVec ou ov e.w upd = some sv1)
    (h2 : adjUpdate s.predVec ov ou e.w upd = some pv1) :
    adjPhase sp s e ui vi ou ov upd =
      { s with
        succ := amodify s.succ e.u [] (sinsert · e.v)
        succMap := amodify s.succMap ui [] (sinsert · vi)
        succVec := sv1
        pred := amodify s.pred e.v [] (sinsert · e.u)
        predMap := amodify s.predMap vi [] (sinsert · ui)
        predVec := pv1 } := by
  unfold adjPhase Store.noteSucc Store.notePred Store.adjSucc Store.adjPred
  simp only [hd, h1, h2, if_true]

theorem adjPhase_eq_of_updates_undir (sp : Specs) (s : Store) (e : Edge) (ui vi ou ov : Nat) (upd : AdjUpd)
    (sv1 sv2 : AVec) (hd : sp.directed = false)
    (h1 : adjUpdate s.succVec ou ov e.w upd = some sv1)
    (h2 : adjUpdate sv1 ov ou e.w upd = some sv2) :
    adjPhase sp s e ui vi ou ov upd =
      { s with
        succ := amodify (amodify s.succ e.u [] (sinsert · e.v)) e.v [] (sinsert · e.u)
        succMap := amodify (amodify s.succMap ui [] (sinsert · vi)) vi [] (sinsert · ui)
        succVec := sv2 } := by
  unfold adjPhase Store.noteSucc Store.adjSucc
  simp only [hd, h1, h2, Bool.false_eq_true, if_false]

theorem edgePhase_newEdges (sp : Specs) (s : Store) (o : Edge) (k key : Nat × Nat) (hkey : (o.u, o.v) = key)
    (hk : idxKey s.specs.directed k.1 k.2 = k) (hE : alookup s.edgesMap k = alookup s.edges key) :
    edgePhase sp s o k.1 k.2 =
      { s with edges := newEdges sp s.edges o key, edgesMap := newEdges sp s.edgesMap o k } := by
  rw [edgePhase_eq sp s o k key hkey hk hE]
  unfold newEdges
  rw [hE]
  cases newList sp (alookup s.edges key) o <;> rfl

/-- the update mode `add_edge` chooses for `e` on `t` -/
abbrev updFor (t : Store) (e : Edge) : AdjUpd :=
  updOf (alookup t.edges (nameKey t.specs.directed e.u e.v)).isSome t.specs

/-- the `edges` map after `add_edge` stored `e` on `t` -/
abbrev edgesWith (t : Store) (e : Edge) : EMap :=
  newEdges t.specs t.edges (Abs.canon t.specs.directed e) (nameKey t.specs.directed e.u e.v)

theorem adjPhase_directed {t : Store} (hpt : Pre t) (e : Edge) {ui vi : Nat} (hd : t.specs.directed = true)
    (hxu : t.names[ui]? = some e.u) (hxv : t.names[vi]? = some e.v) :
    ∃ sv1 pv1, adjUpdate t.succVec ui vi e.w (updFor t e) = some sv1 ∧
      adjUpdate t.predVec vi ui e.w (updFor t e) = some pv1 ∧
      PreVC t.names (edgesWith t e) t.specs.directed sv1 (amodify t.succMap ui [] (sinsert · vi))
        pv1 (amodify t.predMap vi [] (sinsert · ui)) ∧
      adjPhase t.specs t e ui vi ui vi (updFor t e) =
        { t with
          succ := amodify t.succ e.u [] (sinsert · e.v)
          succMap := amodify t.succMap ui [] (sinsert · vi)
          succVec := sv1
          pred := amodify t.pred e.v [] (sinsert · e.u)
          predMap := amodify t.predMap vi [] (sinsert · ui)
          predVec := pv1 } := by
  obtain ⟨sv1, pv1, h1, h2, hV⟩ := main_dir hd hpt hxu hxv t.specs (Abs.canon t.specs.directed e)
  rw [canon_w] at h1 h2
  exact ⟨sv1, pv1, h1, h2, hV, adjPhase_eq_of_updates_dir _ _ _ _ _ _ _ _ sv1 pv1 hd h1 h2⟩

theorem adjPhase_undirected {t : Store} (hpt : Pre t) (e : Edge) {ui vi : Nat} (hd : t.specs.directed = false)
    (hxu : t.names[ui]? = some e.u) (hxv : t.names[vi]? = some e.v) :
    ∃ x0 y0 sv1 sv2, t.names[(idxKey t.specs.directed ui vi).1]? = some x0 ∧
      t.names[(idxKey t.specs.directed ui vi).2]? = some y0 ∧
      ((x0 = e.u ∧ y0 = e.v) ∨ (x0 = e.v ∧ y0 = e.u)) ∧
      adjUpdate t.succVec (idxKey t.specs.directed ui vi).1 (idxKey t.specs.directed ui vi).2 e.w (updFor t e) =
        some sv1 ∧
      adjUpdate sv1 (idxKey t.specs.directed ui vi).2 (idxKey t.specs.directed ui vi).1 e.w (updFor t e) = some sv2 ∧
      PreVC t.names (edgesWith t e) t.specs.directed sv2
        (amodify (amodify t.succMap ui [] (sinsert · vi)) vi [] (sinsert · ui)) t.predVec t.predMap ∧
      adjPhase t.specs t e ui vi (idxKey t.specs.directed ui vi).1 (idxKey t.specs.directed ui vi).2 (updFor t e) =
        { t with
          succ := amodify (amodify t.succ e.u [] (sinsert · e.v)) e.v [] (sinsert · e.u)
          succMap := amodify (amodify t.succMap ui [] (sinsert · vi)) vi [] (sinsert · ui)
          succVec := sv2 } := by
  obtain ⟨x0, y0, hx0, hy0, hxy⟩ : ∃ x0 y0, t.names[(idxKey t.specs.directed ui vi).1]? = some x0 ∧
      t.names[(idxKey t.specs.directed ui vi).2]? = some y0 ∧
      ((x0 = e.u ∧ y0 = e.v) ∨ (x0 = e.v ∧ y0 = e.u)) := by
    rcases nameKey_cases t.specs.directed ui vi with h | ⟨_, h⟩ <;> rw [idxKey_eq_nameKey, h]
    · exact ⟨_, _, hxu, hxv, Or.inl ⟨rfl, rfl⟩⟩
    · exact ⟨_, _, hxv, hxu, Or.inr ⟨rfl, rfl⟩⟩
  obtain ⟨sv1, sv2, h1, h2, hV⟩ := main_undir hd hpt hxu hxv hx0 hy0 hxy t.specs (Abs.canon t.specs.directed e)
  rw [canon_w] at h1 h2
  exact ⟨x0, y0, sv1, sv2, hx0, hy0, hxy, h1, h2, hV, adjPhase_eq_of_updates_undir _ _ _ _ _ _ _ _ sv1 sv2 hd h1 h2⟩

/-- in both cases the adjacency phase reaches no panic site: it changes the six adjacency fields only and keeps the
    number of rows -/
theorem adjPhase_form {t : Store} (hpt : Pre t) (e : Edge) {ui vi : Nat}
    (hu : alookup t.nodesMap e.u = some ui) (hv : alookup t.nodesMap e.v = some vi) :
    ∃ sc scm sv p pm pv,
      adjPhase t.specs t e ui vi (idxKey t.specs.directed ui vi).1 (idxKey t.specs.directed ui vi).2
          (updOf (t.edgesByIdx ui vi).isSome t.specs) =
        { t with succ := sc, succMap := scm, succVec := sv, pred := p, predMap := pm, predVec := pv } ∧
      sv.length = t.succVec.length ∧ pv.length = t.predVec.length := by
  have hxu : t.names[ui]? = some e.u := (hpt.nm _ _).1 hu
  have hxv : t.names[vi]? = some e.v := (hpt.nm _ _).1 hv
  rw [show t.edgesByIdx ui vi = alookup t.edges (nameKey t.specs.directed e.u e.v) from hpt.l2 ui vi e.u e.v hxu hxv]
  by_cases hd : t.specs.directed = true
  · obtain ⟨sv1, pv1, _, _, hV, hA⟩ := adjPhase_directed hpt e hd hxu hxv
    have hidx : idxKey t.specs.directed ui vi = (ui, vi) := by rw [hd]; rfl
    rw [hidx]
    exact ⟨_, _, _, _, _, _, hA, hV.1.len.trans hpt.vS.len.symm, hV.2.2.1.len.trans hpt.vP.len.symm⟩
  · rw [Bool.not_eq_true] at hd
    obtain ⟨_, _, _, sv2, _, _, _, _, _, hV, hA⟩ := adjPhase_undirected hpt e hd hxu hxv
    exact ⟨_, _, _, _, _, _, hA, hV.1.len.trans hpt.vS.len.symm, rfl⟩

/-- What `add_edge` does to a store with `Pre`. Either it returns the store unchanged (the three error returns and
    the dropped self-loop), or it creates the missing endpoints with `add_node` and then, on the resulting store `t`
    where the endpoints have positions `ui`, `vi` (the `unwrap`s cannot fail), runs the edge part: on a directed graph
    one `add_to_adjacency_vec` call on each vector; on an undirected graph two calls on `successors_vec`, for the pair
    of positions in canonical order and for its mirror image. All calls succeed, and the result is the displayed
    record, which satisfies the traversal part `PreVC` of the invariant again. -/
theorem addEdge_ind {P : Store → Prop} (s : Store) (e : Edge) (hp : Pre s) (h0 : P s)
    (hN : ∀ t n, Pre t → P t → P (t.addNode n))
    (hD : ∀ (t : Store) (ui vi : Nat) (sv1 pv1 : AVec), Pre t → P t → t.specs = s.specs →
      t.specs.directed = true → t.names[ui]? = some e.u → t.names[vi]? = some e.v →
      adjUpdate t.succVec ui vi e.w (updFor t e) = some sv1 →
      adjUpdate t.predVec vi ui e.w (updFor t e) = some pv1 →
      PreVC t.names (edgesWith t e) t.specs.directed sv1 (amodify t.succMap ui [] (sinsert · vi))
        pv1 (amodify t.predMap vi [] (sinsert · ui)) →
      P { t with
        succ := amodify t.succ e.u [] (sinsert · e.v)
        succMap := amodify t.succMap ui [] (sinsert · vi)
        succVec := sv1
        pred := amodify t.pred e.v [] (sinsert · e.u)
        predMap := amodify t.predMap vi [] (sinsert · ui)
        predVec := pv1
        edges := edgesWith t e
        edgesMap := newEdges t.specs t.edgesMap (Abs.canon t.specs.directed e) (ui, vi) })
    (hU : ∀ (t : Store) (ui vi ou ov x0 y0 : Nat) (sv1 sv2 : AVec), Pre t → P t → t.specs = s.specs →
      t.specs.directed = false → t.names[ui]? = some e.u → t.names[vi]? = some e.v →
      t.names[ou]? = some x0 → t.names[ov]? = some y0 →
      ((x0 = e.u ∧ y0 = e.v) ∨ (x0 = e.v ∧ y0 = e.u)) →
      adjUpdate t.succVec ou ov e.w (updFor t e) = some sv1 →
      adjUpdate sv1 ov ou e.w (updFor t e) = some sv2 →
      PreVC t.names (edgesWith t e) t.specs.directed sv2
        (amodify (amodify t.succMap ui [] (sinsert · vi)) vi [] (sinsert · ui)) t.predVec t.predMap →
      P { t with
        succ := amodify (amodify t.succ e.u [] (sinsert · e.v)) e.v [] (sinsert · e.u)
        succMap := amodify (amodify t.succMap ui [] (sinsert · vi)) vi [] (sinsert · ui)
        succVec := sv2
        edges := edgesWith t e
        edgesMap := newEdges t.specs t.edgesMap (Abs.canon t.specs.directed e) (ou, ov) }) :
    P (s.addEdge e).1 := by
  refine addEdge_elim (P := fun r => P r.1) s e (fun _ => by split <;> exact h0) (fun _ _ => h0) fun _ _ => ?_
  obtain ⟨ui, vi, hpt, ht, hu, hv⟩ := ensure2_ind s e hp h0 hN
  have hst : ((s.ensure e.u).ensure e.v).specs = s.specs := (ensure_specs ..).trans (ensure_specs ..)
  rw [addEdgeMain_of_lookup hu hv, ← hst]
  generalize (s.ensure e.u).ensure e.v = t at hpt ht hst hu hv ⊢
  split
  · exact ht
  · have hxu : t.names[ui]? = some e.u := (hpt.nm _ _).1 hu
    have hxv : t.names[vi]? = some e.v := (hpt.nm _ _).1 hv
    have hlk : t.edgesByIdx ui vi = alookup t.edges (nameKey t.specs.directed e.u e.v) :=
      hpt.l2 ui vi e.u e.v hxu hxv
    rw [hlk]
    by_cases hd : t.specs.directed = true
    · have hidx : idxKey t.specs.directed ui vi = (ui, vi) := by rw [hd]; rfl
      obtain ⟨sv1, pv1, h1, h2, hV, hA⟩ := adjPhase_directed hpt e hd hxu hxv
      rw [hidx, hA, edgePhase_newEdges _ _ _ (ui, vi) _ (canon_key _ e) (by exact hidx) (by rw [← hidx]; exact hlk)]
      exact hD t ui vi sv1 pv1 hpt ht hst hd hxu hxv h1 h2 hV
    · rw [Bool.not_eq_true] at hd
      obtain ⟨x0, y0, sv1, sv2, hx0, hy0, hxy, h1, h2, hV, hA⟩ := adjPhase_undirected hpt e hd hxu hxv
      rw [hA, edgePhase_newEdges _ _ _ (idxKey t.specs.directed ui vi) _ (canon_key _ e) (by exact idxKey_idem _ ui vi)
        (by exact hlk)]
      exact hU t ui vi _ _ x0 y0 sv1 sv2 hpt ht hst hd hxu hxv hx0 hy0 hxy h1 h2 hV

theorem preV_addEdge (s : Store) (e : Edge) (hp : Pre s) : PreV (s.addEdge e).1 :=
  addEdge_ind s e hp (preV_of_pre s hp) (fun t n hpt _ => preV_of_pre _ (pre_addNode t n hpt))
    (fun _ _ _ _ _ _ _ _ _ _ _ _ _ hV => hV) (fun _ _ _ _ _ _ _ _ _ _ _ _ _ _ _ _ _ _ _ _ hV => hV)

end C03
end Graphrs
