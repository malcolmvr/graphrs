/-
  The node lookups and the pairwise edge lookups against the abstract graph.
-/
import GraphrsModel.Lemmas.C02Inv
namespace Graphrs
namespace C02
open Store

theorem findIdx_of_names (l : List Node) (x i : Nat) (hn : (l.map (·.name)).Nodup)
    (hi : (l.map (·.name))[i]? = some x) : l.findIdx (·.name == x) = i := by
  induction l generalizing i with
  | nil => simp at hi
  | cons a l ih =>
    rw [List.map_cons, List.nodup_cons] at hn
    rw [List.findIdx_cons]
    cases i with
    | zero =>
      rw [List.map_cons, List.getElem?_cons_zero, Option.some.injEq] at hi
      rw [hi, beq_self_eq_true, cond_true]
    | succ i =>
      rw [List.map_cons, List.getElem?_cons_succ] at hi
      have hb : (a.name == x) = false := beq_eq_false_iff_ne.2 fun e => hn.1 (e ▸ List.mem_of_getElem? hi)
      rw [hb, cond_false, ih i hn.2 hi]

theorem find?_of_names (l : List Node) (x i : Nat) (hn : (l.map (·.name)).Nodup)
    (hi : (l.map (·.name))[i]? = some x) : l.find? (·.name == x) = l[i]? := by
  rw [List.find?_eq_getElem?_findIdx, findIdx_of_names l x i hn hi]

theorem getNode_eq {s : Store} (hn : NodesP s) (x : Nat) : s.getNode x = s.abs.getNode x := by
  unfold Store.getNode Store.getNodeByIndex Abs.getNode Store.abs
  cases h : alookup s.nodesMap x with
  | some i => exact (hn.rev i).trans (find?_of_names _ x i hn.namesNodup ((hn.link x i).1 h)).symm
  | none =>
    refine (List.find?_eq_none.2 fun nd hnd hx => ?_).symm
    exact hn.not_mem_names h (beq_iff_eq.1 hx ▸ List.mem_map_of_mem hnd)

theorem hasNode_iff {s : Store} (hn : NodesP s) (x : Nat) :
    s.hasNode x = true ↔ ∃ i, alookup s.nodesMap x = some i := by
  unfold Store.hasNode Store.getNode Store.getNodeByIndex
  cases h : alookup s.nodesMap x with
  | none => simp
  | some i => simp [hn.rev, hn.idx_lt h]

theorem hasNode_mem {s : Store} (hn : NodesP s) (x : Nat) : s.hasNode x = true ↔ x ∈ s.names := by
  rw [hasNode_iff hn, hn.mem_names]

theorem _root_.Graphrs.Store.hasNode_names (s : Store) (h : s.wf = true) (x : Nat) :
    s.hasNode x = true ↔ x ∈ s.names :=
  hasNode_mem (nodesP_of s (s.wf_parts h).1) x

theorem _root_.Graphrs.Store.names_nodup (s : Store) (h : s.wf = true) : s.names.Nodup :=
  (nodesP_of s (s.wf_parts h).1).namesNodup

theorem between_eq {s : Store} (he : EdgesP s) (u v : Nat) :
    s.abs.between s.specs.directed u v = (alookup s.edges (nameKey s.specs.directed u v)).getD [] := by
  rw [← AL.flatMap_filter (fun e : Edge => (e.u, e.v)) s.edges he.keys he.own]
  refine List.filter_congr fun e hmem => ?_
  rw [Bool.eq_iff_iff, sameKey_iff_nameKey _ e u v (he.canon_edge hmem), beq_iff_eq]

theorem edgesByIdx_eq {s : Store} (hn : NodesP s) (he : EdgesP s) {u v ui vi : Nat}
    (hu : alookup s.nodesMap u = some ui) (hv : alookup s.nodesMap v = some vi) :
    (s.edgesByIdx ui vi = none ∧ s.abs.between s.specs.directed u v = []) ∨
    (∃ e l, s.edgesByIdx ui vi = some (e :: l) ∧ s.abs.between s.specs.directed u v = e :: l) := by
  have h1 : s.edgesByIdx ui vi = alookup s.edgesMap (idxKey s.specs.directed ui vi) := rfl
  rw [h1, edgesMap_eq_edges hn he hu hv, between_eq he]
  cases hl : alookup s.edges (nameKey s.specs.directed u v) with
  | none => exact .inl ⟨rfl, rfl⟩
  | some l =>
    cases l with
    | nil => exact absurd rfl (he.ne _ (AL.lookup_mem hl))
    | cons e l => exact .inr ⟨e, l, rfl, rfl⟩

end C02
end Graphrs
