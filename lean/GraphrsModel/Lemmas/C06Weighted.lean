/-
  A graph built (`new_from_nodes_and_edges`) from edges that all carry a weight has only weighted entries in
  `successors_vec` - under every GraphSpecs record.  Needed for the weighted closeness model on directed graphs, which
  runs on `reverse()` (a rebuilt graph): the coupling invariant `Store.wf` alone does not exclude a NaN entry hidden
  behind a weighted one (see the counterexample in Props/C06Model.lean).
-/
import GraphrsModel.Lemmas.C03Edge
namespace Graphrs
namespace C06W
open Store

/-- every entry of the traversal lists carries a weight -/
def AllW (vec : List (List Adj)) : Prop := ∀ row ∈ vec, ∀ a ∈ row, ∃ c, a.2 = some c

theorem AllW.set {vec : List (List Adj)} (h : AllW vec) (u : Nat) (row : List Adj)
    (hrow : ∀ a ∈ row, ∃ c, a.2 = some c) : AllW (vec.set u row) := by
  intro r hr a ha
  rcases List.mem_or_eq_of_mem_set hr with h1 | h1
  · exact h r h1 a ha
  · subst h1; exact hrow a ha

theorem addNode_allW (s : Store) (n : Node) (h : AllW s.succVec) : AllW (s.addNode n).succVec := by
  unfold Store.addNode
  split
  · simp only
    split
    · exact h
    · rw [poison_succVec]; exact h
  · simp only
    intro r hr a ha
    rw [List.mem_append] at hr
    rcases hr with hr | hr
    · exact h r hr a ha
    · simp at hr; subst hr; simp at ha

theorem adjUpdate_allW (vec vec' : List (List Adj)) (u v : Nat) (w : W) (upd : AdjUpd) (c : Int) (hw : w = some c)
    (h : AllW vec) (hu : adjUpdate vec u v w upd = some vec') : AllW vec' := by
  obtain ⟨row, hr, rfl⟩ := C03.adjUpdate_some hu
  refine h.set u _ fun a ha => ?_
  rcases C03.mem_updRow row v w upd a ha with ⟨hm, _⟩ | ⟨rfl, _⟩
  · exact h row (List.mem_of_getElem? hr) a hm
  · exact ⟨c, hw⟩

theorem adjSucc_allW (s : Store) (u v : Nat) (w : W) (upd : AdjUpd) (c : Int) (hw : w = some c)
    (h : AllW s.succVec) : AllW (s.adjSucc u v w upd).succVec := by
  unfold Store.adjSucc
  cases hu : adjUpdate s.succVec u v w upd with
  | none => simp only; rw [poison_succVec]; exact h
  | some vec => exact adjUpdate_allW _ _ u v w upd c hw h hu

theorem adjPhase_allW (sp : Specs) (s : Store) (e : Edge) (ui vi ou ov : Nat) (upd : AdjUpd) (c : Int)
    (hw : e.w = some c) (h : AllW s.succVec) : AllW (adjPhase sp s e ui vi ou ov upd).succVec := by
  have h1 : AllW ((s.noteSucc e.u e.v ui vi).adjSucc ou ov e.w upd).succVec := adjSucc_allW _ ou ov e.w upd c hw h
  unfold adjPhase
  cases sp.directed
  · exact adjSucc_allW _ ov ou e.w upd c hw h1
  · exact (C02.adjPred_succVec _ _ _ _ _).symm ▸ h1

theorem edgePhase_succVec (sp : Specs) (s : Store) (o : Edge) (ou ov : Nat) :
    (edgePhase sp s o ou ov).succVec = s.succVec := by
  unfold edgePhase
  rw [apply_ite Store.succVec, apply_ite Store.succVec, apply_ite Store.succVec]
  -- every branch only changes `edges` and `edgesMap`
  exact (congrArg _ ((congrArg _ (ite_self _)).trans (ite_self _))).trans (ite_self _)

theorem ensure_allW (s : Store) (x : Nat) (h : AllW s.succVec) : AllW (s.ensure x).succVec := by
  unfold Store.ensure
  split
  · exact addNode_allW s _ h
  · exact h

theorem addEdge_allW (s : Store) (e : Edge) (c : Int) (hw : e.w = some c) (h : AllW s.succVec) :
    AllW (s.addEdge e).1.succVec := by
  refine addEdge_elim (P := fun r => AllW r.1.succVec) s e (fun _ => by split <;> exact h) (fun _ _ => h) fun _ _ => ?_
  have h2 := ensure_allW _ e.v (ensure_allW s e.u h)
  unfold addEdgeMain
  simp only
  split
  · split
    · exact h2
    · exact (edgePhase_succVec ..).symm ▸ adjPhase_allW _ _ e _ _ _ _ _ c hw h2
  · exact (poison_succVec ..).symm ▸ h2

theorem addEdges_allW (es : List Edge) (s : Store) (hes : ∀ e ∈ es, ∃ c, e.w = some c) (h : AllW s.succVec) :
    AllW (s.addEdges es).1.succVec :=
  Store.addEdges_ind (P := fun s => AllW s.succVec) es
    (fun s e he h => (hes e he).elim fun c hc => addEdge_allW s e c hc h) s h

theorem addNodes_allW (ns : List Node) (s : Store) (h : AllW s.succVec) : AllW (s.addNodes ns).succVec :=
  Store.addNodes_ind (P := fun s => AllW s.succVec) addNode_allW ns s h

theorem new_allW (sp : Specs) : AllW (Store.new sp).succVec := fun _ hr => nomatch hr

/-- **a graph built from weighted edges has only weighted traversal entries** -/
theorem newFrom_allW (sp : Specs) (ns : List Node) (es : List Edge) (t : Store)
    (hes : ∀ e ∈ es, ∃ c, e.w = some c) (ht : Store.newFrom sp ns es = .ok t) : AllW t.succVec :=
  Store.newFrom_ind (P := fun s => AllW s.succVec) new_allW addNode_allW
    (fun s e he h => (hes e he).elim fun c hc => addEdge_allW s e c hc h) ht

/-- the call adds no edge without a weight -/
def opWeighted : Op → Prop
  | .addNode _ => True
  | .addNodes _ => True
  | .addEdge e => ∃ c, e.w = some c
  | .addEdgeTuple _ _ => False
  | .addEdges es => ∀ e ∈ es, ∃ c, e.w = some c
  | .addEdgeTuples es => es = []
  | .newFrom _ es => ∀ e ∈ es, ∃ c, e.w = some c

theorem step_allW (s : Store) (op : Op) (hop : opWeighted op) (h : AllW s.succVec) : AllW (s.step op).1.succVec := by
  cases op with
  | addNode n => exact addNode_allW s n h
  | addNodes ns => exact addNodes_allW ns s h
  | addEdge e => obtain ⟨c, hc⟩ := hop; exact addEdge_allW s e c hc h
  | addEdgeTuple u v => exact absurd hop (by simp [opWeighted])
  | addEdges es => exact addEdges_allW es s hop h
  | addEdgeTuples es =>
    simp only [opWeighted] at hop
    subst hop
    exact h
  | newFrom ns es =>
    simp only [Store.step]
    cases hr : Store.newFrom s.specs ns es with
    | ok t => exact newFrom_allW _ ns es t hop hr
    | err k => exact h
    | panic site => simp only; rw [poison_succVec]; exact h

theorem run_allW (sp : Specs) (ops : List Op) (hops : ∀ op ∈ ops, opWeighted op) :
    AllW (Store.run sp ops).1.succVec := by
  have key : ∀ (F : Store × List (Option ErrKind) → Op → Store × List (Option ErrKind))
      (_ : ∀ acc op, (F acc op).1 = (acc.1.step op).1) (l : List Op) (acc : Store × List (Option ErrKind)),
      (∀ op ∈ l, opWeighted op) → AllW acc.1.succVec → AllW (l.foldl F acc).1.succVec := by
    intro F hF l
    induction l with
    | nil => intro acc _ h; exact h
    | cons op l ih =>
      intro acc hl h
      rw [List.foldl_cons]
      apply ih _ (fun o ho => hl o (List.mem_cons_of_mem _ ho))
      rw [hF]
      exact step_allW acc.1 op (hl op (List.mem_cons_self ..)) h
  unfold Store.run
  exact key _ (by intro acc op; rfl) ops _ hops (new_allW sp)

end C06W
end Graphrs
