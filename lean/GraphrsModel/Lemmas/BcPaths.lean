/-
  C05 (Brandes), the meaning of the specification's enumeration: over unit costs and an exact labelling,
  `Arcs.tightPaths` lists every shortest source-target path (as a node sequence accepted by `walkCost`) exactly once.
-/
import GraphrsModel.Lemmas.BcSpec
import GraphrsModel.Lemmas.DijkstraPaths
import GraphrsModel.Props.C04
import Mathlib.Data.List.Nodup
namespace Graphrs
namespace Bc

theorem minArc_unit {A : Arcs} (hU : UnitArcs A) {x y : Nat} (h : (x, y, (1 : Int)) ∈ A) : minArc A x y = some 1 := by
  obtain ⟨m, hm, hin, _⟩ := minArc_spec h
  have : m = 1 := hU _ hin
  rw [hm, this]

section exact
variable {B : Arcs} {d : List (Nat × Int)} {s : Nat}

/-- a shortest path: a node sequence from `s` to `t` that `walkCost` accepts with the distance as its cost -/
def ShortestPath (B : Arcs) (s t : Nat) (p : List Nat) : Prop := ∃ c, PathOk B s t p c ∧ IsDist B s t c

theorem pathOk_walk {s t : Nat} {p : List Nat} {c : Int} (h : PathOk B s t p c) : Walk B s t c :=
  walkCost_walk' h.2.2 h.1 h.2.1

theorem pathOk_zero (hU : UnitArcs B) {s t : Nat} {p : List Nat} (h : PathOk B s t p 0) : p = [s] := by
  obtain ⟨hh, hl, hw⟩ := h
  cases p with
  | nil => simp at hh
  | cons x rest =>
    simp at hh; subst hh
    cases rest with
    | nil => rfl
    | cons y rest =>
      exfalso
      rw [walkCost_cons_cons] at hw
      cases hm : minArc B x y with
      | none => rw [hm] at hw; cases hw
      | some b =>
        rw [hm] at hw
        simp only at hw
        cases hr : Arcs.walkCost B (y :: rest) with
        | none => rw [hr] at hw; cases hw
        | some c' =>
          rw [hr] at hw
          simp only [Option.map_some, Option.some.injEq] at hw
          have hb : b = 1 := hU _ (mem_of_minArc hm)
          obtain ⟨a', b', _, _, hwk⟩ := C04_walkCost_walk B _ _ hr
          have := walk_nonneg_pos hU.pos hwk
          omega

theorem pathOk_snoc_iff (hU : UnitArcs B) {s t : Nat} (hts : t ≠ s) (p : List Nat) (c : Int) :
    PathOk B s t p c ↔ ∃ y q, p = q ++ [t] ∧ PathOk B s y q (c - 1) ∧ (y, t, (1 : Int)) ∈ B := by
  constructor
  · rintro ⟨hh, hl, hw⟩
    have hpne : p ≠ [] := by intro e; rw [e] at hh; cases hh
    have hsplit := List.dropLast_concat_getLast hpne
    rw [Option.some.inj ((List.getLast?_eq_some_getLast hpne).symm.trans hl)] at hsplit
    cases hq : p.dropLast with
    | nil =>
      rw [hq] at hsplit
      rw [← hsplit] at hh
      exact absurd (Option.some.inj hh) hts
    | cons a l =>
      rw [hq] at hsplit
      obtain ⟨y, hy⟩ : ∃ y, (a :: l).getLast? = some y := ⟨_, List.getLast?_eq_some_getLast (List.cons_ne_nil a l)⟩
      rw [← hsplit, walkCost_append_last B t (a :: l) y hy] at hw
      cases hwq : Arcs.walkCost B (a :: l) with
      | none => rw [hwq] at hw; cases hw
      | some x =>
        cases hm : minArc B y t with
        | none => rw [hwq, hm] at hw; cases hw
        | some b =>
          rw [hwq, hm] at hw
          have harc := mem_of_minArc hm
          cases hU _ harc
          have hx1 : x + 1 = c := Option.some.inj hw
          have hx : x = c - 1 := by rw [← hx1]; exact (Int.add_sub_cancel x 1).symm
          rw [hx] at hwq
          rw [← hsplit] at hh
          exact ⟨y, a :: l, hsplit.symm, ⟨hh, hy, hwq⟩, harc⟩
  · rintro ⟨y, q, rfl, ⟨hh, hl, hw⟩, harc⟩
    refine ⟨?_, by simp, ?_⟩
    · cases q with
      | nil => cases hh
      | cons a l => exact hh
    · rw [walkCost_append_last B t q y hl, hw, minArc_unit hU harc]
      exact congrArg some (Int.sub_add_cancel c 1)

theorem shortestPath_snoc_iff (hU : UnitArcs B) {s t : Nat} (hts : t ≠ s) {dt : Int} (hdt : IsDist B s t dt) (p : List Nat) :
    ShortestPath B s t p ↔
      ∃ y q, p = q ++ [t] ∧ ShortestPath B s y q ∧ (y, t, (1 : Int)) ∈ B ∧ IsDist B s y (dt - 1) := by
  constructor
  · rintro ⟨c, hp, hc⟩
    rw [isDist_unique hc hdt] at hp
    obtain ⟨y, q, hpq, hq, harc⟩ := (pathOk_snoc_iff hU hts p dt).1 hp
    have hyd : IsDist B s y (dt - 1) :=
      ⟨pathOk_walk hq, fun c' hc' => Int.sub_right_le_of_le_add (hdt.2 _ (Walk.snoc hc' harc))⟩
    exact ⟨y, q, hpq, ⟨dt - 1, hq, hyd⟩, harc, hyd⟩
  · rintro ⟨y, q, hpq, ⟨c, hq, hc⟩, harc, hyd⟩
    rw [isDist_unique hc hyd] at hq
    exact ⟨dt, (pathOk_snoc_iff hU hts p dt).2 ⟨y, q, hpq, hq, harc⟩, hdt⟩

/-- **`tightPaths` lists every shortest path exactly once** -/
theorem tightPaths_exact (hU : UnitArcs B) (hd : ExactD B d s) (n : Nat) (hn : ∀ t k, IsDist B s t k → k < (n : Int)) :
    ∀ t, (Arcs.tightPaths B d s n t).Nodup ∧ ∀ p, p ∈ Arcs.tightPaths B d s n t ↔ ShortestPath B s t p := by
  have hTp := tp_eq hU hd n hn
  have hsrc : (Arcs.tightPaths B d s n s).Nodup ∧ ∀ p, p ∈ Arcs.tightPaths B d s n s ↔ ShortestPath B s s p := by
    rw [hTp.source]
    simp only [List.mem_singleton]
    refine ⟨List.nodup_singleton _, fun p => ⟨?_, ?_⟩⟩
    · rintro rfl
      exact ⟨0, ⟨rfl, rfl, rfl⟩, isDist_source_pos hU.pos s⟩
    · rintro ⟨c, hp, hc⟩
      rw [isDist_unique hc (isDist_source_pos hU.pos s)] at hp
      exact pathOk_zero hU hp
  -- the other targets, by induction on the distance
  have key : ∀ m : Nat, ∀ t dt, t ≠ s → alookup d t = some dt → dt.toNat = m →
      (Arcs.tightPaths B d s n t).Nodup ∧ ∀ p, p ∈ Arcs.tightPaths B d s n t ↔ ShortestPath B s t p := by
    intro m
    induction m using Nat.strong_induction_on with
    | _ m ih =>
      intro t dt hts hl hm
      have hdt := (hd t dt).1 hl
      have hdt1 : 0 < dt :=
        lt_of_le_of_ne (isDist_nonneg_pos hU.pos hdt) fun e => hts (walk_zero_pos hU.pos hdt.1 (Int.le_of_eq e.symm))
      have hIH : ∀ y ∈ tpreds B d t dt,
          (Arcs.tightPaths B d s n y).Nodup ∧ ∀ p, p ∈ Arcs.tightPaths B d s n y ↔ ShortestPath B s y p := by
        intro y hy
        have hyd := ((mem_tpreds hU hd t dt y).1 hy).2
        by_cases hys : y = s
        · rw [hys]; exact hsrc
        · refine ih (dt - 1).toNat ?_ y (dt - 1) hys ((hd y _).2 hyd) rfl
          rw [← hm]
          exact (Int.toNat_lt_toNat hdt1).2 (Int.sub_one_lt_of_le (Int.le_refl dt))
      rw [hTp.some hts hl]
      constructor
      · rw [List.nodup_flatMap]
        constructor
        · intro y hy
          exact (hIH y hy).1.map (fun a b e => List.append_cancel_right e)
        · refine (tpreds_nodup B d t dt).imp ?_
          intro y y' hne
          simp only [Function.onFun]
          intro p hp hp'
          rw [List.mem_map] at hp hp'
          obtain ⟨q, hq, rfl⟩ := hp
          obtain ⟨q', hq', e⟩ := hp'
          have : q' = q := List.append_cancel_right e
          subst this
          have h1 := tightPaths_last B d s n y q' hq
          have h2 := tightPaths_last B d s n y' q' hq'
          rw [h1] at h2
          exact hne (Option.some.inj h2)
      · intro p
        rw [shortestPath_snoc_iff hU hts hdt p]
        simp only [List.mem_flatMap, List.mem_map]
        constructor
        · rintro ⟨y, hy, q, hq, rfl⟩
          obtain ⟨harc, hyd⟩ := (mem_tpreds hU hd t dt y).1 hy
          exact ⟨y, q, rfl, ((hIH y hy).2 q).1 hq, harc, hyd⟩
        · rintro ⟨y, q, rfl, hq, harc, hyd⟩
          have hy := (mem_tpreds hU hd t dt y).2 ⟨harc, hyd⟩
          exact ⟨y, hy, q, ((hIH y hy).2 q).2 hq, rfl⟩
  intro t
  by_cases hts : t = s
  · rw [hts]; exact hsrc
  · cases hl : alookup d t with
    | none =>
      -- an unreachable target has no listed path and no shortest path
      rw [hTp.none hts hl]
      refine ⟨List.nodup_nil, fun p => ⟨fun h => absurd h List.not_mem_nil, ?_⟩⟩
      rintro ⟨c, _, hc⟩
      rw [(hd t c).2 hc] at hl; cases hl
    | some dt => exact key _ t dt hts hl rfl

end exact

end Bc
end Graphrs
