/-
  C05 (Brandes): on every store built through the mutation API a row of `successors_vec` lists every neighbour other
  than the node itself at most once (`add_edge` pushes a new entry only when no edge between the two nodes is stored;
  the other update modes keep the listed positions).  This is the hypothesis the BFS path count needs and that the
  coupling invariant `Store.wf` does not state.  It is the clause `Nd false` of the entry-level invariant of C03, which
  `add_edge` preserves on directed graphs too.
-/
import GraphrsModel.Lemmas.C03Ent
namespace Graphrs
namespace Bc
open C03

/-- every row lists every position other than its own at most once -/
def RowsNdV (vec : List (List Adj)) : Prop :=
  ∀ v : Nat, (((vec[v]?.getD []).map (fun a => a.1)).filter (fun j => j != v)).Nodup

def RowsNd (s : Store) : Prop := RowsNdV s.succVec

theorem rowsNdV_iff (vec : List (List Adj)) : RowsNdV vec ↔ C03E.Nd false vec := by
  constructor
  · intro h i row hrow
    have := h i
    rw [hrow] at this
    exact this
  · intro h v
    cases hrow : vec[v]? with
    | none => exact List.nodup_nil
    | some row => exact h v row hrow

theorem rowsNdV_nil : RowsNdV [] := by
  intro v; simp

theorem addNode_rowsNd (s : Store) (nd : Node) (h : RowsNd s) : RowsNd (s.addNode nd) := by
  unfold RowsNd Store.addNode
  split
  · split
    · exact h
    · show RowsNdV (s.poison _).succVec
      rw [Store.poison_succVec]; exact h
  · exact (rowsNdV_iff _).2 ((rowsNdV_iff _).1 h).addNode

theorem addEdge_rowsNd (s : Store) (e : Edge) (hp : Pre s) (hr : RowsNd s) : RowsNd (s.addEdge e).1 :=
  (rowsNdV_iff _).2 (C03E.ndS_addEdge false s e hp (fun h => by cases h) ((rowsNdV_iff _).1 hr))

end Bc
end Graphrs
