/-
  Lists as sets (`sinsert`, `sunion`, `dedup`), the structural insertion sort (`insertSorted`, `isort`, `sortNat`) and
  the fold-defined sums of Base.lean: membership, `Nodup` and `Perm` facts that every family of proofs uses.
-/
import GraphrsModel.Base
namespace Graphrs

universe u
variable {α : Type u}

section sets
variable [DecidableEq α]

theorem mem_sinsert (s : List α) (x y : α) : y ∈ sinsert s x ↔ y ∈ s ∨ y = x := by
  unfold sinsert
  split
  · rename_i hx
    exact ⟨.inl, fun h => h.elim id (· ▸ hx)⟩
  · rw [List.mem_append, List.mem_singleton]

theorem nodup_sinsert (s : List α) (x : α) (h : s.Nodup) : (sinsert s x).Nodup := by
  unfold sinsert
  split
  · exact h
  · rename_i hx
    exact List.nodup_append.2 ⟨h, List.nodup_cons.2 ⟨List.not_mem_nil, List.nodup_nil⟩,
      fun a ha b hb e => hx (List.mem_singleton.1 hb ▸ e ▸ ha)⟩

theorem mem_foldl_sinsert (l acc : List α) (y : α) : y ∈ l.foldl sinsert acc ↔ y ∈ acc ∨ y ∈ l := by
  induction l generalizing acc with
  | nil => simp
  | cons x l ih => rw [List.foldl_cons, ih, mem_sinsert, List.mem_cons, or_assoc]

theorem nodup_foldl_sinsert (l acc : List α) (h : acc.Nodup) : (l.foldl sinsert acc).Nodup := by
  induction l generalizing acc with
  | nil => exact h
  | cons x l ih => exact ih _ (nodup_sinsert _ _ h)

theorem mem_sunion (s t : List α) (y : α) : y ∈ sunion s t ↔ y ∈ s ∨ y ∈ t :=
  mem_foldl_sinsert t s y

theorem nodup_sunion (s t : List α) (h : s.Nodup) : (sunion s t).Nodup :=
  nodup_foldl_sinsert t s h

theorem mem_dedup (l : List α) (y : α) : y ∈ dedup l ↔ y ∈ l := by
  rw [dedup, mem_foldl_sinsert]
  exact ⟨fun h => h.elim (fun h => nomatch h) id, .inr⟩

theorem nodup_dedup (l : List α) : (dedup l).Nodup :=
  nodup_foldl_sinsert l [] List.nodup_nil

theorem foldl_sinsert_of_nodup (l acc : List α) (h : (acc ++ l).Nodup) : l.foldl sinsert acc = acc ++ l := by
  induction l generalizing acc with
  | nil => rw [List.foldl_nil, List.append_nil]
  | cons x l ih =>
    have hx : x ∉ acc := fun hx => (List.nodup_append.1 h).2.2 x hx x List.mem_cons_self rfl
    rw [List.foldl_cons, sinsert, if_neg hx, ih _ (by rwa [List.append_assoc]), List.append_assoc]
    rfl

theorem dedup_of_nodup (l : List α) (h : l.Nodup) : dedup l = l :=
  foldl_sinsert_of_nodup l [] h

end sets

section sort

theorem insertSorted_perm (le : α → α → Bool) (x : α) (l : List α) : (insertSorted le x l).Perm (x :: l) := by
  induction l with
  | nil => exact .refl _
  | cons y ys ih =>
    unfold insertSorted
    split
    · exact .refl _
    · exact (ih.cons y).trans (.swap x y ys)

theorem isort_perm (le : α → α → Bool) (l : List α) : (isort le l).Perm l := by
  induction l with
  | nil => exact .refl _
  | cons x xs ih => exact (insertSorted_perm le x _).trans (ih.cons x)

theorem mem_insertSorted (le : α → α → Bool) (x y : α) (l : List α) : y ∈ insertSorted le x l ↔ y = x ∨ y ∈ l :=
  (insertSorted_perm le x l).mem_iff.trans List.mem_cons

theorem mem_isort (le : α → α → Bool) (y : α) (l : List α) : y ∈ isort le l ↔ y ∈ l :=
  (isort_perm le l).mem_iff

theorem sortNat_perm (l : List Nat) : (sortNat l).Perm l := isort_perm _ l

theorem mem_sortNat (y : Nat) (l : List Nat) : y ∈ sortNat l ↔ y ∈ l := mem_isort _ y l

theorem length_sortNat (l : List Nat) : (sortNat l).length = l.length := (sortNat_perm l).length_eq

end sort

theorem sumNat_eq_sum (l : List Nat) : sumNat l = l.sum := (List.sum_eq_foldl ..).symm

theorem sumInt_eq_sum (l : List Int) : sumInt l = l.sum := (List.sum_eq_foldl ..).symm

theorem sumNat_map_length {β : Type u} (ls : List (List β)) : sumNat (ls.map List.length) = (ls.flatMap id).length := by
  rw [sumNat_eq_sum, List.length_flatMap]
  rfl

theorem set_of_getElem? {α} {l : List α} {i : Nat} {a : α} (h : l[i]? = some a) : l.set i a = l := by
  obtain ⟨hlt, rfl⟩ := List.getElem?_eq_some_iff.mp h
  exact List.set_getElem_self hlt

theorem getElem?_concat_eq_some {α} (l : List α) (x y : α) (i : Nat) :
    (l ++ [x])[i]? = some y ↔ (l[i]? = some y ∨ (i = l.length ∧ y = x)) := by
  rcases Nat.lt_trichotomy i l.length with h | rfl | h
  · rw [List.getElem?_append_left h, or_iff_left fun c => Nat.ne_of_lt h c.1]
  · rw [List.getElem?_concat_length, List.getElem?_eq_none (Nat.le_refl _), Option.some.injEq, eq_comm]
    exact ⟨fun h => .inr ⟨rfl, h⟩, fun h => h.elim nofun (·.2)⟩
  · rw [List.getElem?_eq_none (by rw [List.length_append]; exact h), List.getElem?_eq_none (Nat.le_of_lt h)]
    exact ⟨nofun, fun c => c.elim nofun fun c => absurd c.1 (Nat.ne_of_gt h)⟩

end Graphrs
