/-
  The weighted single-source stage of betweenness.rs (`dijkstra`: a fringe ordered by distance only, lazy deletion,
  `seen` / `D` arrays, `sigma` reset on a strictly shorter path): its loop invariant and what the stage delivers.
  The loop is not that of `Store.dijkstra` (Lemmas/DijkstraInv.lean, DijkstraBasic.lean): the fringe is keyed by the
  distance only, entries carry the pushing node, there is no cutoff, and `sigma`/`P` are kept; hence `popMinDist_*`, `pendN`
  here beside `popFringe_*`, `pendFrom` there.  The invariant has two layers.  `DQInv` speaks of `D`, `seen` and the
  fringe only and holds for non-negative costs: the settled labels are the distances (`dijkstra_dist`; closeness.rs runs the same loop and reads off `D`).  `DInv` adds the
  predecessor lists and path counts, for positive costs and rows without repeated targets (`SsOut` with `κ = 2`: the stage
  leaves `sigma[source] = 2`, every `sigma` is twice the number of shortest paths).
-/
import GraphrsModel.Lemmas.BcBfs
namespace Graphrs
namespace Bc

/-- the cost the weighted stage reads off an adjacency entry (`NaN` reads as 0) -/
def djCost (a : Adj) : Int := a.2.getD 0

theorem popMinDist_none {fr : List CNode} (h : popMinDist fr = none) : fr = [] := by
  cases fr with
  | nil => rfl
  | cons x xs => cases h

theorem popMinDist_some {fr : List CNode} {b : CNode} {rest : List CNode} (h : popMinDist fr = some (b, rest)) :
    b ∈ fr ∧ rest = fr.erase b ∧ ∀ y ∈ fr, b.1 ≤ y.1 := by
  cases fr with
  | nil => cases h
  | cons x xs =>
    cases h
    exact ⟨foldl_pick_mem (fun y b : CNode => y.1 < b.1) xs x, rfl,
      foldl_pick_le (fun y b : CNode => y.1 < b.1) (·.1) (fun _ _ h => Int.le_of_lt h) (fun _ _ h => Int.not_lt.1 h) xs x⟩

/-- the body of the `for adj in successors` loop of `dijkstra` -/
def djRelax (v : Nat) (dist : Int) (st : BState) (adj : Adj) : BState :=
  let w := adj.1
  let vw := dist + djCost adj
  let seenW := st.seen[w]?.join
  if (st.D[w]?.join).isNone && (match seenW with | none => true | some sw => vw < sw) then
    { st with seen := st.seen.set w (some vw), fringe := st.fringe ++ [(vw, v, w)],
              sigma := st.sigma.set w 0, P := st.P.set w [v] }
  else if seenW == some vw then
    { st with sigma := st.sigma.set w (getD0 st.sigma w + getD0 st.sigma v),
              P := st.P.set w ((st.P[w]?.getD []) ++ [v]) }
  else st

theorem bcDijkstraLoop_succ (adjOf : Nat → List Adj) (fuel : Nat) (st : BState) :
    bcDijkstraLoop adjOf (fuel + 1) st =
      match popMinDist st.fringe with
      | none => st
      | some ((dist, pred, v), rest) =>
        if ((st.D[v]?.join).isSome) = true then bcDijkstraLoop adjOf fuel { st with fringe := rest }
        else bcDijkstraLoop adjOf fuel ((adjOf v).foldl (djRelax v dist)
          { st with fringe := rest, sigma := st.sigma.set v (getD0 st.sigma v + getD0 st.sigma pred),
                    S := st.S ++ [v], D := st.D.set v (some dist) }) := by
  rfl

/-- first visit or strictly shorter: the entry is pushed, `sigma` and `P` restart -/
theorem djRelax_push (v : Nat) (dist : Int) (st : BState) (a : Adj) (hD : lk st.D a.1 = none)
    (hs : ∀ sw, lk st.seen a.1 = some sw → dist + djCost a < sw) :
    djRelax v dist st a =
      { st with seen := st.seen.set a.1 (some (dist + djCost a)), fringe := st.fringe ++ [(dist + djCost a, v, a.1)],
                sigma := st.sigma.set a.1 0, P := st.P.set a.1 [v] } := by
  simp only [lk, djCost] at hD hs ⊢
  simp only [djRelax, djCost]
  cases hsn : st.seen[a.1]?.join with
  | none => simp [hD]
  | some sw => simp [hD, hs sw hsn]

theorem djRelax_equal (v : Nat) (dist : Int) (st : BState) (a : Adj)
    (hs : lk st.seen a.1 = some (dist + djCost a)) :
    djRelax v dist st a =
      { st with sigma := st.sigma.set a.1 (getD0 st.sigma a.1 + getD0 st.sigma v),
                P := st.P.set a.1 (gP st.P a.1 ++ [v]) } := by
  simp only [lk, djCost] at hs
  simp [djRelax, djCost, gP, hs]

theorem djRelax_skip (v : Nat) (dist : Int) (st : BState) (a : Adj) {sw : Int}
    (hs : lk st.seen a.1 = some sw) (hlt : sw < dist + djCost a) :
    djRelax v dist st a = st := by
  simp only [lk, djCost] at hs hlt
  have h1 : ¬ dist + a.2.getD 0 < sw := Int.not_lt.2 (Int.le_of_lt hlt)
  have h2 : ¬ sw = dist + a.2.getD 0 := Int.ne_of_lt hlt
  simp [djRelax, djCost, hs, h1, h2]


theorem djRelax_keep (v : Nat) (dist : Int) (st : BState) (a : Adj) {sw : Int}
    (hs : lk st.seen a.1 = some sw) (hle : sw ≤ dist + djCost a) :
    (djRelax v dist st a).seen = st.seen ∧ (djRelax v dist st a).fringe = st.fringe := by
  rcases Int.lt_or_eq_of_le hle with hlt | heq
  · rw [djRelax_skip v dist st a hs hlt]; exact ⟨rfl, rfl⟩
  · rw [djRelax_equal v dist st a (heq ▸ hs)]; exact ⟨rfl, rfl⟩

theorem djRelax_frame (v : Nat) (dist : Int) (st : BState) (a : Adj) :
    (djRelax v dist st a).D = st.D ∧ (djRelax v dist st a).S = st.S ∧
    (djRelax v dist st a).fringe.length ≤ st.fringe.length + 1 := by
  unfold djRelax
  dsimp only
  split_ifs
  · exact ⟨rfl, rfl, by rw [List.length_append]; exact Nat.le_refl _⟩
  · exact ⟨rfl, rfl, Nat.le_succ _⟩
  · exact ⟨rfl, rfl, Nat.le_succ _⟩

theorem foldl_djRelax_frame (v : Nat) (dist : Int) (l : List Adj) (st : BState) :
    (l.foldl (djRelax v dist) st).D = st.D ∧ (l.foldl (djRelax v dist) st).S = st.S ∧
    (l.foldl (djRelax v dist) st).fringe.length ≤ st.fringe.length + l.length := by
  induction l generalizing st with
  | nil => exact ⟨rfl, rfl, Nat.le_refl _⟩
  | cons a l ih =>
    obtain ⟨h1, h2, h3⟩ := djRelax_frame v dist st a
    obtain ⟨g1, g2, g3⟩ := ih (djRelax v dist st a)
    rw [List.foldl_cons, List.length_cons]
    exact ⟨g1.trans h1, g2.trans h2, by omega⟩

/-- the distance part of the invariant of `dijkstra` once the source has been popped: `S` the settled nodes in pop order,
    `Dn u a` the adjacency entries already relaxed -/
structure DQInv (adjOf : Nat → List Adj) (n source : Nat) (A : Arcs) (Dn : Nat → Adj → Prop)
    (S : List Nat) (D seen : List (Option Int)) (fr : List CNode) : Prop where
  lenD : D.length = n
  lenSeen : seen.length = n
  nd : S.Nodup
  disc : ∀ x, lk D x ≠ none ↔ x ∈ S
  srcD : lk D source = some 0
  dEx : ∀ x d, lk D x = some d → IsDist A source x d
  /-- settling copies the label from `seen` -/
  seenD : ∀ x d, lk D x = some d → lk seen x = some d
  seenW : ∀ x sx, lk seen x = some sx → Walk A source x sx
  ord : S.Pairwise (fun x y => dOf D x ≤ dOf D y)
  /-- no fringe entry undercuts a settled distance -/
  below : ∀ x ∈ S, ∀ e ∈ fr, dOf D x ≤ e.1
  /-- the key of a fringe entry is not below the current label of its node (stale entries carry older, larger labels) -/
  frSeen : ∀ e ∈ fr, ∃ sw, lk seen e.2.2 = some sw ∧ sw ≤ e.1
  /-- a labelled unsettled node has a live fringe entry, keyed with its label -/
  liveEx : ∀ w sw, lk D w = none → lk seen w = some sw → ∃ p, (sw, p, w) ∈ fr
  dnS : ∀ u a, Dn u a → u ∈ S ∧ a ∈ adjOf u
  /-- closure: the target of a relaxed entry is labelled, at most at the source's distance plus the cost -/
  clo : ∀ u a, Dn u a → ∃ sw, lk seen a.1 = some sw ∧ sw ≤ dOf D u + djCost a

/-- the invariant: the distance part, and the predecessor lists and path counts over the entries relaxed so far -/
structure DInv (adjOf : Nat → List Adj) (n source : Nat) (A : Arcs) (Dn : Nat → Adj → Prop)
    (S : List Nat) (D seen : List (Option Int)) (sigma : List Rat) (P : List (List Nat)) (fr : List CNode) : Prop
    extends DQInv adjOf n source A Dn S D seen fr where
  lenS : sigma.length = n
  lenP : P.length = n
  /-- `sigma[w]` of a labelled, unsettled `w` lacks the share of the node that pushed its live entry:
      the pop adds `sigma[pred]` -/
  liveOk : ∀ d' p w, (d', p, w) ∈ fr → lk D w = none → lk seen w = some d' →
    p ∈ S ∧ getD0 sigma w + getD0 sigma p = ((gP P w).map (getD0 sigma)).sum
  /-- `P[w]` lists the sources of the relaxed entries that reach `w` at its current label -/
  pMem : ∀ w u, u ∈ gP P w ↔ ∃ a, Dn u a ∧ a.1 = w ∧ lk seen w = some (dOf D u + djCost a)
  pNd : ∀ w, (gP P w).Nodup
  /-- the path-count recursion, at settled nodes (the stage starts the source at 2) -/
  sig : ∀ w ∈ S, getD0 sigma w = (if w = source then 2 else 0) + ((gP P w).map (getD0 sigma)).sum
  sPos : ∀ w ∈ S, 0 < getD0 sigma w
  sNonneg : ∀ w, 0 ≤ getD0 sigma w

abbrev DQInvAt (adjOf : Nat → List Adj) (n source : Nat) (A : Arcs) (Dn : Nat → Adj → Prop) (S : List Nat)
    (st : BState) : Prop :=
  DQInv adjOf n source A Dn S st.D st.seen st.fringe

abbrev DInvAt (adjOf : Nat → List Adj) (n source : Nat) (A : Arcs) (Dn : Nat → Adj → Prop) (S : List Nat)
    (st : BState) : Prop :=
  DInv adjOf n source A Dn S st.D st.seen st.sigma st.P st.fringe

section inv
variable {adjOf : Nat → List Adj} {n source : Nat} {A : Arcs}

theorem ArcsOfC.entry (hA : ArcsOfC adjOf n djCost A) :
    ∀ u w c, (u, w, c) ∈ A → ∃ a ∈ adjOf u, a.1 = w ∧ djCost a = c :=
  fun u w c h => ((hA u w c).1 h).2

theorem ArcsOfC.arc (hA : ArcsOfC adjOf n djCost A) : ∀ u, u < n → ∀ a ∈ adjOf u, (u, a.1, djCost a) ∈ A :=
  fun u hu a ha => (hA u a.1 _).2 ⟨hu, a, ha, rfl, rfl⟩

section basic
variable {Dn : Nat → Adj → Prop} {S : List Nat} {D seen : List (Option Int)} {sigma : List Rat} {P : List (List Nat)}
  {fr : List CNode}

theorem DQInv.congrDn {Dn' : Nat → Adj → Prop} (hiff : ∀ u a, Dn u a ↔ Dn' u a)
    (q : DQInv adjOf n source A Dn S D seen fr) : DQInv adjOf n source A Dn' S D seen fr := by
  have : Dn = Dn' := funext fun u => funext fun a => propext (hiff u a)
  rw [← this]; exact q

theorem DInv.congrDn {Dn' : Nat → Adj → Prop} (hiff : ∀ u a, Dn u a ↔ Dn' u a)
    (inv : DInv adjOf n source A Dn S D seen sigma P fr) : DInv adjOf n source A Dn' S D seen sigma P fr := by
  have : Dn = Dn' := funext fun u => funext fun a => propext (hiff u a)
  rw [← this]; exact inv

theorem DQInv.mem_of_lk (q : DQInv adjOf n source A Dn S D seen fr) {x : Nat} {d : Int} (h : lk D x = some d) : x ∈ S :=
  (q.disc x).1 (by rw [h]; exact Option.some_ne_none d)

theorem DQInv.not_mem_of_lk (q : DQInv adjOf n source A Dn S D seen fr) {x : Nat} (h : lk D x = none) : x ∉ S :=
  fun hin => (q.disc x).2 hin h

theorem DQInv.lk_of_mem (q : DQInv adjOf n source A Dn S D seen fr) {x : Nat} (hx : x ∈ S) : lk D x = some (dOf D x) :=
  lk_dOf ((q.disc x).2 hx)

theorem DQInv.lt_n (q : DQInv adjOf n source A Dn S D seen fr) {x : Nat} (hx : x ∈ S) : x < n := by
  rw [← q.lenD]; exact lk_lt_of_some (q.lk_of_mem hx)

theorem DQInv.pop_stale (q : DQInv adjOf n source A Dn S D seen fr) (b : CNode) (hD : lk D b.2.2 ≠ none) :
    DQInv adjOf n source A Dn S D seen (fr.erase b) :=
  { q with
    below := fun x hx e he => q.below x hx e (List.mem_of_mem_erase he)
    frSeen := fun e he => q.frSeen e (List.mem_of_mem_erase he)
    liveEx := fun w sw hDw hsw => by
      obtain ⟨p, hp⟩ := q.liveEx w sw hDw hsw
      exact ⟨p, (List.mem_erase_of_ne (fun e => hD (by rw [← e]; exact hDw))).2 hp⟩ }

theorem DInv.P_settled (inv : DInv adjOf n source A Dn S D seen sigma P fr) {w u : Nat} (hu : u ∈ gP P w) : u ∈ S := by
  obtain ⟨a, ha, _, _⟩ := (inv.pMem w u).1 hu
  exact (inv.dnS u a ha).1

theorem DInv.map_P_set (inv : DInv adjOf n source A Dn S D seen sigma P fr) {w : Nat} (hw : w ∉ S) (x : Rat) (w' : Nat) :
    (gP P w').map (getD0 (sigma.set w x)) = (gP P w').map (getD0 sigma) :=
  List.map_congr_left fun _ hu => getD0_set_ne _ _ _ _ (fun e => hw (e ▸ inv.P_settled hu))

theorem DInv.pop_stale (inv : DInv adjOf n source A Dn S D seen sigma P fr)
    (b : CNode) (hD : lk D b.2.2 ≠ none) : DInv adjOf n source A Dn S D seen sigma P (fr.erase b) :=
  { inv with
    toDQInv := inv.toDQInv.pop_stale b hD
    liveOk := fun d' p w he => inv.liveOk d' p w (List.mem_of_mem_erase he) }

end basic

section step
variable {S : List Nat} {v : Nat} {pre : List Adj} {D seen : List (Option Int)} {sigma : List Rat} {P : List (List Nat)}
  {fr : List CNode}

theorem DQInv.le_last {Dn : Nat → Adj → Prop} (q : DQInv adjOf n source A Dn (S ++ [v]) D seen fr)
    {x : Nat} (hx : x ∈ S ++ [v]) : dOf D x ≤ dOf D v := by
  rcases List.mem_append.1 hx with h | h
  · exact (List.pairwise_append.1 q.ord).2.2 x h v (List.mem_singleton_self v)
  · cases List.mem_singleton.1 h; exact Int.le_refl _

theorem DQInv.settled_seen_le {Dn : Nat → Adj → Prop} (q : DQInv adjOf n source A Dn (S ++ [v]) D seen fr)
    {w : Nat} {d : Int} (hw : lk D w = some d) : lk seen w = some d ∧ d ≤ dOf D v := by
  refine ⟨q.seenD w d hw, ?_⟩
  have := q.le_last (q.mem_of_lk hw)
  rwa [dOf_of_lk hw] at this

theorem DQInv.fringe_gt {Dn : Nat → Adj → Prop} (q : DQInv adjOf n source A Dn S D seen fr) {w : Nat} {x : Int}
    (hold : ∀ sw, lk seen w = some sw → x < sw) : ∀ e ∈ fr, e.2.2 = w → x < e.1 := by
  intro e he hew
  obtain ⟨sw, h1, h2⟩ := q.frSeen e he
  rw [hew] at h1
  exact Int.lt_of_lt_of_le (hold sw h1) h2

section rowq
variable (q : DQInv adjOf n source A (rowDn adjOf S v pre) (S ++ [v]) D seen fr)
include q

theorem DQInv.dnS_snoc {a : Adj} (ha : a ∈ adjOf v) :
    ∀ u b, rowDn adjOf S v (pre ++ [a]) u b → u ∈ S ++ [v] ∧ b ∈ adjOf u := by
  intro u b hdn
  rcases rowDn_snoc hdn with h1 | ⟨h1, h2⟩
  · exact q.dnS u b h1
  · rw [h1, h2]; exact ⟨List.mem_append_right _ (List.mem_singleton_self v), ha⟩

theorem DQInv.push (hAi : ∀ u, u < n → ∀ a ∈ adjOf u, (u, a.1, djCost a) ∈ A) (a : Adj) (ha : a ∈ adjOf v) (han : a.1 < n) (hc : 0 ≤ djCost a)
    (hD : lk D a.1 = none) (hold : ∀ sw, lk seen a.1 = some sw → dOf D v + djCost a < sw) :
    DQInv adjOf n source A (rowDn adjOf S v (pre ++ [a])) (S ++ [v]) D
      (seen.set a.1 (some (dOf D v + djCost a))) (fr ++ [(dOf D v + djCost a, v, a.1)]) := by
  have hvS : v ∈ S ++ [v] := List.mem_append_right _ (List.mem_singleton_self v)
  have hne : ∀ x, x ∈ S ++ [v] → a.1 ≠ x := fun x hx e => q.not_mem_of_lk hD (e ▸ hx)
  have hlw : lk (seen.set a.1 (some (dOf D v + djCost a))) a.1 = some (dOf D v + djCost a) :=
    lk_set_self _ _ _ (q.lenSeen.symm ▸ han)
  refine
    { q with
      lenSeen := by rw [List.length_set]; exact q.lenSeen
      seenD := fun x d hx => ?_
      seenW := fun x sx hx => ?_
      below := fun x hx e he => ?_
      frSeen := fun e he => ?_
      liveEx := fun w sw hDw hsw => ?_
      dnS := q.dnS_snoc ha
      clo := fun u b hdn => ?_ }
  · rw [lk_set_ne _ _ _ _ (hne x (q.mem_of_lk hx))]
    exact q.seenD x d hx
  · by_cases e : a.1 = x
    · rw [← e, hlw] at hx
      cases hx
      exact e ▸ Walk.snoc (q.dEx v _ (q.lk_of_mem hvS)).1 (hAi v (q.lt_n hvS) a ha)
    · rw [lk_set_ne _ _ _ _ e] at hx
      exact q.seenW x sx hx
  · rcases List.mem_append.1 he with he | he
    · exact q.below x hx e he
    · cases List.mem_singleton.1 he
      exact Int.le_trans (q.le_last hx) (Int.le_add_of_nonneg_right hc)
  · rcases List.mem_append.1 he with he | he
    · by_cases hew : e.2.2 = a.1
      · rw [hew, hlw]
        exact ⟨_, rfl, Int.le_of_lt (q.fringe_gt hold e he hew)⟩
      · rw [lk_set_ne _ _ _ _ (fun h => hew h.symm)]
        exact q.frSeen e he
    · cases List.mem_singleton.1 he
      exact ⟨_, hlw, Int.le_refl _⟩
  · by_cases e : a.1 = w
    · rw [← e, hlw] at hsw
      cases hsw
      exact ⟨v, e ▸ List.mem_append_right _ (List.mem_singleton_self _)⟩
    · rw [lk_set_ne _ _ _ _ e] at hsw
      obtain ⟨p, hp⟩ := q.liveEx w sw hDw hsw
      exact ⟨p, List.mem_append_left _ hp⟩
  · rcases rowDn_snoc hdn with h1 | ⟨h1, h2⟩
    · obtain ⟨sw, e1, e2⟩ := q.clo u b h1
      by_cases e : a.1 = b.1
      · rw [← e, hlw]
        rw [← e] at e1
        exact ⟨_, rfl, Int.le_trans (Int.le_of_lt (hold sw e1)) e2⟩
      · rw [lk_set_ne _ _ _ _ e]
        exact ⟨sw, e1, e2⟩
    · rw [h1, h2, hlw]
      exact ⟨_, rfl, Int.le_refl _⟩

theorem DQInv.snoc (a : Adj) (ha : a ∈ adjOf v) {sw : Int} (hs : lk seen a.1 = some sw) (hle : sw ≤ dOf D v + djCost a) :
    DQInv adjOf n source A (rowDn adjOf S v (pre ++ [a])) (S ++ [v]) D seen fr := by
  refine { q with dnS := q.dnS_snoc ha, clo := fun u b hdn => ?_ }
  rcases rowDn_snoc hdn with h1 | ⟨h1, h2⟩
  · exact q.clo u b h1
  · rw [h1, h2]; exact ⟨sw, hs, hle⟩

end rowq

theorem DQInv.push_cond {Dn : Nat → Adj → Prop} (q : DQInv adjOf n source A Dn (S ++ [v]) D seen fr) {a : Adj}
    (hc : 0 ≤ djCost a) (hk : ¬ ∃ sw, lk seen a.1 = some sw ∧ sw ≤ dOf D v + djCost a) :
    lk D a.1 = none ∧ ∀ sw, lk seen a.1 = some sw → dOf D v + djCost a < sw := by
  refine ⟨?_, fun sw hs => Int.not_le.1 fun hle => hk ⟨sw, hs, hle⟩⟩
  cases hl : lk D a.1 with
  | none => rfl
  | some dw =>
    exact absurd ⟨dw, (q.settled_seen_le hl).1,
      Int.le_trans (q.settled_seen_le hl).2 (Int.le_add_of_nonneg_right hc)⟩ hk

theorem DQInv.relax (hAi : ∀ u, u < n → ∀ a ∈ adjOf u, (u, a.1, djCost a) ∈ A) {d : Int} (st : BState) (hv : lk st.D v = some d)
    (q : DQInvAt adjOf n source A (rowDn adjOf S v pre) (S ++ [v]) st)
    (a : Adj) (ha : a ∈ adjOf v) (han : a.1 < n) (hc : 0 ≤ djCost a) :
    DQInvAt adjOf n source A (rowDn adjOf S v (pre ++ [a])) (S ++ [v]) (djRelax v d st a) := by
  cases dOf_of_lk hv
  by_cases hk : ∃ sw, lk st.seen a.1 = some sw ∧ sw ≤ dOf st.D v + djCost a
  · obtain ⟨sw, hs, hle⟩ := hk
    obtain ⟨e1, e2⟩ := djRelax_keep v _ st a hs hle
    show DQInv adjOf n source A _ _ (djRelax v _ st a).D (djRelax v _ st a).seen (djRelax v _ st a).fringe
    rw [(djRelax_frame v _ st a).1, e1, e2]
    exact q.snoc a ha hs hle
  · obtain ⟨hD, hold⟩ := q.push_cond hc hk
    rw [djRelax_push v _ st a hD hold]
    exact q.push hAi a ha han hc hD hold

theorem djRow_induct {d : Int} {J : List Adj → BState → Prop}
    (hstep : ∀ pre a rest st, adjOf v = pre ++ a :: rest → lk st.D v = some d → J pre st → J (pre ++ [a]) (djRelax v d st a)) :
    ∀ (rest pre : List Adj) (st : BState), adjOf v = pre ++ rest → lk st.D v = some d → J pre st →
      J (adjOf v) (rest.foldl (djRelax v d) st) := by
  intro rest
  induction rest with
  | nil =>
    intro pre st hsplit _ h
    rw [List.append_nil] at hsplit
    rw [hsplit]; exact h
  | cons a rest ih =>
    intro pre st hsplit hv h
    rw [List.foldl_cons]
    exact ih (pre ++ [a]) _ (by rw [hsplit, List.append_assoc]; rfl) (by rw [(djRelax_frame v d st a).1]; exact hv)
      (hstep pre a rest st hsplit hv h)

theorem DInv.step_push (hA : ArcsOfC adjOf n djCost A)
    (inv : DInv adjOf n source A (rowDn adjOf S v pre) (S ++ [v]) D seen sigma P fr)
    (a : Adj) (ha : a ∈ adjOf v) (han : a.1 < n) (hc : 0 ≤ djCost a) (hD : lk D a.1 = none)
    (hold : ∀ sw, lk seen a.1 = some sw → dOf D v + djCost a < sw) :
    DInv adjOf n source A (rowDn adjOf S v (pre ++ [a])) (S ++ [v]) D
      (seen.set a.1 (some (dOf D v + djCost a))) (sigma.set a.1 0) (P.set a.1 [v])
      (fr ++ [(dOf D v + djCost a, v, a.1)]) := by
  have hvS : v ∈ S ++ [v] := List.mem_append_right _ (List.mem_singleton_self v)
  have hwS : a.1 ∉ S ++ [v] := inv.not_mem_of_lk hD
  have hne : ∀ x, x ∈ S ++ [v] → a.1 ≠ x := fun x hx e => hwS (e ▸ hx)
  have hSlen : a.1 < seen.length := by rw [inv.lenSeen]; exact han
  have hsglen : a.1 < sigma.length := by rw [inv.lenS]; exact han
  have hgP : gP (P.set a.1 [v]) a.1 = [v] := gP_set_self _ _ _ (by rw [inv.lenP]; exact han)
  have hσS : ∀ x, x ∈ S ++ [v] → getD0 (sigma.set a.1 0) x = getD0 sigma x :=
    fun x hx => getD0_set_ne _ _ _ _ (hne x hx)
  have hsum := inv.map_P_set hwS 0
  refine
    { toDQInv := inv.toDQInv.push hA.arc a ha han hc hD hold
      lenS := by rw [List.length_set]; exact inv.lenS
      lenP := by rw [List.length_set]; exact inv.lenP
      liveOk := ?_, pMem := ?_, pNd := ?_, sig := ?_, sPos := ?_, sNonneg := ?_ }
  · intro d' p w he hDw hsw
    rcases List.mem_append.1 he with he | he
    · by_cases e : a.1 = w
      · subst e
        rw [lk_set_self _ _ _ hSlen] at hsw
        cases hsw
        exact absurd (inv.fringe_gt hold _ he rfl) (Int.lt_irrefl _)
      · rw [lk_set_ne _ _ _ _ e] at hsw
        obtain ⟨h1, h2⟩ := inv.liveOk d' p w he hDw hsw
        refine ⟨h1, ?_⟩
        rw [getD0_set_ne _ _ _ _ e, hσS p h1, gP_set_ne _ _ _ _ e, hsum w]
        exact h2
    · cases List.mem_singleton.1 he
      refine ⟨hvS, ?_⟩
      rw [hgP, getD0_set_self _ _ _ hsglen, zero_add]
      exact (List.sum_singleton).symm
  · intro w u
    rw [exists_rowDn_snoc]
    by_cases e : a.1 = w
    · subst e
      rw [hgP, List.mem_singleton, lk_set_self _ _ _ hSlen]
      refine ⟨fun h => Or.inr ⟨h, rfl, h ▸ rfl⟩, fun h => h.elim (fun ⟨b, hb, hb1, hb2⟩ => ?_) fun h => h.1⟩
      -- an entry relaxed before does not reach `a.1` at the new, strictly smaller label
      obtain ⟨sw, e1, e2⟩ := inv.clo u b hb
      rw [hb1] at e1
      rw [← Option.some.inj hb2] at e2
      exact absurd (Int.lt_of_lt_of_le (hold sw e1) e2) (Int.lt_irrefl _)
    · rw [gP_set_ne _ _ _ _ e, lk_set_ne _ _ _ _ e, inv.pMem w u, or_iff_left fun h => e h.2.1]
  · intro w
    by_cases e : a.1 = w
    · subst e; rw [hgP]; exact List.pairwise_singleton _ _
    · rw [gP_set_ne _ _ _ _ e]; exact inv.pNd w
  · intro w hw
    rw [hσS w hw, gP_set_ne _ _ _ _ (hne w hw), hsum w]
    exact inv.sig w hw
  · intro w hw
    rw [hσS w hw]; exact inv.sPos w hw
  · intro w
    by_cases e : a.1 = w
    · subst e; rw [getD0_set_self _ _ _ hsglen]
    · rw [getD0_set_ne _ _ _ _ e]; exact inv.sNonneg w

theorem DInv.step_equal
    (inv : DInv adjOf n source A (rowDn adjOf S v pre) (S ++ [v]) D seen sigma P fr)
    (a : Adj) (ha : a ∈ adjOf v) (hc : 0 < djCost a) (hfresh : a.1 ≠ v → ∀ b ∈ pre, b.1 ≠ a.1)
    (hs : lk seen a.1 = some (dOf D v + djCost a)) :
    DInv adjOf n source A (rowDn adjOf S v (pre ++ [a])) (S ++ [v]) D seen
      (sigma.set a.1 (getD0 sigma a.1 + getD0 sigma v)) (P.set a.1 (gP P a.1 ++ [v])) fr := by
  have hvS : v ∈ S ++ [v] := List.mem_append_right _ (List.mem_singleton_self v)
  -- `a.1` is not settled: a settled label does not exceed that of `v`
  have hD : lk D a.1 = none := by
    cases hl : lk D a.1 with
    | none => rfl
    | some d =>
      obtain ⟨h1, h2⟩ := inv.toDQInv.settled_seen_le hl
      rw [hs] at h1
      rw [← Option.some.inj h1] at h2
      exact absurd (Int.lt_of_le_of_lt h2 (Int.lt_add_of_pos_right _ hc)) (Int.lt_irrefl _)
  have hwS : a.1 ∉ S ++ [v] := inv.not_mem_of_lk hD
  have hne : ∀ x, x ∈ S ++ [v] → a.1 ≠ x := fun x hx e => hwS (e ▸ hx)
  have han : a.1 < n := by rw [← inv.lenSeen]; exact lk_lt_of_some hs
  have hsglen : a.1 < sigma.length := by rw [inv.lenS]; exact han
  have hgP : gP (P.set a.1 (gP P a.1 ++ [v])) a.1 = gP P a.1 ++ [v] := gP_set_self _ _ _ (by rw [inv.lenP]; exact han)
  have hσS : ∀ x, x ∈ S ++ [v] → getD0 (sigma.set a.1 (getD0 sigma a.1 + getD0 sigma v)) x = getD0 sigma x :=
    fun x hx => getD0_set_ne _ _ _ _ (hne x hx)
  have hsum := inv.map_P_set hwS (getD0 sigma a.1 + getD0 sigma v)
  have hvnot : v ∉ gP P a.1 := by
    intro hin
    obtain ⟨b, hb, hb1, _⟩ := (inv.pMem a.1 v).1 hin
    rcases hb with ⟨h1, _⟩ | ⟨_, h2⟩
    · exact (List.nodup_append.1 inv.nd).2.2 v h1 v (List.mem_singleton_self v) rfl
    · exact hfresh (hne v hvS) b h2 hb1
  refine
    { toDQInv := inv.toDQInv.snoc a ha hs (Int.le_refl _)
      lenS := by rw [List.length_set]; exact inv.lenS
      lenP := by rw [List.length_set]; exact inv.lenP
      liveOk := ?_, pMem := ?_, pNd := ?_, sig := ?_, sPos := ?_, sNonneg := ?_ }
  · intro d' p w he hDw hsw
    obtain ⟨h1, h2⟩ := inv.liveOk d' p w he hDw hsw
    refine ⟨h1, ?_⟩
    by_cases e : a.1 = w
    · subst e
      rw [getD0_set_self _ _ _ hsglen, hσS p h1, hgP, List.map_append, List.sum_append, hsum a.1, ← h2,
        List.map_singleton, List.sum_singleton, hσS v hvS]
      exact add_right_comm _ _ _
    · rw [getD0_set_ne _ _ _ _ e, hσS p h1, gP_set_ne _ _ _ _ e, hsum w]
      exact h2
  · intro w u
    rw [exists_rowDn_snoc, ← inv.pMem w u]
    by_cases e : a.1 = w
    · subst e
      rw [hgP, List.mem_append, List.mem_singleton]
      exact or_congr_right ⟨fun h => ⟨h, rfl, h ▸ hs⟩, fun h => h.1⟩
    · rw [gP_set_ne _ _ _ _ e, or_iff_left fun h => e h.2.1]
  · intro w
    by_cases e : a.1 = w
    · subst e
      rw [hgP]
      exact nodup_snoc (inv.pNd a.1) hvnot
    · rw [gP_set_ne _ _ _ _ e]; exact inv.pNd w
  · intro w hw
    rw [hσS w hw, gP_set_ne _ _ _ _ (hne w hw), hsum w]
    exact inv.sig w hw
  · intro w hw
    rw [hσS w hw]; exact inv.sPos w hw
  · intro w
    by_cases e : a.1 = w
    · subst e
      rw [getD0_set_self _ _ _ hsglen]
      exact add_nonneg (inv.sNonneg a.1) (inv.sNonneg v)
    · rw [getD0_set_ne _ _ _ _ e]; exact inv.sNonneg w

theorem DInv.step_skip
    (inv : DInv adjOf n source A (rowDn adjOf S v pre) (S ++ [v]) D seen sigma P fr)
    (a : Adj) (ha : a ∈ adjOf v) {sw : Int} (hs : lk seen a.1 = some sw) (hlt : sw < dOf D v + djCost a) :
    DInv adjOf n source A (rowDn adjOf S v (pre ++ [a])) (S ++ [v]) D seen sigma P fr := by
  refine { inv with toDQInv := inv.toDQInv.snoc a ha hs (Int.le_of_lt hlt), pMem := fun w u => ?_ }
  rw [exists_rowDn_snoc, ← inv.pMem w u, or_iff_left]
  rintro ⟨rfl, rfl, h⟩
  rw [hs] at h
  exact absurd (Option.some.inj h ▸ hlt) (Int.lt_irrefl _)

end step

theorem DInv.relax (hA : ArcsOfC adjOf n djCost A) {S : List Nat} {v : Nat} {d : Int} {pre : List Adj} (st : BState)
    (hv : lk st.D v = some d) (inv : DInvAt adjOf n source A (rowDn adjOf S v pre) (S ++ [v]) st)
    (a : Adj) (ha : a ∈ adjOf v) (han : a.1 < n) (hc : 0 < djCost a) (hfresh : a.1 ≠ v → ∀ b ∈ pre, b.1 ≠ a.1) :
    DInvAt adjOf n source A (rowDn adjOf S v (pre ++ [a])) (S ++ [v]) (djRelax v d st a) := by
  cases dOf_of_lk hv
  by_cases hk : ∃ sw, lk st.seen a.1 = some sw ∧ sw ≤ dOf st.D v + djCost a
  · obtain ⟨sw, hs, hle⟩ := hk
    rcases Int.lt_or_eq_of_le hle with hlt | heq
    · rw [djRelax_skip v _ st a hs hlt]
      exact inv.step_skip a ha hs hlt
    · rw [heq] at hs
      rw [djRelax_equal v _ st a hs]
      exact inv.step_equal a ha hc hfresh hs
  · obtain ⟨hD, hold⟩ := inv.toDQInv.push_cond (Int.le_of_lt hc) hk
    rw [djRelax_push v _ st a hD hold]
    exact inv.step_push hA a ha han (Int.le_of_lt hc) hD hold

section main
variable {S : List Nat} {D seen : List (Option Int)} {sigma : List Rat} {P : List (List Nat)} {fr : List CNode}

/-- every walk from the source ends in a settled node with a label below its cost, or is undercut by a fringe entry -/
theorem DQInv.lower (hAe : ∀ u w c, (u, w, c) ∈ A → ∃ a ∈ adjOf u, a.1 = w ∧ djCost a = c) (hnn : ∀ a ∈ A, 0 ≤ a.2.2)
    (q : DQInv adjOf n source A (mainDn adjOf S) S D seen fr) :
    ∀ x c, Walk A source x c → (∃ d, lk D x = some d ∧ d ≤ c) ∨ (∃ e ∈ fr, e.1 ≤ c) := by
  intro x c hw
  induction hw with
  | nil => exact Or.inl ⟨0, q.srcD, Int.le_refl _⟩
  | snoc hw' harc ih =>
    rename_i u x c' w
    have hwpos : 0 ≤ w := hnn _ harc
    obtain ⟨a, ha, hax, hcost⟩ := hAe u x w harc
    rcases ih with ⟨du, hdu, hle⟩ | ⟨e, he, hle⟩
    · obtain ⟨sw, h1, h2⟩ := q.clo u a ⟨q.mem_of_lk hdu, ha⟩
      rw [hax] at h1
      rw [dOf_of_lk hdu, hcost] at h2
      have hsw : sw ≤ c' + w := Int.le_trans h2 (Int.add_le_add_right hle w)
      cases hl : lk D x with
      | some d =>
        have := q.seenD x d hl
        rw [h1] at this; cases this
        exact Or.inl ⟨sw, rfl, hsw⟩
      | none =>
        obtain ⟨p, hp⟩ := q.liveEx x sw hl h1
        exact Or.inr ⟨_, hp, hsw⟩
    · exact Or.inr ⟨e, he, Int.le_trans hle (Int.le_add_of_nonneg_right hwpos)⟩

theorem DQInv.pop_fresh (hAe : ∀ u w c, (u, w, c) ∈ A → ∃ a ∈ adjOf u, a.1 = w ∧ djCost a = c) (hnn : ∀ a ∈ A, 0 ≤ a.2.2)
    (q : DQInv adjOf n source A (mainDn adjOf S) S D seen fr)
    (dist : Int) (pred v : Nat) (hb : (dist, pred, v) ∈ fr) (hmin : ∀ y ∈ fr, dist ≤ y.1) (hD : lk D v = none) :
    v < n ∧ lk seen v = some dist ∧
    DQInv adjOf n source A (rowDn adjOf S v []) (S ++ [v]) (D.set v (some dist)) seen (fr.erase (dist, pred, v)) := by
  -- the popped distance is the label of `v`
  obtain ⟨sw, hsw, hle⟩ := q.frSeen _ hb
  obtain ⟨p, hp⟩ := q.liveEx v sw hD hsw
  have hds : dist = sw := Int.le_antisymm (hmin _ hp) hle
  subst hds
  have hvn : v < n := by rw [← q.lenSeen]; exact lk_lt_of_some hsw
  have hvS : v ∉ S := q.not_mem_of_lk hD
  have hne : ∀ x, x ∈ S → v ≠ x := fun x hx e => hvS (e ▸ hx)
  -- every walk to `v` is undercut by a fringe entry (`lower`), and `dist` is the fringe minimum
  have hexact : IsDist A source v dist := by
    refine ⟨q.seenW v dist hsw, fun c hc => ?_⟩
    rcases q.lower hAe hnn v c hc with ⟨d, hd, _⟩ | ⟨e, he, hle'⟩
    · rw [hD] at hd; cases hd
    · exact Int.le_trans (hmin e he) hle'
  have hvsrc : v ≠ source := by intro e; rw [e, q.srcD] at hD; cases hD
  have hlk : ∀ x, x ≠ v → lk (D.set v (some dist)) x = lk D x := fun x hx => lk_set_ne _ _ _ _ (fun e => hx e.symm)
  have hlkv : lk (D.set v (some dist)) v = some dist := lk_set_self _ _ _ (q.lenD.symm ▸ hvn)
  have hdOf : ∀ x, x ∈ S → dOf (D.set v (some dist)) x = dOf D x := fun x hx => dOf_set_ne _ _ _ _ (hne x hx)
  have hdv : dOf (D.set v (some dist)) v = dist := dOf_of_lk hlkv
  refine ⟨hvn, hsw, ?_⟩
  refine
    { lenD := by rw [List.length_set]; exact q.lenD
      lenSeen := q.lenSeen
      nd := nodup_snoc q.nd hvS
      disc := ?_, srcD := ?_, dEx := ?_, seenD := ?_, seenW := q.seenW, ord := ?_, below := ?_
      frSeen := fun e he => q.frSeen e (List.mem_of_mem_erase he)
      liveEx := ?_, dnS := ?_, clo := ?_ }
  · intro x
    rw [List.mem_append, List.mem_singleton]
    by_cases e : x = v
    · rw [e, hlkv]; exact ⟨fun _ => Or.inr rfl, fun _ => Option.some_ne_none dist⟩
    · rw [hlk x e, q.disc x]
      exact ⟨Or.inl, fun h => h.resolve_right e⟩
  · rw [hlk source (fun e => hvsrc e.symm)]; exact q.srcD
  · intro x d hx
    by_cases e : x = v
    · rw [e, hlkv] at hx; cases hx; rw [e]; exact hexact
    · rw [hlk x e] at hx; exact q.dEx x d hx
  · intro x d hx
    by_cases e : x = v
    · rw [e, hlkv] at hx; cases hx; rw [e]; exact hsw
    · rw [hlk x e] at hx; exact q.seenD x d hx
  · refine List.pairwise_append.2 ⟨?_, List.pairwise_singleton _ _, ?_⟩
    · refine q.ord.imp_of_mem ?_
      intro x y hx hy hxy
      rw [hdOf x hx, hdOf y hy]; exact hxy
    · intro x hx y hy
      cases List.mem_singleton.1 hy
      rw [hdOf x hx, hdv]
      exact q.below x hx _ hb
  · intro x hx e he
    rcases List.mem_append.1 hx with hx | hx
    · rw [hdOf x hx]; exact q.below x hx e (List.mem_of_mem_erase he)
    · cases List.mem_singleton.1 hx
      rw [hdv]; exact hmin e (List.mem_of_mem_erase he)
  · intro w sw' hDw hsw'
    have hwv : w ≠ v := by intro e; rw [e, hlkv] at hDw; cases hDw
    obtain ⟨p', hp'⟩ := q.liveEx w sw' (by rw [← hlk w hwv]; exact hDw) hsw'
    exact ⟨p', (List.mem_erase_of_ne (fun e => hwv (congrArg (fun t : CNode => t.2.2) e))).2 hp'⟩
  · rintro u a (⟨h1, h2⟩ | ⟨_, h2⟩)
    · exact ⟨List.mem_append_left _ h1, h2⟩
    · cases h2
  · rintro u a (⟨h1, h2⟩ | ⟨_, h2⟩)
    · rw [hdOf u h1]; exact q.clo u a ⟨h1, h2⟩
    · cases h2

/-- the same pop, predecessor lists and path counts: `sigma[v]` receives the share of the node that pushed the entry -/
theorem DInv.pop_fresh (hA : ArcsOfC adjOf n djCost A) (hnn : ∀ a ∈ A, 0 ≤ a.2.2)
    (inv : DInv adjOf n source A (mainDn adjOf S) S D seen sigma P fr)
    (dist : Int) (pred v : Nat) (hb : (dist, pred, v) ∈ fr) (hmin : ∀ y ∈ fr, dist ≤ y.1) (hD : lk D v = none) :
    v < n ∧
    DInv adjOf n source A (rowDn adjOf S v []) (S ++ [v]) (D.set v (some dist)) seen
      (sigma.set v (getD0 sigma v + getD0 sigma pred)) P (fr.erase (dist, pred, v)) := by
  obtain ⟨hvn, hsw, q'⟩ := inv.toDQInv.pop_fresh hA.entry hnn dist pred v hb hmin hD
  obtain ⟨hpredS, hsigv⟩ := inv.liveOk dist pred v hb hD hsw
  have hvS : v ∉ S := inv.not_mem_of_lk hD
  have hne : ∀ x, x ∈ S → v ≠ x := fun x hx e => hvS (e ▸ hx)
  have hsglen : v < sigma.length := by rw [inv.lenS]; exact hvn
  have hvsrc : v ≠ source := by intro e; rw [e, inv.srcD] at hD; cases hD
  have hdOf : ∀ x, x ∈ S → dOf (D.set v (some dist)) x = dOf D x := fun x hx => dOf_set_ne _ _ _ _ (hne x hx)
  have hσS : ∀ x, x ∈ S → getD0 (sigma.set v (getD0 sigma v + getD0 sigma pred)) x = getD0 sigma x :=
    fun x hx => getD0_set_ne _ _ _ _ (hne x hx)
  have hsum := inv.map_P_set hvS (getD0 sigma v + getD0 sigma pred)
  refine ⟨hvn,
    { toDQInv := q'
      lenS := by rw [List.length_set]; exact inv.lenS
      lenP := inv.lenP
      liveOk := ?_, pMem := ?_, pNd := inv.pNd, sig := ?_, sPos := ?_, sNonneg := ?_ }⟩
  · intro d' p' w he hDw hsw'
    have hwv : w ≠ v := by intro e; rw [e, lk_set_self _ _ _ (inv.lenD.symm ▸ hvn)] at hDw; cases hDw
    rw [lk_set_ne _ _ _ _ (fun e => hwv e.symm)] at hDw
    obtain ⟨h1, h2⟩ := inv.liveOk d' p' w (List.mem_of_mem_erase he) hDw hsw'
    refine ⟨List.mem_append_left _ h1, ?_⟩
    rw [getD0_set_ne _ _ _ _ (fun e => hwv e.symm), hσS p' h1, hsum w]
    exact h2
  · intro w u
    rw [inv.pMem w u]
    refine exists_congr fun a => ⟨fun ⟨h1, h2, h3⟩ => ⟨Or.inl h1, h2, by rw [hdOf u h1.1]; exact h3⟩, ?_⟩
    rintro ⟨h1 | ⟨_, h1⟩, h2, h3⟩
    · exact ⟨h1, h2, by rw [hdOf u h1.1] at h3; exact h3⟩
    · cases h1
  · intro w hw
    rcases List.mem_append.1 hw with hw | hw
    · rw [hσS w hw, hsum w]; exact inv.sig w hw
    · cases List.mem_singleton.1 hw
      rw [getD0_set_self _ _ _ hsglen, hsum v, if_neg hvsrc, zero_add]
      exact hsigv
  · intro w hw
    rcases List.mem_append.1 hw with hw | hw
    · rw [hσS w hw]; exact inv.sPos w hw
    · cases List.mem_singleton.1 hw
      rw [getD0_set_self _ _ _ hsglen]
      exact add_pos_of_nonneg_of_pos (inv.sNonneg v) (inv.sPos pred hpredS)
  · intro w
    by_cases e : v = w
    · rw [← e, getD0_set_self _ _ _ hsglen]
      exact add_nonneg (inv.sNonneg v) (inv.sNonneg pred)
    · rw [getD0_set_ne _ _ _ _ e]; exact inv.sNonneg w

end main

/-- the adjacency entries of the nodes not settled yet -/
def pendN (adjOf : Nat → List Adj) (n : Nat) (D : List (Option Int)) : Nat :=
  ((List.range n).map fun u => if lk D u = none then (adjOf u).length else 0).sum

theorem pendN_replicate (adjOf : Nat → List Adj) (n : Nat) :
    pendN adjOf n (List.replicate n none) = ((List.range n).map fun v => (adjOf v).length).sum :=
  congrArg List.sum (List.map_congr_left fun u _ => if_pos (lk_replicate_none n u))

theorem sum_update_zero (L : List Nat) (hL : L.Nodup) (v : Nat) (hv : v ∈ L) (f g : Nat → Nat)
    (hg : ∀ u, u ≠ v → g u = f u) (hgv : g v = 0) : (L.map g).sum + f v = (L.map f).sum := by
  induction L with
  | nil => cases hv
  | cons a L ih =>
    rw [List.nodup_cons] at hL
    rw [List.map_cons, List.map_cons, List.sum_cons, List.sum_cons]
    by_cases e : a = v
    · rw [e] at hL ⊢
      rw [hgv, List.map_congr_left (fun u hu => hg u (fun e => hL.1 (e ▸ hu))), Nat.zero_add, Nat.add_comm]
    · rw [hg a e, Nat.add_assoc, ih hL.2 ((List.mem_cons.1 hv).resolve_left (fun h => e h.symm))]

theorem pendN_set (adjOf : Nat → List Adj) (n : Nat) (D : List (Option Int)) (v : Nat) (d : Int) (hv : v < n)
    (hlen : D.length = n) (hD : lk D v = none) :
    pendN adjOf n (D.set v (some d)) + (adjOf v).length = pendN adjOf n D := by
  have := sum_update_zero (List.range n) List.nodup_range v (List.mem_range.2 hv)
    (fun u => if lk D u = none then (adjOf u).length else 0)
    (fun u => if lk (D.set v (some d)) u = none then (adjOf u).length else 0)
    (fun u hu => by rw [lk_set_ne _ _ _ _ (fun e => hu e.symm)])
    (by rw [lk_set_self _ _ _ (by rw [hlen]; exact hv)]; exact if_neg (Option.some_ne_none d))
  rw [if_pos hD] at this
  exact this

/-- the fuel measure falls with every pop: one entry leaves the fringe; a fresh pop turns the `l` pending adjacency entries of
    the node into at most `l` fringe entries -/
theorem fuel_step {r f p p' l x fuel : Nat} (h1 : r + 1 = f) (h2 : p' + l = p) (h3 : x ≤ r + l)
    (hf : f + p + 1 ≤ fuel + 1) : x + p' + 1 ≤ fuel := by
  omega


def djSettle (st : BState) (dist : Int) (pred v : Nat) : BState :=
  { st with fringe := st.fringe.erase (dist, pred, v), sigma := st.sigma.set v (getD0 st.sigma v + getD0 st.sigma pred),
            S := st.S ++ [v], D := st.D.set v (some dist) }

/-- the state `dijkstra` starts from: the source waits in the fringe, with itself as predecessor -/
def djInit (n source : Nat) : BState :=
  { D := List.replicate n none, seen := (List.replicate n none).set source (some 0),
    sigma := (List.replicate n (0 : Rat)).set source 1, P := List.replicate n [], S := [],
    fringe := [(0, source, source)] }

/-- the state of `dijkstra` once the source has been popped: it is settled at distance 0 with `sigma = 1 + 1` -/
def djStart (n source : Nat) : BState :=
  { D := (List.replicate n none).set source (some 0), seen := (List.replicate n none).set source (some 0),
    sigma := ((List.replicate n (0 : Rat)).set source 1).set source
      (getD0 ((List.replicate n (0 : Rat)).set source 1) source + getD0 ((List.replicate n (0 : Rat)).set source 1) source),
    P := List.replicate n [], S := [source], fringe := [] }

theorem bcDijkstraLoop_first (adjOf : Nat → List Adj) (fuel n source : Nat) :
    bcDijkstraLoop adjOf (fuel + 1) (djInit n source) =
    bcDijkstraLoop adjOf fuel ((adjOf source).foldl (djRelax source 0) (djStart n source)) := by
  rw [bcDijkstraLoop_succ, djInit]
  have hp : popMinDist [((0 : Int), source, source)] = some ((0, source, source), []) := by
    simp [popMinDist]
  have : ((List.replicate n (none : Option Int))[source]?.join).isSome = false := by
    rw [show (List.replicate n (none : Option Int))[source]?.join = none from lk_replicate_none n source]; rfl
  simp only [hp, this, Bool.false_eq_true, if_false, List.nil_append, djStart]

theorem getD0_replicate_zero (n w : Nat) : getD0 (List.replicate n (0 : Rat)) w = 0 := by
  unfold getD0
  rw [List.getElem?_replicate]
  split <;> rfl

theorem gP_replicate_nil (n w : Nat) : gP (List.replicate n ([] : List Nat)) w = [] := by
  unfold gP
  rw [List.getElem?_replicate]
  split <;> rfl


/-- **the run of `dijkstra`, whatever the invariant**: `I S` holds between two rows (`S` the settled nodes), `J S v pre` while
    the row of the freshly settled `v` is scanned (`pre` the entries done).  If a stale pop keeps `I`, a fresh pop leads from `I`
    to `J .. []`, a relaxation from `J .. pre` to `J .. (pre ++ [a])` and the end of the row back to `I`, then with the fuel of
    `bcDijkstra` the run ends with `I` and an empty fringe -/
theorem dijkstraRun_induct {I : List Nat → BState → Prop} {J : List Nat → Nat → List Adj → BState → Prop}
    (hlen : ∀ S st, I S st → st.D.length = n)
    (hstale : ∀ S st b, I S st → lk st.D b.2.2 ≠ none → I S { st with fringe := st.fringe.erase b })
    (hpop : ∀ st dist pred v, I st.S st → (dist, pred, v) ∈ st.fringe → (∀ y ∈ st.fringe, dist ≤ y.1) → lk st.D v = none →
      v < n ∧ J st.S v [] (djSettle st dist pred v))
    (hstep : ∀ S v d pre a rest st, v < n → adjOf v = pre ++ a :: rest → lk st.D v = some d → J S v pre st →
      J S v (pre ++ [a]) (djRelax v d st a))
    (hdone : ∀ S v st, J S v (adjOf v) st → I (S ++ [v]) st)
    (hsrc : source < n) (h0 : J [] source [] (djStart n source))
    (total : Nat) (htot : pendN adjOf n (List.replicate n none) ≤ total) :
    I (bcDijkstraLoop adjOf (total + 2) (djInit n source)).S (bcDijkstraLoop adjOf (total + 2) (djInit n source)) ∧
      (bcDijkstraLoop adjOf (total + 2) (djInit n source)).fringe = [] := by
  have hrow : ∀ S v d st, v < n → st.S = S ++ [v] → lk st.D v = some d → J S v [] st →
      I ((adjOf v).foldl (djRelax v d) st).S ((adjOf v).foldl (djRelax v d) st) := by
    intro S v d st hvn hS hv h
    rw [(foldl_djRelax_frame v d (adjOf v) st).2.1, hS]
    exact hdone S v _ (djRow_induct (J := J S v) (fun pre a rest st hsplit hv h => hstep S v d pre a rest st hvn hsplit hv h)
      (adjOf v) [] st rfl hv h)
  have hloop : ∀ (fuel : Nat) (st : BState), I st.S st → st.fringe.length + pendN adjOf n st.D + 1 ≤ fuel →
      I (bcDijkstraLoop adjOf fuel st).S (bcDijkstraLoop adjOf fuel st) ∧ (bcDijkstraLoop adjOf fuel st).fringe = [] := by
    intro fuel
    induction fuel with
    | zero => intro st _ hf; exact absurd hf (Nat.not_succ_le_zero _)
    | succ fuel ih =>
      intro st inv hf
      rw [bcDijkstraLoop_succ]
      cases hp : popMinDist st.fringe with
      | none => exact ⟨inv, popMinDist_none hp⟩
      | some br =>
        obtain ⟨⟨dist, pred, v⟩, rest⟩ := br
        obtain ⟨hb, hrest, hmin⟩ := popMinDist_some hp
        subst hrest
        have hlenrest : (st.fringe.erase (dist, pred, v)).length + 1 = st.fringe.length := by
          rw [List.length_erase_of_mem hb]
          exact Nat.succ_pred_eq_of_pos (List.length_pos_of_mem hb)
        dsimp only
        cases hD : lk st.D v with
        | some d =>
          have hset : (st.D[v]?.join).isSome = true := by rw [show st.D[v]?.join = some d from hD]; rfl
          rw [if_pos hset]
          exact ih _ (hstale st.S st (dist, pred, v) inv (by rw [hD]; exact Option.some_ne_none d))
            (fuel_step hlenrest (Nat.add_zero _) (Nat.le_refl _) hf)
        | none =>
          have hset : ¬ (st.D[v]?.join).isSome = true := by
            rw [show st.D[v]?.join = none from hD]; exact Bool.false_ne_true
          rw [if_neg hset]
          obtain ⟨hvn, hJ⟩ := hpop st dist pred v inv hb hmin hD
          have hlD := hlen st.S st inv
          obtain ⟨g1, _, g3⟩ := foldl_djRelax_frame v dist (adjOf v) (djSettle st dist pred v)
          refine ih _ (hrow st.S v dist (djSettle st dist pred v) hvn rfl (lk_set_self _ _ _ (hlD.symm ▸ hvn)) hJ)
            (?_ : ((adjOf v).foldl (djRelax v dist) (djSettle st dist pred v)).fringe.length +
              pendN adjOf n ((adjOf v).foldl (djRelax v dist) (djSettle st dist pred v)).D + 1 ≤ fuel)
          rw [g1]
          exact fuel_step hlenrest (pendN_set adjOf n st.D v dist hvn hlD hD) g3 hf
  have hlenD : source < (List.replicate n (none : Option Int)).length := by rw [List.length_replicate]; exact hsrc
  rw [bcDijkstraLoop_first]
  obtain ⟨g1, _, g3⟩ := foldl_djRelax_frame source 0 (adjOf source) (djStart n source)
  have hp2 := pendN_set adjOf n (List.replicate n none) source 0 hsrc List.length_replicate (lk_replicate_none n source)
  refine hloop (total + 1) _ (hrow [] source 0 _ hsrc rfl (lk_set_self _ _ _ hlenD) h0) ?_
  rw [g1]
  have : (djStart n source).fringe.length = 0 := rfl
  rw [this] at g3
  exact Nat.succ_le_succ (Nat.le_trans (Nat.add_le_add_right g3 _)
    (by rw [Nat.zero_add, Nat.add_comm]; exact Nat.le_trans (Nat.le_of_eq hp2) htot))

theorem DQInv.init (hnn : ∀ a ∈ A, 0 ≤ a.2.2) {D : List (Option Int)} (hlD : D.length = n)
    (hsrc : lk D source = some 0) (hoth : ∀ x, x ≠ source → lk D x = none) :
    DQInv adjOf n source A (rowDn adjOf [] source []) ([] ++ [source]) D D [] := by
  have hlab : ∀ x d, lk D x = some d → x = source ∧ d = 0 := by
    intro x d h
    by_cases e : x = source
    · rw [e, hsrc] at h; cases h; exact ⟨e, rfl⟩
    · rw [hoth x e] at h; cases h
  have hdn : ∀ u a, ¬ rowDn adjOf [] source [] u a := by
    rintro u a (⟨h, _⟩ | ⟨_, h⟩) <;> cases h
  refine
    { lenD := hlD, lenSeen := hlD, nd := List.pairwise_singleton _ _
      disc := ?_, srcD := hsrc, dEx := ?_, seenD := fun x d hx => hx, seenW := ?_
      ord := List.pairwise_singleton _ _
      below := fun _ _ e he => absurd he List.not_mem_nil
      frSeen := fun e he => absurd he List.not_mem_nil
      liveEx := fun w sw hDw hsw => by rw [hDw] at hsw; cases hsw
      dnS := fun u a h => absurd h (hdn u a)
      clo := fun u a h => absurd h (hdn u a) }
  · intro x
    by_cases e : x = source
    · rw [e, hsrc]; exact ⟨fun _ => List.mem_singleton_self source, fun _ => Option.some_ne_none 0⟩
    · exact ⟨fun h => absurd (hoth x e) h, fun h => absurd (List.mem_singleton.1 h) e⟩
  · intro x d hx
    obtain ⟨rfl, rfl⟩ := hlab x d hx
    exact ⟨Walk.nil _, fun _ hw => Walk.nonneg hnn hw⟩
  · intro x d hx
    obtain ⟨rfl, rfl⟩ := hlab x d hx
    exact Walk.nil _

theorem DQInv.exact (hAe : ∀ u w c, (u, w, c) ∈ A → ∃ a ∈ adjOf u, a.1 = w ∧ djCost a = c) (hnn : ∀ a ∈ A, 0 ≤ a.2.2) {S : List Nat} {D seen : List (Option Int)}
    (q : DQInv adjOf n source A (mainDn adjOf S) S D seen []) (x : Nat) (d : Int) :
    lk D x = some d ↔ IsDist A source x d := by
  refine ⟨q.dEx x d, fun hd => ?_⟩
  rcases q.lower hAe hnn x d hd.1 with ⟨d', hd', hle⟩ | ⟨e, he, _⟩
  · rw [← isDist_unique (q.dEx x d' hd') hd]; exact hd'
  · cases he


/-- **the distances of the weighted stage** (non-negative costs): at the end of the run the labels in `D` are exactly the
    distances from the source -/
theorem dijkstra_dist (hAe : ∀ u w c, (u, w, c) ∈ A → ∃ a ∈ adjOf u, a.1 = w ∧ djCost a = c)
    (hAi : ∀ u, u < n → ∀ a ∈ adjOf u, (u, a.1, djCost a) ∈ A) (hnnA : ∀ a ∈ A, 0 ≤ a.2.2)
    (hsrc : source < n) (hidx : ∀ v, v < n → ∀ a ∈ adjOf v, a.1 < n) (total : Nat)
    (htot : pendN adjOf n (List.replicate n none) ≤ total) (x : Nat) (d : Int) :
    lk (bcDijkstraLoop adjOf (total + 2) (djInit n source)).D x = some d ↔ IsDist A source x d := by
  have hlenD : source < (List.replicate n (none : Option Int)).length := by rw [List.length_replicate]; exact hsrc
  obtain ⟨q, hfr⟩ := dijkstraRun_induct (adjOf := adjOf)
    (I := fun S st => DQInvAt adjOf n source A (mainDn adjOf S) S st)
    (J := fun S v pre st => DQInvAt adjOf n source A (rowDn adjOf S v pre) (S ++ [v]) st)
    (fun _ _ q => q.lenD) (fun _ st b q hD => q.pop_stale b hD)
    (fun st dist pred v q hb hmin hD => (q.pop_fresh hAe hnnA dist pred v hb hmin hD).imp id fun h => h.2)
    (fun S v d pre a rest st hvn hsplit hv q =>
      have ha : a ∈ adjOf v := hsplit ▸ List.mem_append_right _ List.mem_cons_self
      q.relax hAi st hv a ha (hidx v hvn a ha) (hnnA _ (hAi v hvn a ha)))
    (fun S v st q => q.congrDn fun _ _ => rowDn_full)
    hsrc
    (DQInv.init hnnA (by rw [djStart, List.length_set, List.length_replicate]) (lk_set_self _ _ _ hlenD)
      (fun x hx => by rw [djStart, lk_set_ne _ _ _ _ (fun e => hx e.symm), lk_replicate_none]))
    total htot
  rw [DQInvAt, hfr] at q
  exact q.exact hAe hnnA x d

theorem DInv.init (hnn : ∀ a ∈ A, 0 ≤ a.2.2) {D : List (Option Int)} {sigma : List Rat} {P : List (List Nat)}
    (hlD : D.length = n) (hlS : sigma.length = n) (hlP : P.length = n)
    (hsrc : lk D source = some 0) (hoth : ∀ x, x ≠ source → lk D x = none)
    (hσ : getD0 sigma source = 2) (hσ0 : ∀ w, w ≠ source → getD0 sigma w = 0) (hP0 : ∀ w, gP P w = []) :
    DInv adjOf n source A (rowDn adjOf [] source []) ([] ++ [source]) D D sigma P [] := by
  have hdn : ∀ u a, ¬ rowDn adjOf [] source [] u a := by
    rintro u a (⟨h, _⟩ | ⟨_, h⟩) <;> cases h
  have hS : ∀ w, w ∈ [] ++ [source] → w = source := fun w hw => List.mem_singleton.1 hw
  refine
    { toDQInv := DQInv.init hnn hlD hsrc hoth, lenS := hlS, lenP := hlP
      liveOk := fun d' p w he => absurd he List.not_mem_nil
      pMem := fun w u => by
        rw [hP0]
        exact ⟨fun h => absurd h List.not_mem_nil, fun ⟨a, h, _⟩ => absurd h (hdn u a)⟩
      pNd := fun w => by rw [hP0]; exact List.nodup_nil
      sig := ?_, sPos := ?_, sNonneg := ?_ }
  · intro w hw
    rw [hS w hw, hσ, hP0, if_pos rfl]
    exact (add_zero _).symm
  · intro w hw
    rw [hS w hw, hσ]; exact two_pos
  · intro w
    by_cases e : w = source
    · rw [e, hσ]; exact zero_le_two
    · rw [hσ0 w e]

theorem DInv.final (hA : ArcsOfC adjOf n djCost A) (hposA : PosArcs A) {S : List Nat} {D seen : List (Option Int)}
    {sigma : List Rat} {P : List (List Nat)}
    (inv : DInv adjOf n source A (mainDn adjOf S) S D seen sigma P []) :
    SsOut adjOf n source djCost 2 A D ⟨S, P, sigma, source⟩ := by
  -- with the fringe empty every labelled node is settled
  have hsettled : ∀ w sw, lk seen w = some sw → lk D w = some sw := by
    intro w sw hsw
    cases hl : lk D w with
    | none => obtain ⟨p, hp⟩ := inv.liveEx w sw hl hsw; cases hp
    | some d => rw [← hsw, inv.seenD w d hl]
  refine
    { arcs := hA, posA := hposA, κpos := two_pos, rsrc := rfl, lenS := inv.lenS, lenP := inv.lenP, nd := inv.nd
      lt := fun x hx => inv.lt_n hx
      srcIn := inv.mem_of_lk inv.srcD
      memD := fun x => (inv.disc x).symm
      dist := inv.toDQInv.exact hA.entry hposA.nonneg
      ord := inv.ord, pMem := ?_, pNd := inv.pNd, sig := inv.sig, sPos := inv.sPos }
  intro w u
  rw [inv.pMem w u]
  exact ⟨fun ⟨a, ⟨h1, h2⟩, h3, h4⟩ => ⟨h1, a, h2, h3, hsettled w _ h4⟩,
    fun ⟨h1, a, h2, h3, h4⟩ => ⟨a, ⟨h1, h2⟩, h3, inv.seenD _ _ h4⟩⟩

/-- **the weighted single-source stage** delivers `SsOut` with `κ = 2` -/
theorem bcDijkstra_out (hA : ArcsOfC adjOf n djCost A) (hsrc : source < n)
    (hidx : ∀ v, v < n → ∀ a ∈ adjOf v, a.1 < n) (hpos : ∀ v, v < n → ∀ a ∈ adjOf v, 0 < djCost a)
    (hnd : ∀ v, v < n → (((adjOf v).map (fun a => a.1)).filter (fun j => j != v)).Nodup)
    (total : Nat) (htot : pendN adjOf n (List.replicate n none) ≤ total) :
    ∃ D, SsOut adjOf n source djCost 2 A D (bcDijkstra adjOf n total source) := by
  have hposA : PosArcs A := hA.pos hpos
  have hlen : source < (List.replicate n (0 : Rat)).length := by rw [List.length_replicate]; exact hsrc
  have hlenD : source < (List.replicate n (none : Option Int)).length := by rw [List.length_replicate]; exact hsrc
  have h1 : getD0 ((List.replicate n (0 : Rat)).set source 1) source = 1 := getD0_set_self _ _ _ hlen
  obtain ⟨inv, hfr⟩ := dijkstraRun_induct (adjOf := adjOf)
    (I := fun S st => DInvAt adjOf n source A (mainDn adjOf S) S st)
    (J := fun S v pre st => DInvAt adjOf n source A (rowDn adjOf S v pre) (S ++ [v]) st)
    (fun _ _ inv => inv.lenD) (fun _ st b inv hD => inv.pop_stale b hD)
    (fun st dist pred v inv hb hmin hD => inv.pop_fresh hA hposA.nonneg dist pred v hb hmin hD)
    (fun S v d pre a rest st hvn hsplit hv inv =>
      have ha : a ∈ adjOf v := hsplit ▸ List.mem_append_right _ List.mem_cons_self
      inv.relax hA st hv a ha (hidx v hvn a ha) (hpos v hvn a ha) (fun hav => fresh_of_nodup (hsplit ▸ hnd v hvn) hav))
    (fun S v st inv => inv.congrDn fun _ _ => rowDn_full)
    hsrc
    (DInv.init hposA.nonneg (by rw [djStart, List.length_set, List.length_replicate])
      (by rw [djStart, List.length_set, List.length_set, List.length_replicate]) List.length_replicate
      (lk_set_self _ _ _ hlenD)
      (fun x hx => by rw [djStart, lk_set_ne _ _ _ _ (fun e => hx e.symm), lk_replicate_none])
      (by rw [djStart, getD0_set_self _ _ _ (by rw [List.length_set]; exact hlen), h1]; exact one_add_one_eq_two)
      (fun w hw => by
        rw [djStart, getD0_set_ne _ _ _ _ (fun e => hw e.symm), getD0_set_ne _ _ _ _ (fun e => hw e.symm),
          getD0_replicate_zero])
      (gP_replicate_nil n))
    total htot
  rw [DInvAt, hfr] at inv
  exact ⟨_, inv.final hA hposA⟩

end inv

end Bc
end Graphrs
