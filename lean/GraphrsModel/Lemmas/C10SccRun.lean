/-
  The concrete strong-components model (`sccStep` / `sccRun` of Model/Components.lean) against the abstract
  invariant of Lemmas/C10SccInv.lean: every step preserves the invariant, never reaches a panic site, and
  decreases the fuel measure `mu`, which is at most `2 n + 1` when the search from a source starts.
-/
import GraphrsModel.Lemmas.C10SccInv
namespace Graphrs
namespace Scc
open C02 C10M Store

def pnOf (st : SccState) (x : Nat) : Nat := (alookup st.preorder x).getD 0
def llOf (st : SccState) (x : Nat) : Nat := (alookup st.lowlink x).getD 0

theorem getD_ainsert (m : List (Nat × Nat)) (k v : Nat) :
    (fun x => (alookup (ainsert m k v) x).getD 0) = Function.update (fun x => (alookup m x).getD 0) k v := by
  funext x
  rw [AL.lookup_insert]
  by_cases e : k = x
  · rw [if_pos e, ← e, Function.update_self]; rfl
  · rw [if_neg e, Function.update_of_ne (fun e' => e e'.symm) _ _]

theorem isSome_of_getD_ne {o : Option Nat} (h : o.getD 0 ≠ 0) : ∃ p, o = some p := by
  cases o with
  | none => exact absurd rfl h
  | some p => exact ⟨p, rfl⟩

/-- the first `let` of `sccStep` -/
def visitSt (st : SccState) (v : Nat) : SccState :=
  if (alookup st.preorder v).isNone then { st with i := st.i + 1, preorder := ainsert st.preorder v (st.i + 1) } else st

/-- one step of the low-link fold (the lambda of `sccStep`) -/
def llStep (st : SccState) (pv : Nat) (acc : Option Nat) (w : Nat) : Option Nat :=
  match acc with
  | none => none
  | some ll =>
    if st.sccFound.contains w then some ll
    else
      match alookup st.preorder w with
      | none => none
      | some pw =>
        if pw > pv then (match alookup st.lowlink w with | none => none | some lw => some (min ll lw))
        else some (min ll pw)

/-- the part of `sccStep` after the preorder assignment -/
def afterVisit (nbrs : Nat → List Nat) (st : SccState) (v : Nat) (restQ : List Nat) : Option (SccState × List Nat) :=
  match (nbrs v).find? (fun w => (alookup st.preorder w).isNone) with
  | some w => some (st, w :: v :: restQ)
  | none =>
    match alookup st.preorder v with
    | none => none
    | some pv =>
      match (nbrs v).foldl (llStep st pv) (some pv) with
      | none => none
      | some ll =>
        if ll == pv then
          some ({ st with
            lowlink := ainsert st.lowlink v ll
            sccQueue := (sccStep.popLoop pv { st with lowlink := ainsert st.lowlink v ll } (st.sccQueue.length + 1) st.sccQueue [v]).1
            sccFound := sunion st.sccFound
              (sccStep.popLoop pv { st with lowlink := ainsert st.lowlink v ll } (st.sccQueue.length + 1) st.sccQueue [v]).2
            components := st.components ++
              [(sccStep.popLoop pv { st with lowlink := ainsert st.lowlink v ll } (st.sccQueue.length + 1) st.sccQueue [v]).2] },
            restQ)
        else some ({ st with lowlink := ainsert st.lowlink v ll, sccQueue := st.sccQueue ++ [v] }, restQ)

theorem sccStep_cons (nbrs : Nat → List Nat) (st : SccState) (v : Nat) (restQ : List Nat) :
    sccStep nbrs st (v :: restQ) = afterVisit nbrs (visitSt st v) v restQ := by
  rfl

theorem sccStep_nil (nbrs : Nat → List Nat) (st : SccState) : sccStep nbrs st [] = some (st, []) := rfl

/-- what one successor `w` does to the running minimum, on total maps -/
def llCand (pn ll : Nat → Nat) (F : List Nat) (pv acc w : Nat) : Nat :=
  if F.contains w then acc else if pn w > pv then min acc (ll w) else min acc (pn w)

def llPure (pn ll : Nat → Nat) (F : List Nat) (pv : Nat) (ws : List Nat) (init : Nat) : Nat :=
  ws.foldl (llCand pn ll F pv) init

theorem llCand_le (pn ll : Nat → Nat) (F : List Nat) (pv acc w : Nat) : llCand pn ll F pv acc w ≤ acc := by
  unfold llCand
  split
  · exact Nat.le_refl _
  · split <;> exact Nat.min_le_left _ _

theorem llCand_le_cand (pn ll : Nat → Nat) (F : List Nat) (pv acc w : Nat) (hwF : w ∉ F) :
    (pn w ≤ pv → llCand pn ll F pv acc w ≤ pn w) ∧ (pv < pn w → llCand pn ll F pv acc w ≤ ll w) := by
  unfold llCand
  rw [if_neg (fun hc => hwF (List.contains_iff_mem.mp hc))]
  constructor
  · intro hle; rw [if_neg (Nat.not_lt.mpr hle)]; exact Nat.min_le_right _ _
  · intro hlt; rw [if_pos hlt]; exact Nat.min_le_right _ _

theorem llCand_attained (pn ll : Nat → Nat) (F : List Nat) (pv acc w : Nat) :
    llCand pn ll F pv acc w = acc ∨ (w ∉ F ∧ pn w ≤ pv ∧ llCand pn ll F pv acc w = pn w) ∨
      (w ∉ F ∧ pv < pn w ∧ llCand pn ll F pv acc w = ll w) := by
  unfold llCand
  by_cases hc : F.contains w = true
  · rw [if_pos hc]; exact Or.inl rfl
  · have hwF : w ∉ F := fun hm => hc (List.contains_iff_mem.mpr hm)
    rw [if_neg hc]
    by_cases hg : pn w > pv
    · rw [if_pos hg]
      rcases Nat.le_total acc (ll w) with g | g
      · exact Or.inl (Nat.min_eq_left g)
      · exact Or.inr (Or.inr ⟨hwF, hg, Nat.min_eq_right g⟩)
    · rw [if_neg hg]
      rcases Nat.le_total acc (pn w) with g | g
      · exact Or.inl (Nat.min_eq_left g)
      · exact Or.inr (Or.inl ⟨hwF, Nat.not_lt.mp hg, Nat.min_eq_right g⟩)

theorem llFold_eq (st : SccState) (pv : Nat) (ws : List Nat) :
    ∀ (init : Nat),
    (∀ w ∈ ws, w ∉ st.sccFound → (alookup st.preorder w).isSome = true ∧
      (pv < pnOf st w → (alookup st.lowlink w).isSome = true)) →
    ws.foldl (llStep st pv) (some init) = some (llPure (pnOf st) (llOf st) st.sccFound pv ws init) := by
  induction ws with
  | nil => intro init _; rfl
  | cons w ws ih =>
    intro init hpre
    have hstep : llStep st pv (some init) w = some (llCand (pnOf st) (llOf st) st.sccFound pv init w) := by
      unfold llStep llCand
      by_cases hc : st.sccFound.contains w = true
      · simp only [hc, if_true]
      · obtain ⟨h1, h2⟩ := hpre w List.mem_cons_self (fun hm => hc (List.contains_iff_mem.mpr hm))
        obtain ⟨pw, hp⟩ := Option.isSome_iff_exists.mp h1
        have hpn : pnOf st w = pw := by rw [pnOf, hp]; rfl
        simp only [hc, Bool.false_eq_true, if_false, hp, hpn]
        by_cases hgt : pw > pv
        · obtain ⟨lw, hl⟩ := Option.isSome_iff_exists.mp (h2 (hpn ▸ hgt))
          have hll : llOf st w = lw := by rw [llOf, hl]; rfl
          simp only [hgt, if_true, hl, hll]
        · simp only [hgt, if_false]
    rw [List.foldl_cons, hstep]
    exact ih _ fun x hx => hpre x (List.mem_cons_of_mem _ hx)

theorem llPure_le_init (pn ll : Nat → Nat) (F : List Nat) (pv : Nat) (ws : List Nat) :
    ∀ init, llPure pn ll F pv ws init ≤ init := by
  induction ws with
  | nil => intro init; exact Nat.le_refl _
  | cons w ws ih => intro init; exact Nat.le_trans (ih _) (llCand_le pn ll F pv init w)

theorem llPure_le (pn ll : Nat → Nat) (F : List Nat) (pv : Nat) (ws : List Nat) :
    ∀ init, ∀ w ∈ ws, w ∉ F →
      (pn w ≤ pv → llPure pn ll F pv ws init ≤ pn w) ∧ (pv < pn w → llPure pn ll F pv ws init ≤ ll w) := by
  induction ws with
  | nil => intro init w hw; cases hw
  | cons a ws ih =>
    intro init w hw hwF
    rcases List.mem_cons.1 hw with rfl | hw
    · have hle := llPure_le_init pn ll F pv ws (llCand pn ll F pv init w)
      have hc := llCand_le_cand pn ll F pv init w hwF
      exact ⟨fun h => Nat.le_trans hle (hc.1 h), fun h => Nat.le_trans hle (hc.2 h)⟩
    · exact ih _ w hw hwF

theorem llPure_attained (pn ll : Nat → Nat) (F : List Nat) (pv : Nat) (ws : List Nat) :
    ∀ init, llPure pn ll F pv ws init = init ∨
      (∃ w ∈ ws, w ∉ F ∧ pn w ≤ pv ∧ llPure pn ll F pv ws init = pn w) ∨
      (∃ w ∈ ws, w ∉ F ∧ pv < pn w ∧ llPure pn ll F pv ws init = ll w) := by
  induction ws with
  | nil => intro init; exact Or.inl rfl
  | cons a ws ih =>
    intro init
    have hcons : llPure pn ll F pv (a :: ws) init = llPure pn ll F pv ws (llCand pn ll F pv init a) := rfl
    rw [hcons]
    rcases ih (llCand pn ll F pv init a) with h | ⟨w, hw, h⟩ | ⟨w, hw, h⟩
    · rw [h]
      rcases llCand_attained pn ll F pv init a with h' | h' | h'
      · exact Or.inl h'
      · exact Or.inr (Or.inl ⟨a, List.mem_cons_self, h'⟩)
      · exact Or.inr (Or.inr ⟨a, List.mem_cons_self, h'⟩)
    · exact Or.inr (Or.inl ⟨w, List.mem_cons_of_mem _ hw, h⟩)
    · exact Or.inr (Or.inr ⟨w, List.mem_cons_of_mem _ hw, h⟩)

theorem popLoop_zero (pv : Nat) (st : SccState) (q scc : List Nat) :
    sccStep.popLoop pv st 0 q scc = (q, scc) := by
  unfold sccStep.popLoop
  rfl

theorem popLoop_succ (pv : Nat) (st : SccState) (fuel : Nat) (q scc : List Nat) :
    sccStep.popLoop pv st (fuel + 1) q scc =
      match q.getLast? with
      | some k => if pnOf st k > pv then sccStep.popLoop pv st fuel q.dropLast (sinsert scc k) else (q, scc)
      | none => (q, scc) := by
  conv => lhs; unfold sccStep.popLoop
  cases h : q.getLast? with
  | none => rfl
  | some k => rfl

theorem popLoop_snoc (pv : Nat) (st : SccState) (fuel : Nat) (l : List Nat) (k : Nat) (scc : List Nat) :
    sccStep.popLoop pv st (fuel + 1) (l ++ [k]) scc =
      if pnOf st k > pv then sccStep.popLoop pv st fuel l (sinsert scc k) else (l ++ [k], scc) := by
  rw [popLoop_succ, List.getLast?_concat, List.dropLast_concat]

theorem popLoop_eq (pv : Nat) (st : SccState) :
    ∀ (fuel : Nat) (q scc : List Nat), q.length < fuel →
      q.Pairwise (fun a b => pv < pnOf st a → pv < pnOf st b) →
      sccStep.popLoop pv st fuel q scc =
        (q.filter (fun x => pnOf st x ≤ pv), (q.reverse.filter (fun x => pv < pnOf st x)).foldl sinsert scc) := by
  intro fuel
  induction fuel with
  | zero => intro q scc hlen; cases hlen
  | succ f ih =>
    intro q scc hlen hpw
    rcases List.eq_nil_or_concat q with rfl | ⟨l, k, rfl⟩
    · rw [popLoop_succ]; rfl
    · rw [List.concat_eq_append] at hlen hpw ⊢
      rw [List.pairwise_append] at hpw
      rw [List.length_append, List.length_singleton] at hlen
      rw [popLoop_snoc, List.reverse_append, List.filter_append]
      by_cases hg : pnOf st k > pv
      · rw [if_pos hg, ih l _ (Nat.lt_of_succ_lt_succ hlen) hpw.1]
        simp [hg, Nat.not_le.2 hg]
      · have hall : ∀ x ∈ l, pnOf st x ≤ pv := fun x hx =>
          Nat.not_lt.1 fun h => hg (hpw.2.2 x hx k (List.mem_singleton_self k) h)
        have h1 : l.filter (fun x => pnOf st x ≤ pv) = l :=
          List.filter_eq_self.2 fun x hx => decide_eq_true (hall x hx)
        have h2 : l.reverse.filter (fun x => pv < pnOf st x) = [] :=
          List.filter_eq_nil_iff.2 fun x hx =>
            (decide_eq_true_iff.not.2 (Nat.not_lt.2 (hall x (List.mem_reverse.1 hx))))
        rw [if_neg hg]
        simp [hg, Nat.not_lt.1 hg, h1, h2]

theorem popLoop_spec (pv : Nat) (st : SccState) (fuel : Nat) (q scc : List Nat) (hlen : q.length < fuel)
    (hpw : q.Pairwise (fun a b => pv < pnOf st a → pv < pnOf st b)) :
    (sccStep.popLoop pv st fuel q scc).1.Sublist q ∧
    (∀ x, x ∈ (sccStep.popLoop pv st fuel q scc).1 ↔ x ∈ q ∧ pnOf st x ≤ pv) ∧
    (∀ x, x ∈ (sccStep.popLoop pv st fuel q scc).2 ↔ x ∈ scc ∨ (x ∈ q ∧ pv < pnOf st x)) ∧
    (scc.Nodup → (sccStep.popLoop pv st fuel q scc).2.Nodup) := by
  rw [popLoop_eq pv st fuel q scc hlen hpw]
  refine ⟨List.filter_sublist, fun x => ?_, fun x => ?_, nodup_foldl_sinsert _ scc⟩
  · rw [List.mem_filter, decide_eq_true_iff]
  · rw [mem_foldl_sinsert, List.mem_filter, List.mem_reverse, decide_eq_true_iff]

/-- the abstract invariant read off the concrete state (`pnOf`, `llOf`: absent key = 0), and no stored number is 0,
    so that "no entry" and "number 0" agree -/
structure CInv (V : List Nat) (nbrs : Nat → List Nat) (st : SccState) (Q : List Nat) : Prop where
  a : AInv V nbrs (pnOf st) (llOf st) st.sccFound st.sccQueue st.components st.i Q
  preNZ : ∀ x p, alookup st.preorder x = some p → p ≠ 0

theorem CInv.isNone_iff {V nbrs st Q} (h : CInv V nbrs st Q) (x : Nat) :
    (alookup st.preorder x).isNone = true ↔ pnOf st x = 0 := by
  cases hx : alookup st.preorder x with
  | none => simp [pnOf, hx]
  | some p =>
    have := h.preNZ x p hx
    simp [pnOf, hx, this]

theorem CInv.init (V : List Nat) (nbrs : Nat → List Nat) : CInv V nbrs {} [] := by
  refine ⟨?_, ?_⟩
  · exact AInv.init V nbrs
  · intro x p hx
    cases hx

def unvis (V : List Nat) (pn : Nat → Nat) : Nat := (V.filter (fun x => pn x == 0)).length

theorem unvis_cons (a : Nat) (V : List Nat) (pn : Nat → Nat) :
    unvis (a :: V) pn = (if pn a = 0 then 1 else 0) + unvis V pn := by
  unfold unvis
  by_cases h : pn a = 0
  · rw [List.filter_cons_of_pos (p := fun x => pn x == 0) (beq_iff_eq.2 h), if_pos h, List.length_cons, Nat.add_comm]
  · rw [List.filter_cons_of_neg (p := fun x => pn x == 0) (fun hb => h (beq_iff_eq.1 hb)), if_neg h, Nat.zero_add]

theorem unvis_le_length (V : List Nat) (pn : Nat → Nat) : unvis V pn ≤ V.length :=
  List.length_filter_le _ _

theorem unvis_upd (V : List Nat) (pn : Nat → Nat) (v k : Nat) (hk : k ≠ 0) :
    unvis V (Function.update pn v k) ≤ unvis V pn ∧ (v ∈ V → pn v = 0 → unvis V (Function.update pn v k) + 1 ≤ unvis V pn) := by
  induction V with
  | nil => exact ⟨Nat.le_refl _, fun h => nomatch h⟩
  | cons a V ih =>
    rw [unvis_cons, unvis_cons]
    by_cases e : a = v
    · rw [e, Function.update_self, if_neg hk]
      refine ⟨by omega, fun _ h0 => ?_⟩
      rw [if_pos h0]; omega
    · rw [Function.update_of_ne e _ _]
      refine ⟨by omega, fun hv h0 => ?_⟩
      have := ih.2 ((List.mem_cons.1 hv).resolve_left (Ne.symm e)) h0
      omega

/-- the fuel measure: a numbered top of the DFS stack counts two more, so that numbering it (two units less in
    `2 * unvis`) is not an increase -/
def mu (V : List Nat) (pn : Nat → Nat) (Q : List Nat) : Nat :=
  2 * unvis V pn + Q.length + (match Q with | [] => 2 | v :: _ => if pn v = 0 then 0 else 2)

theorem mu_le (V : List Nat) (pn : Nat → Nat) (Q : List Nat) : mu V pn Q ≤ 2 * unvis V pn + Q.length + 2 := by
  unfold mu
  split
  · exact Nat.le_refl _
  · split
    · exact Nat.le_add_right _ _
    · exact Nat.le_refl _

theorem mu_cons (V : List Nat) (pn : Nat → Nat) (v : Nat) (r : List Nat) :
    mu V pn (v :: r) = 2 * unvis V pn + (r.length + 1) + (if pn v = 0 then 0 else 2) := rfl

/-- the arithmetic of a step: `u`, `u'` the counts of unnumbered nodes before and after numbering the top (`c`: it
    was unnumbered), `r` the length of the rest of the stack; the right side is `mu` before the step -/
theorem mu_drop {u u' : Nat} (r : Nat) {c : Prop} [Decidable c] (hU : u' + (if c then 1 else 0) ≤ u) :
    2 * u' + r + 2 < 2 * u + (r + 1) + (if c then 0 else 2) := by
  by_cases hc : c
  · rw [if_pos hc] at hU ⊢; omega
  · rw [if_neg hc] at hU ⊢; omega

theorem visit_ok {V : List Nat} {nbrs : Nat → List Nat} {st : SccState} {v : Nat} {rest : List Nat}
    (h : CInv V nbrs st (v :: rest)) :
    CInv V nbrs (visitSt st v) (v :: rest) ∧ pnOf (visitSt st v) v ≠ 0 ∧
    (∀ x, pnOf st x ≠ 0 → pnOf (visitSt st v) x ≠ 0) ∧
    unvis V (pnOf (visitSt st v)) + (if pnOf st v = 0 then 1 else 0) ≤ unvis V (pnOf st) := by
  by_cases h0 : pnOf st v = 0
  · have hn : (alookup st.preorder v).isNone = true := (h.isNone_iff v).2 h0
    have hst : visitSt st v = { st with i := st.i + 1, preorder := ainsert st.preorder v (st.i + 1) } := by
      unfold visitSt; rw [if_pos hn]
    have hpn : pnOf { st with i := st.i + 1, preorder := ainsert st.preorder v (st.i + 1) } =
        Function.update (pnOf st) v (st.i + 1) := getD_ainsert st.preorder v (st.i + 1)
    rw [hst]
    refine ⟨⟨?_, ?_⟩, ?_, ?_, ?_⟩
    · show AInv V nbrs (pnOf { st with i := st.i + 1, preorder := ainsert st.preorder v (st.i + 1) }) (llOf st)
        st.sccFound st.sccQueue st.components (st.i + 1) (v :: rest)
      rw [hpn]
      exact h.a.visit h0
    · intro x p hx
      have hx' : alookup (ainsert st.preorder v (st.i + 1)) x = some p := hx
      rw [AL.lookup_insert] at hx'
      by_cases e : v = x
      · rw [if_pos e] at hx'
        exact Option.some.inj hx' ▸ Nat.succ_ne_zero _
      · rw [if_neg e] at hx'
        exact h.preNZ x p hx'
    · rw [hpn, Function.update_self]; exact Nat.succ_ne_zero _
    · intro x hx
      rw [hpn, Function.update_of_ne (fun e : x = v => hx (e.symm ▸ h0)) _ _]
      exact hx
    · rw [hpn, if_pos h0]
      exact (unvis_upd V (pnOf st) v (st.i + 1) (Nat.succ_ne_zero _)).2 (h.a.qV v List.mem_cons_self) h0
  · have hn : ¬ (alookup st.preorder v).isNone = true := fun hn => h0 ((h.isNone_iff v).1 hn)
    have hst : visitSt st v = st := by
      unfold visitSt; rw [if_neg hn]
    rw [hst]
    exact ⟨h, h0, fun x hx => hx, by rw [if_neg h0]; exact Nat.le_refl _⟩

theorem afterVisit_ok {V : List Nat} {nbrs : Nat → List Nat} (hcl : ∀ x ∈ V, ∀ w ∈ nbrs x, w ∈ V)
    {st : SccState} {v : Nat} {rest : List Nat}
    (h : CInv V nbrs st (v :: rest)) (hv : pnOf st v ≠ 0) :
    ∃ st' Q', afterVisit nbrs st v rest = some (st', Q') ∧ CInv V nbrs st' Q' ∧ pnOf st' = pnOf st ∧
      ((∃ w, Q' = w :: v :: rest ∧ pnOf st w = 0) ∨ Q' = rest) := by
  unfold afterVisit
  cases hf : (nbrs v).find? (fun w => (alookup st.preorder w).isNone) with
  | some w =>
    have hw : w ∈ nbrs v := List.mem_of_find?_eq_some hf
    have hw0 : pnOf st w = 0 := (h.isNone_iff w).1 (List.find?_some (p := fun w => (alookup st.preorder w).isNone) hf)
    refine ⟨st, w :: v :: rest, rfl, ⟨?_, h.preNZ⟩, rfl, Or.inl ⟨w, rfl, hw0⟩⟩
    exact h.a.push hv w hw hw0 (hcl v (h.a.qV v List.mem_cons_self) w hw)
  | none =>
    have hall : ∀ w ∈ nbrs v, pnOf st w ≠ 0 := fun w hw h0 =>
      List.find?_eq_none.1 hf w hw ((h.isNone_iff w).2 h0)
    obtain ⟨pv, hp⟩ := isSome_of_getD_ne hv
    obtain rfl : pv = pnOf st v := by rw [pnOf, hp]; rfl
    have hpre : ∀ w ∈ nbrs v, w ∉ st.sccFound → (alookup st.preorder w).isSome = true ∧
        (pnOf st v < pnOf st w → (alookup st.lowlink w).isSome = true) := fun w hw hwF =>
      ⟨Option.isSome_iff_exists.2 (isSome_of_getD_ne (hall w hw)), fun hlt =>
        have ⟨x, _, h1, h2, _⟩ := h.a.sLow w (h.a.gt_in_S hv (hall w hw) hwF hlt)
        Option.isSome_iff_exists.2 (isSome_of_getD_ne (o := alookup st.lowlink w) fun e => h1 (h2.trans e))⟩
    simp only [hp]
    rw [llFold_eq st (pnOf st v) (nbrs v) (pnOf st v) hpre]
    simp only
    have L1 := llPure_le_init (pnOf st) (llOf st) st.sccFound (pnOf st v) (nbrs v) (pnOf st v)
    have L23 := llPure_le (pnOf st) (llOf st) st.sccFound (pnOf st v) (nbrs v) (pnOf st v)
    have L4 := llPure_attained (pnOf st) (llOf st) st.sccFound (pnOf st v) (nbrs v) (pnOf st v)
    generalize llPure (pnOf st) (llOf st) st.sccFound (pnOf st v) (nbrs v) (pnOf st v) = L at L1 L23 L4 ⊢
    have hll : ∀ (st' : SccState), st'.lowlink = ainsert st.lowlink v L → llOf st' = Function.update (llOf st) v L :=
      fun st' hst' => (congrArg (fun m x => (alookup m x).getD 0) hst').trans (getD_ainsert st.lowlink v L)
    by_cases hL : L = pnOf st v
    · rw [if_pos (beq_iff_eq.2 hL)]
      obtain ⟨g1, g2, g3, g4⟩ := popLoop_spec (pnOf st v) { st with lowlink := ainsert st.lowlink v L }
        (st.sccQueue.length + 1) st.sccQueue [v] (Nat.lt_succ_self _)
        (h.a.sSuffix.imp fun hab hlt => hab v List.mem_cons_self hv hlt)
      refine ⟨_, rest, rfl, ⟨?_, h.preNZ⟩, rfl, Or.inr rfl⟩
      rw [hll _ rfl]
      exact h.a.popR hv hall (fun w hw hwF hle => hL ▸ (L23 w hw hwF).1 hle)
        (fun w hw hwF hlt => hL ▸ (L23 w hw hwF).2 hlt) L _ _ _ g2 g1
        (fun x => by rw [g3 x, List.mem_singleton]; exact Iff.rfl) (g4 (List.pairwise_singleton _ v)) (fun x => mem_sunion _ _ x)
    · rw [if_neg (fun hb => hL (beq_iff_eq.1 hb))]
      refine ⟨_, rest, rfl, ⟨?_, h.preNZ⟩, rfl, Or.inr rfl⟩
      rw [hll _ rfl]
      exact h.a.popNR hv hall L L1 (fun w hw hwF => (L23 w hw hwF).1) (fun w hw hwF => (L23 w hw hwF).2) L4 hL

theorem step_ok {V : List Nat} {nbrs : Nat → List Nat} (hcl : ∀ x ∈ V, ∀ w ∈ nbrs x, w ∈ V)
    {st : SccState} {v : Nat} {rest : List Nat} (h : CInv V nbrs st (v :: rest)) :
    ∃ st' Q', sccStep nbrs st (v :: rest) = some (st', Q') ∧ CInv V nbrs st' Q' ∧
      mu V (pnOf st') Q' < mu V (pnOf st) (v :: rest) ∧
      (∀ x, (x ∈ v :: rest ∨ pnOf st x ≠ 0) → pnOf st' x ≠ 0) := by
  obtain ⟨h1, hv1, hmono, hU⟩ := visit_ok h
  obtain ⟨st', Q', hstep, hinv, hpn, hQ⟩ := afterVisit_ok hcl h1 hv1
  refine ⟨st', Q', by rw [sccStep_cons]; exact hstep, hinv, ?_, ?_⟩
  · -- numbering the top: two less in `2 * unvis`, which pays for the two a numbered top counts; then a push puts an
    -- unnumbered node on top (one more in length, two less for the top), a pop shortens the stack
    rw [hpn, mu_cons]
    refine Nat.lt_of_le_of_lt ?_ (mu_drop rest.length hU)
    rcases hQ with ⟨w, hQ', hw0⟩ | hQ'
    · rw [hQ', mu_cons, if_pos hw0]
      exact Nat.le_refl _
    · rw [hQ']
      exact mu_le V (pnOf (visitSt st v)) rest
  · intro x hx
    rw [hpn]
    rcases hx with hx | hx
    · rcases List.mem_cons.1 hx with rfl | hx
      · exact hv1
      · exact hmono x (h.a.rest_vis x hx)
    · exact hmono x hx

theorem sccRun_succ_cons (nbrs : Nat → List Nat) (fuel : Nat) (st : SccState) (v : Nat) (rest : List Nat) :
    sccRun nbrs (fuel + 1) st (v :: rest) =
      match sccStep nbrs st (v :: rest) with
      | none => none
      | some (st, q) => sccRun nbrs fuel st q := by
  conv => lhs; unfold sccRun
  rfl

theorem run_ok {V : List Nat} {nbrs : Nat → List Nat} (hcl : ∀ x ∈ V, ∀ w ∈ nbrs x, w ∈ V) :
    ∀ (fuel : Nat) (st : SccState) (Q : List Nat), CInv V nbrs st Q → mu V (pnOf st) Q ≤ fuel →
      ∃ st', sccRun nbrs fuel st Q = some st' ∧ CInv V nbrs st' [] ∧
        (∀ x, (x ∈ Q ∨ pnOf st x ≠ 0) → pnOf st' x ≠ 0) := by
  intro fuel
  induction fuel with
  | zero =>
    intro st Q h hmu
    cases Q with
    | nil => exact ⟨st, rfl, h, fun x hx => hx.elim (fun hm => nomatch hm) id⟩
    | cons v rest => rw [mu_cons] at hmu; omega
  | succ fuel ih =>
    intro st Q h hmu
    cases Q with
    | nil => exact ⟨st, rfl, h, fun x hx => hx.elim (fun hm => nomatch hm) id⟩
    | cons v rest =>
      obtain ⟨st1, Q1, hstep, hinv, hlt, hvis⟩ := step_ok hcl h
      rw [sccRun_succ_cons, hstep]
      obtain ⟨st', hrun, hinv', hvis'⟩ := ih st1 Q1 hinv (Nat.le_of_lt_succ (Nat.lt_of_lt_of_le hlt hmu))
      exact ⟨st', hrun, hinv', fun x hx => hvis' x (Or.inr (hvis x hx))⟩

/-- `G` stands for the lambda of `stronglyConnectedComponents`, which is known only
    through its value on `some st` (`hG`). -/
theorem sources_ok {V : List Nat} {nbrs : Nat → List Nat} (hcl : ∀ x ∈ V, ∀ w ∈ nbrs x, w ∈ V)
    (fuelN : Nat) (hfuel : 2 * V.length + 1 ≤ fuelN)
    (G : Option SccState → Nat → Option SccState)
    (hG : ∀ st src, G (some st) src = if st.sccFound.contains src then some st else sccRun nbrs fuelN st [src]) :
    ∀ (l : List Nat), (∀ x ∈ l, x ∈ V) → ∀ (st : SccState), CInv V nbrs st [] →
      ∃ st', l.foldl G (some st) = some st' ∧ CInv V nbrs st' [] ∧
        (∀ x, pnOf st x ≠ 0 → pnOf st' x ≠ 0) ∧ ∀ x ∈ l, x ∈ st'.sccFound := by
  intro l
  induction l with
  | nil =>
    intro _ st h
    exact ⟨st, rfl, h, fun x hx => hx, fun x hx => nomatch hx⟩
  | cons src l ih =>
    intro hl st h
    -- the source is numbered after its turn, whether it is skipped or searched from
    have hturn : ∃ st1, G (some st) src = some st1 ∧ CInv V nbrs st1 [] ∧
        (∀ x, pnOf st x ≠ 0 → pnOf st1 x ≠ 0) ∧ pnOf st1 src ≠ 0 := by
      rw [hG]
      by_cases hc : src ∈ st.sccFound
      · rw [if_pos (List.contains_iff_mem.2 hc)]
        exact ⟨st, rfl, h, fun x hx => hx, h.a.fVis src hc⟩
      · rw [if_neg (fun hb => hc (List.contains_iff_mem.1 hb))]
        obtain ⟨hstart, hsrc0⟩ := h.a.start src (hl src List.mem_cons_self) hc
        -- `2 * unvis ≤ 2 n`, the stack has one entry, its top is unnumbered
        have hmu : mu V (pnOf st) [src] ≤ fuelN := by
          have := unvis_le_length V (pnOf st)
          rw [mu_cons, if_pos hsrc0, List.length_nil]
          omega
        obtain ⟨st1, hrun, hinv1, hvis1⟩ := run_ok hcl fuelN st [src] ⟨hstart, h.preNZ⟩ hmu
        exact ⟨st1, hrun, hinv1, fun x hx => hvis1 x (Or.inr hx), hvis1 src (Or.inl List.mem_cons_self)⟩
    obtain ⟨st1, hstep, hinv1, hmono1, hsrc⟩ := hturn
    obtain ⟨st', hf, hinv, hmono, hfound⟩ := ih (fun x hx => hl x (List.mem_cons_of_mem _ hx)) st1 hinv1
    rw [List.foldl_cons, hstep]
    exact ⟨st', hf, hinv, fun x hx => hmono x (hmono1 x hx),
      List.forall_mem_cons.2 ⟨(hinv.a.vis_iff_found src).1 (hmono src hsrc), hfound⟩⟩

end Scc
end Graphrs
