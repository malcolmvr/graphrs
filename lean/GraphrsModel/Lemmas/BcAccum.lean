/-
  C05 (Brandes), namespace `Bc`: `accumulate` of betweenness.rs as an explicit recursion (`dlt`, `bcAdd`), and the
  dependency recursion  delta(v) = Σ_{w : v ∈ P(w)} sigma(v)/sigma(w) · (1 + delta(w))  it computes when `S` is
  ordered by level.
-/
import GraphrsModel.Lemmas.BcBfs
import GraphrsModel.Lemmas.BcSum
namespace Graphrs
namespace Bc

/-- the dependency array after the loop has visited the nodes of `W` (head = visited last; the loop runs through `S` backwards) -/
def dlt (P : Nat → List Nat) (σ : Nat → Rat) : List Nat → Nat → Rat
  | [], _ => 0
  | w :: W, v => dlt P σ W v + (if v ∈ P w then σ v * ((1 + dlt P σ W w) / σ w) else 0)

/-- what has been added to `bc` after the loop has visited the nodes of `W` -/
def bcAdd (P : Nat → List Nat) (σ : Nat → Rat) (source : Nat) : List Nat → Nat → Rat
  | [], _ => 0
  | w :: W, x => bcAdd P σ source W x + (if x = w ∧ w ≠ source then dlt P σ (w :: W) w else 0)

/-- the body of the loop `while let Some(w) = S.next()` over `result.S.iter().rev()` -/
def accStep (r : SSR) (acc : List Rat × List Rat) (w : Nat) : List Rat × List Rat :=
  let (bc, delta) := acc
  let coeff := (1 + getD0 delta w) / getD0 r.sigma w
  let delta := (r.P[w]?.getD []).foldl (fun delta v => delta.set v (getD0 delta v + getD0 r.sigma v * coeff)) delta
  let bc := if w != r.source then bc.set w (getD0 bc w + getD0 delta w) else bc
  (bc, delta)

theorem accumulate_eq (bc : List Rat) (r : SSR) :
    accumulate bc r = (r.S.reverse.foldl (accStep r) (bc, List.replicate bc.length (0 : Rat))).1 := by
  rfl

/-- the inner `for v in P[w]` loop -/
theorem inner_fold (g : Nat → Rat) : ∀ (L : List Nat) (delta : List Rat), L.Nodup → (∀ v ∈ L, v < delta.length) →
    (L.foldl (fun delta v => delta.set v (getD0 delta v + g v)) delta).length = delta.length ∧
    ∀ x, getD0 (L.foldl (fun delta v => delta.set v (getD0 delta v + g v)) delta) x =
      getD0 delta x + (if x ∈ L then g x else 0) := by
  intro L
  induction L with
  | nil => exact fun delta _ _ => ⟨rfl, fun x => (add_zero _).symm⟩
  | cons a L ih =>
    intro delta hnd hlt
    obtain ⟨haL, hnd⟩ := List.nodup_cons.1 hnd
    have hlen : (delta.set a (getD0 delta a + g a)).length = delta.length := List.length_set ..
    obtain ⟨h1, h2⟩ := ih (delta.set a (getD0 delta a + g a)) hnd
      (fun v hv => hlen ▸ hlt v (List.mem_cons_of_mem _ hv))
    refine ⟨h1.trans hlen, fun x => ?_⟩
    rw [List.foldl_cons, h2 x]
    by_cases e : a = x
    · subst e
      rw [getD0_set_self _ _ _ (hlt a List.mem_cons_self), if_neg haL, if_pos List.mem_cons_self, add_zero]
    · rw [getD0_set_ne _ _ _ _ e]
      simp only [List.mem_cons, Ne.symm e, false_or]

section fold
variable (r : SSR) (n : Nat)

/-- the state of the accumulation loop after the nodes of `W` have been visited: `delta` = `dlt W`, `bc` = `bc0 + bcAdd W` -/
def AccInv (bc0 : List Rat) (W : List Nat) (acc : List Rat × List Rat) : Prop :=
  acc.1.length = n ∧ acc.2.length = n ∧
  (∀ x, x < n → getD0 acc.2 x = dlt (gP r.P) (getD0 r.sigma) W x) ∧
  (∀ x, x < n → getD0 acc.1 x = getD0 bc0 x + bcAdd (gP r.P) (getD0 r.sigma) r.source W x)

theorem accStep_inv (bc0 : List Rat) (W : List Nat) (acc : List Rat × List Rat) (w : Nat) (hwn : w < n)
    (hPnd : (gP r.P w).Nodup) (hPlt : ∀ v ∈ gP r.P w, v < n) (h : AccInv r n bc0 W acc) :
    AccInv r n bc0 (w :: W) (accStep r acc w) := by
  obtain ⟨bc, delta⟩ := acc
  obtain ⟨hlb, hld, hd, hb⟩ := h
  obtain ⟨h1, h2⟩ := inner_fold (fun v => getD0 r.sigma v * ((1 + getD0 delta w) / getD0 r.sigma w))
    (r.P[w]?.getD []) delta hPnd (hld.symm ▸ hPlt)
  -- the new `delta`; the unfolding of `dlt (w :: W)` is definitional
  have hdelta : ∀ x, x < n → getD0 (accStep r (bc, delta) w).2 x =
      dlt (gP r.P) (getD0 r.sigma) (w :: W) x := fun x hx =>
    (h2 x).trans (by rw [hd x hx, hd w hwn]; rfl)
  have hbc : (accStep r (bc, delta) w).1 =
      if w != r.source then bc.set w (getD0 bc w + getD0 (accStep r (bc, delta) w).2 w) else bc := rfl
  refine ⟨?_, h1.trans hld, hdelta, fun x hx => ?_⟩
  · rw [hbc]
    split
    · exact (List.length_set ..).trans hlb
    · exact hlb
  · rw [hbc, hdelta w hwn, bcAdd]
    by_cases hs : w = r.source
    · rw [if_neg (mt bne_iff_ne.1 (not_not.2 hs)), hb x hx, if_neg (fun h => h.2 hs), add_zero]
    · rw [if_pos (bne_iff_ne.2 hs)]
      by_cases e : w = x
      · subst e
        rw [getD0_set_self _ _ _ (hlb.symm ▸ hwn), hb w hwn, if_pos ⟨rfl, hs⟩, add_assoc]
      · rw [getD0_set_ne _ _ _ _ e, hb x hx, if_neg (fun h => e h.1.symm), add_zero]

theorem accFold_inv (bc0 : List Rat)
    (hPnd : ∀ w : Nat, (gP r.P w).Nodup) (hPlt : ∀ w : Nat, ∀ v ∈ gP r.P w, v < n) :
    ∀ (L W : List Nat) (acc : List Rat × List Rat), (∀ w ∈ L, w < n) → AccInv r n bc0 W acc →
      AccInv r n bc0 (L.reverse ++ W) (L.foldl (accStep r) acc) := by
  intro L
  induction L with
  | nil => exact fun W acc _ h => h
  | cons w L ih =>
    intro W acc hL h
    rw [List.foldl_cons, List.reverse_cons, List.append_assoc]
    exact ih (w :: W) _ (fun x hx => hL x (List.mem_cons_of_mem _ hx))
      (accStep_inv r n bc0 W acc w (hL w List.mem_cons_self) (hPnd w) (hPlt w) h)

theorem accumulate_bcAdd (bc : List Rat) (hlb : bc.length = n)
    (hPnd : ∀ w : Nat, (gP r.P w).Nodup) (hPlt : ∀ w : Nat, ∀ v ∈ gP r.P w, v < n) (hS : ∀ w ∈ r.S, w < n) :
    (accumulate bc r).length = n ∧
    ∀ x, x < n → getD0 (accumulate bc r) x =
      getD0 bc x + bcAdd (gP r.P) (getD0 r.sigma) r.source r.S x := by
  have h0 : AccInv r n bc [] (bc, List.replicate bc.length 0) :=
    ⟨hlb, List.length_replicate.trans hlb, fun x hx => by
      unfold getD0
      rw [List.getElem?_replicate, if_pos (hlb.symm ▸ hx)]
      rfl, fun x _ => (add_zero _).symm⟩
  have := accFold_inv r n bc hPnd hPlt r.S.reverse [] _ (fun w hw => hS w (List.mem_reverse.1 hw)) h0
  rw [List.reverse_reverse, List.append_nil] at this
  rw [accumulate_eq]
  exact ⟨this.1, this.2.2.2⟩

end fold

section rec
variable (P : Nat → List Nat) (σ : Nat → Rat)

theorem dlt_prefix (v : Nat) : ∀ (A W : List Nat), (∀ a ∈ A, v ∉ P a) → dlt P σ (A ++ W) v = dlt P σ W v := by
  intro A
  induction A with
  | nil => intro W _; rfl
  | cons a A ih =>
    intro W h
    rw [List.cons_append, dlt, ih W (fun b hb => h b (List.mem_cons_of_mem _ hb)), if_neg (h a List.mem_cons_self),
      add_zero]

variable {P σ}

structure Leveled (P : Nat → List Nat) (S : List Nat) (lev : Nat → Int) : Prop where
  nd : S.Nodup
  ord : S.Pairwise (fun x y => lev x ≤ lev y)
  step : ∀ w, ∀ v ∈ P w, lev v < lev w
  sub : ∀ w, ∀ v ∈ P w, v ∈ S

theorem Leveled.not_mem_of_before {S : List Nat} {lev : Nat → Int} (hL : Leveled P S lev) {A W : List Nat} {w : Nat}
    (hS : S = A ++ w :: W) : ∀ a ∈ A ++ [w], w ∉ P a := by
  intro a ha hw
  have h1 := hL.step a w hw
  rcases List.mem_append.1 ha with ha | ha
  · have := (List.pairwise_append.1 (hS ▸ hL.ord)).2.2 a ha w List.mem_cons_self
    omega
  · rw [List.mem_singleton.1 ha] at h1
    omega

theorem Leveled.dlt_final {S : List Nat} {lev : Nat → Int} (hL : Leveled P S lev) {A W : List Nat} {w : Nat}
    (hS : S = A ++ w :: W) : dlt P σ S w = dlt P σ W w := by
  have : S = (A ++ [w]) ++ W := by rw [hS, List.append_assoc]; rfl
  rw [this]
  exact dlt_prefix P σ w (A ++ [w]) W (hL.not_mem_of_before hS)

theorem Leveled.dlt_suffix {S : List Nat} {lev : Nat → Int} (hL : Leveled P S lev) (v : Nat) :
    ∀ (W A : List Nat), S = A ++ W →
      dlt P σ W v = (W.map fun w => if v ∈ P w then σ v * ((1 + dlt P σ S w) / σ w) else 0).sum := by
  intro W
  induction W with
  | nil => intro A _; rfl
  | cons w W ih =>
    intro A hS
    rw [dlt, List.map_cons, List.sum_cons, ← ih (A ++ [w]) (by rw [hS, List.append_assoc]; rfl), hL.dlt_final hS,
      add_comm]

/-- **the recursion of Brandes' dependencies** -/
theorem Leveled.dlt_rec {S : List Nat} {lev : Nat → Int} (hL : Leveled P S lev) (v : Nat) :
    dlt P σ S v = (S.map fun w => if v ∈ P w then σ v * ((1 + dlt P σ S w) / σ w) else 0).sum :=
  hL.dlt_suffix v S [] rfl

theorem Leveled.bcAdd_suffix {S : List Nat} {lev : Nat → Int} (hL : Leveled P S lev) (source x : Nat) :
    ∀ (W A : List Nat), S = A ++ W →
      bcAdd P σ source W x = if x ∈ W ∧ x ≠ source then dlt P σ S x else 0 := by
  intro W
  induction W with
  | nil => exact fun A _ => (if_neg fun h => absurd h.1 List.not_mem_nil).symm
  | cons w W ih =>
    intro A hS
    have hwW : w ∉ W := (List.nodup_cons.1 (List.nodup_append.1 (hS ▸ hL.nd)).2.1).1
    have hfin : dlt P σ (w :: W) w = dlt P σ S w := by
      rw [hL.dlt_final hS, dlt, if_neg (hL.not_mem_of_before hS w (List.mem_append_right _ List.mem_cons_self)), add_zero]
    rw [bcAdd, ih (A ++ [w]) (by rw [hS, List.append_assoc]; rfl), hfin]
    by_cases e : x = w
    · subst e
      rw [if_neg (fun h => hwW h.1), zero_add]
      simp only [List.mem_cons, true_or, true_and]
    · simp only [List.mem_cons, e, false_or, false_and, if_false, add_zero]

theorem Leveled.bcAdd_eq {S : List Nat} {lev : Nat → Int} (hL : Leveled P S lev) (source x : Nat) :
    bcAdd P σ source S x = if x ∈ S ∧ x ≠ source then dlt P σ S x else 0 :=
  hL.bcAdd_suffix source x S [] rfl

/-- the coefficients `c(w) = (1 + delta(w)) / sigma(w)` obey the accumulation recursion with weights `1/sigma` -/
theorem Leveled.coeff_rec {S : List Nat} {lev : Nat → Int} (hL : Leveled P S lev) (t : Nat) (hσ : σ t ≠ 0) :
    (1 + dlt P σ S t) / σ t = 1 / σ t + (S.map fun w => if t ∈ P w then (1 + dlt P σ S w) / σ w else 0).sum := by
  have h : dlt P σ S t = σ t * (S.map fun w => if t ∈ P w then (1 + dlt P σ S w) / σ w else 0).sum := by
    rw [hL.dlt_rec t, ← sum_map_mul_left']
    simp only [mul_ite, mul_zero]
  rw [h, add_div, mul_div_cancel_left₀ _ hσ]

end rec

end Bc
end Graphrs
