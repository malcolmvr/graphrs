/-
  Every stored path list of `dijkstra` is duplicate-free, provided no two parallel arcs `v → u` (`v ≠ u`) share the
  *minimal* cost (strictly positive costs, no cutoff, `first_only = false`).
  Invariant: every stored path `q ++ [u]` of `u` is justified by a tight arc `(last q, u, m)` that is no longer pending.
-/
import GraphrsModel.Lemmas.DijkstraComplete
namespace Graphrs

variable {A : Arcs} {src n : Nat} {weighted : Bool}

/-- the stored path `p` of `u` is `[src]`, or an extension along a tight arc out of a finalised node whose copies
    have all been relaxed -/
def Just (A : Arcs) (src : Nat) (pend : Arcs) (dist seen : List (Option Int)) (u : Nat) (p : List Nat) : Prop :=
  (u = src ∧ p = [src]) ∨
  ∃ q v' dv' m, p = q ++ [u] ∧ q.getLast? = some v' ∧ lk dist v' = some dv' ∧ (v', u, m) ∈ A ∧
    lk seen u = some (dv' + m) ∧ (v', u, m) ∉ pend

namespace Just

theorem mono {pend pend' : Arcs} {dist dist' seen seen' : List (Option Int)} {u : Nat}
    {p : List Nat} (h : Just A src pend dist seen u p)
    (hd : ∀ x dx, lk dist x = some dx → lk dist' x = some dx ∧ ∀ m, (x, u, m) ∈ pend' → (x, u, m) ∈ pend)
    (hs : lk seen' u = lk seen u) : Just A src pend' dist' seen' u p := by
  rcases h with h | ⟨q, v', dv', m, h1, h2, h3, h4, h5, h6⟩
  · exact Or.inl h
  · obtain ⟨h7, h8⟩ := hd v' dv' h3
    exact Or.inr ⟨q, v', dv', m, h1, h2, h7, h4, hs ▸ h5, fun hm => h6 (h8 m hm)⟩

theorem tail {a : Nat × Nat × Int} {pend : Arcs} {dist seen seen' : List (Option Int)}
    {u : Nat} {p : List Nat} (h : Just A src (a :: pend) dist seen u p) (hs : lk seen' u = lk seen u) :
    Just A src pend dist seen' u p :=
  h.mono (fun _ _ hy => ⟨hy, fun _ hm => List.mem_cons_of_mem _ hm⟩) hs

end Just

/-- inside the row of `v`: unless its list is provisional (`Tmp`), every node stores each path once and every stored
    path is justified (`Just`); `cnt` - the pending arcs are a sub-multiset of `A`, so that a copy of the head arc found
    among them would be a second copy in `A` -/
structure UInv (A : Arcs) (src n v : Nat) (d : Int) (pend : Arcs) (dist seen : List (Option Int))
    (paths : List (List (List Nat))) : Prop where
  plen : paths.length = n
  good : ∀ u, Tmp v d pend seen u ∨ ((pth paths u).Nodup ∧ ∀ p ∈ pth paths u, Just A src pend dist seen u p)
  cnt : ∀ x, pend.count x ≤ A.count x

structure UInvB (A : Arcs) (src n : Nat) (dist seen : List (Option Int)) (paths : List (List (List Nat))) : Prop where
  plen : paths.length = n
  good : ∀ u, (pth paths u).Nodup ∧ ∀ p ∈ pth paths u, Just A src [] dist seen u p

namespace UInvB

theorem init (A : Arcs) (hsrc : src < n) (dist seen : List (Option Int)) :
    UInvB A src n dist seen ((List.replicate n []).set src [[src]]) where
  plen := (List.length_set ..).trans List.length_replicate
  good := fun u => by
    by_cases e : src = u
    · subst e
      rw [pth_set_self _ (List.length_replicate.symm ▸ hsrc)]
      exact ⟨List.pairwise_singleton _ _, fun p hp => Or.inl ⟨rfl, List.mem_singleton.1 hp⟩⟩
    · rw [pth_set_ne _ e, pth_replicate]
      exact ⟨List.nodup_nil, fun p hp => nomatch hp⟩

end UInvB

section row
variable {v : Nat} {d : Int} {pend : Arcs} {dist seen seen' : List (Option Int)} {fr : List FNode}
  {paths paths' : List (List (List Nat))} {u : Nat} {c : Int}

namespace UInvB

theorem enter (U : UInvB A src n dist seen paths) (v : Nat) (d : Int) (pend : Arcs) (hv : lk dist v = none)
    (hp2 : ∀ a ∈ pend, a.1 = v) (hcnt : ∀ x, pend.count x ≤ A.count x) :
    UInv A src n v d pend (dist.set v (some d)) seen paths where
  plen := U.plen
  cnt := hcnt
  good := by
    intro u
    obtain ⟨h1, h2⟩ := U.good u
    refine Or.inr ⟨h1, fun p hp => (h2 p hp).mono ?_ rfl⟩
    intro x dx hx
    have hne : v ≠ x := by intro e; subst e; rw [hv] at hx; cases hx
    refine ⟨by rw [lk_set_ne _ _ _ _ hne]; exact hx, fun m hm => ?_⟩
    exact absurd (hp2 _ hm).symm hne

end UInvB

namespace UInv

theorem exit (U : UInv A src n v d [] dist seen paths) : UInvB A src n dist seen paths where
  plen := U.plen
  good := fun u => (U.good u).resolve_left Tmp.nil

theorem skip {su : Int} (U : UInv A src n v d ((v, u, c) :: pend) dist seen paths)
    (hs : lk seen u = some su) (hlt : su < d + c) : UInv A src n v d pend dist seen paths where
  plen := U.plen
  cnt := fun x => Nat.le_trans List.count_le_count_cons (U.cnt x)
  good := by
    intro x
    rcases U.good x with h | ⟨h1, h2⟩
    · refine Or.inl (h.tail fun _ k hk => ?_)
      cases hs.symm.trans hk
      exact Int.le_of_lt hlt
    · exact Or.inr ⟨h1, fun p hp => (h2 p hp).tail rfl⟩

/-- a push at `u`: labels and path lists of the other nodes stay; what is asked of `u` is `hu` -/
theorem push (U : UInv A src n v d ((v, u, c) :: pend) dist seen paths)
    (hs : ∀ x, x ≠ u → lk seen' x = lk seen x) (hp : ∀ x, x ≠ u → pth paths' x = pth paths x)
    (hlen : paths'.length = n)
    (hu : Tmp v d pend seen' u ∨ ((pth paths' u).Nodup ∧ ∀ p ∈ pth paths' u, Just A src pend dist seen' u p)) :
    UInv A src n v d pend dist seen' paths' where
  plen := hlen
  cnt := fun x => Nat.le_trans List.count_le_count_cons (U.cnt x)
  good := by
    intro x
    by_cases hx : x = u
    · exact hx ▸ hu
    · rw [hp x hx]
      rcases U.good x with h | ⟨h1, h2⟩
      · exact Or.inl (h.other hx (hs x hx))
      · exact Or.inr ⟨h1, fun p hp => (h2 p hp).tail (hs x hx)⟩

/-- the list of the node whose row is being relaxed is duplicate-free: a pending arc `v → v` cannot undercut `seen[v] = d` -/
theorem nodup_row (hA : ArcsWf A n) (R : RowInv A src n none v d pend dist seen fr)
    (U : UInv A src n v d pend dist seen paths) : (pth paths v).Nodup := by
  rcases U.good v with ⟨k, c', hk, hm, hl⟩ | h
  · cases (R.distSeen v d R.hv).symm.trans hk
    have h0 : 0 ≤ c' := (hA _ (R.pendA _ hm)).2
    omega
  · exact h.1

end UInv

theorem push_uniq (hpar : ∀ v u m, v ≠ u → minArc A v u = some m → A.count (v, u, m) ≤ 1)
    (R : RowInv A src n none v d ((v, u, c) :: pend) dist seen fr)
    (hcnt : ∀ x, ((v, u, c) :: pend).count x ≤ A.count x)
    (hvu : v ≠ u) (hdec : ∀ su, lk seen u = some su → d + c ≤ su) (hs2 : lk seen' u = some (d + c)) :
    Tmp v d pend seen' u ∨ (v, u, c) ∉ pend := by
  obtain ⟨m, hm1, hm2, hm3⟩ := minArc_spec (R.pendA _ (List.mem_cons_self ..))
  -- `m` is the cost of the cheapest arc `v → u`: if `m = c`, `hpar` and `cnt` leave no second copy of the head arc;
  -- if `m < c`, the cheaper arc has not been relaxed yet (the label of `u` was at least `d + c`) and witnesses `Tmp`
  by_cases e : m = c
  · subst e
    right
    have h1 := hcnt (v, u, m)
    have h2 := hpar v u m hvu hm1
    rw [List.count_cons_self] at h1
    exact List.count_eq_zero.1 (by omega)
  · left
    rcases R.closed v d R.hv u m hm2 with h | h | ⟨k, hk, hle⟩
    · rcases List.mem_cons.1 h with e' | h
      · cases e'
        exact absurd rfl e
      · exact ⟨d + c, m, hs2, h, by omega⟩
    · cases h
    · have := hdec k hk
      omega

theorem nodup_map_snoc {l : List (List Nat)} (h : l.Nodup) (u : Nat) : (l.map (· ++ [u])).Nodup :=
  List.Pairwise.map _ (fun _ _ hab e => hab (List.append_cancel_right e)) h

namespace UInv

theorem push_lt (hA : ArcsWf A n) (hpar : ∀ v u m, v ≠ u → minArc A v u = some m → A.count (v, u, m) ≤ 1)
    (R : RowInv A src n none v d ((v, u, c) :: pend) dist seen fr)
    (P : PInv A src none v d ((v, u, c) :: pend) seen paths)
    (U : UInv A src n v d ((v, u, c) :: pend) dist seen paths)
    (hd : lk dist u = none) (hlt : ∀ su, lk seen u = some su → d + c < su) :
    UInv A src n v d pend dist (seen.set u (some (d + c))) (paths.set u ((pth paths v).map (· ++ [u]))) := by
  have harc : (v, u, c) ∈ A := R.pendA _ (List.mem_cons_self ..)
  have hun : u < n := (hA _ harc).1
  have hvu : v ≠ u := fun e => by rw [← e, R.hv] at hd; cases hd
  have hsu : lk (seen.set u (some (d + c))) u = some (d + c) := lk_set_self _ _ _ (R.lseen.symm ▸ hun)
  refine U.push (fun x hx => lk_set_ne _ _ _ _ (Ne.symm hx)) (fun x hx => pth_set_ne _ (Ne.symm hx))
    ((List.length_set ..).trans U.plen) ?_
  refine (push_uniq hpar R U.cnt hvu (fun su h => Int.le_of_lt (hlt su h)) hsu).imp_right fun hn => ?_
  rw [pth_set_self _ (U.plen.symm ▸ hun)]
  refine ⟨nodup_map_snoc (U.nodup_row hA R) _, fun p hp => ?_⟩
  obtain ⟨q, hq, rfl⟩ := List.mem_map.1 hp
  obtain ⟨_, _, _, ⟨_, hq2, _⟩, _⟩ := P v q hq
  exact Or.inr ⟨q, v, d, c, rfl, hq2, R.hv, harc, hsu, hn⟩

theorem push_eq (hA : ArcsWf A n) (hpar : ∀ v u m, v ≠ u → minArc A v u = some m → A.count (v, u, m) ≤ 1)
    (R : RowInv A src n none v d ((v, u, c) :: pend) dist seen fr)
    (P : PInv A src none v d ((v, u, c) :: pend) seen paths)
    (U : UInv A src n v d ((v, u, c) :: pend) dist seen paths)
    (hd : lk dist u = none) (hs : lk seen u = some (d + c)) :
    UInv A src n v d pend dist seen (paths.set u (pth paths u ++ (pth paths v).map (· ++ [u]))) := by
  have harc : (v, u, c) ∈ A := R.pendA _ (List.mem_cons_self ..)
  have hvu : v ≠ u := fun e => by rw [← e, R.hv] at hd; cases hd
  have hle : ∀ k, lk seen u = some k → k ≤ d + c := fun k hk => by
    cases hs.symm.trans hk
    exact Int.le_refl _
  have hlast : ∀ q ∈ pth paths v, q.getLast? = some v := fun q hq => by
    obtain ⟨_, _, _, ⟨_, hq2, _⟩, _⟩ := P v q hq
    exact hq2
  refine U.push (fun _ _ => rfl) (fun x hx => pth_set_ne _ (Ne.symm hx)) ((List.length_set ..).trans U.plen) ?_
  rcases U.good u with h | ⟨h1, h2⟩
  · exact Or.inl (h.tail fun _ => hle)
  refine (push_uniq hpar R U.cnt hvu (fun su h => by cases hs.symm.trans h; exact Int.le_refl _) hs).imp_right fun hn => ?_
  rw [pth_set_self _ (U.plen.symm ▸ (hA _ harc).1)]
  refine ⟨List.nodup_append.2 ⟨h1, nodup_map_snoc (U.nodup_row hA R) _, ?_⟩, fun p hp => ?_⟩
  · -- an old path of `u` equal to a new one `q ++ [u]` would be justified by a copy of the head arc not pending
    intro a ha b hb e
    subst e
    obtain ⟨q, hq, e⟩ := List.mem_map.1 hb
    have hql := hlast q hq
    rcases h2 a ha with ⟨_, e2⟩ | ⟨q', v', dv', m, e1, e2, e3, e4, e5, e6⟩
    · rw [e2] at e
      cases q with
      | nil => cases hql
      | cons y ys => cases ys <;> cases e
    · rw [e1] at e
      cases List.append_cancel_right e
      cases hql.symm.trans e2
      cases R.hv.symm.trans e3
      have : c = m := by have := Option.some.inj (hs.symm.trans e5); omega
      exact e6 (this ▸ List.mem_cons_self ..)
  · rcases List.mem_append.1 hp with hp | hp
    · exact (h2 p hp).tail rfl
    · obtain ⟨q, hq, rfl⟩ := List.mem_map.1 hp
      exact Or.inr ⟨q, v, d, c, rfl, hlast q hq, R.hv, harc, hs, hn⟩

end UInv

end row

theorem dijkstraLoop_unique
    (rows : List (List Adj)) (hA : ArcsWf A n) (hpos : ∀ a ∈ A, 0 < a.2.2)
    (hpar : ∀ v u m, v ≠ u → minArc A v u = some m → A.count (v, u, m) ≤ 1)
    (hrows : RowsOk A weighted rows)
    (hcnt : ∀ v x, (rowArcs weighted v (rows[v]?.getD [])).count x ≤ A.count x)
    (fuel : Nat) (st st' : DState)
    (I : Inv A src n none [] st.dist st.seen st.fringe)
    (P : PInvB A src st.seen st.paths)
    (U : UInvB A src n st.dist st.seen st.paths) (hm : st.fringe.length + pendFrom rows 0 st.dist < fuel)
    (h : dijkstraLoop (fun v => rows[v]?.getD []) weighted none none false true fuel st = .ok st') :
    UInvB A src n st'.dist st'.seen st'.paths := by
  obtain ⟨st'', _, e, _, _, hJ⟩ := dijkstraLoop_run (target := none) rows hA hrows
    (fun st => PInvB A src st.seen st.paths ∧ UInvB A src n st.dist st.seen st.paths)
    (fun v d pend st => PInv A src none v d pend st.seen st.paths ∧ UInv A src n v d pend st.dist st.seen st.paths)
    (fun st b J => J)
    (fun st d cnt v _ J _ _ hv => ⟨J.1.toPInv, J.2.enter v d _ hv (fun a ha => rowArcs_src a ha) (hcnt v)⟩)
    (fun v d => {
      skip := fun R J hs => by
        obtain ⟨su, hsu, hlt⟩ := hs.lt_of_pos hpos R
        exact ⟨J.1.skip (hs.arcOk R), J.2.skip hsu hlt⟩
      lt := fun R J ho hd hlt => ⟨PInv.push_lt hA R J.1 ho hlt, J.2.push_lt hA hpar R J.1 hd hlt⟩
      eq := fun R J ho hd hs _ => ⟨PInv.push_eq hA R J.1 ho hs, J.2.push_eq hA hpar R J.1 hd hs⟩ })
    (fun v d st _ J => ⟨J.1.toPInvB, J.2.exit⟩)
    fuel st I ⟨P, U⟩ hm
  cases e.symm.trans h
  rcases hJ with hJ | ⟨_, _, _, _, ht, _⟩
  · exact hJ.2
  · cases ht

end Graphrs
