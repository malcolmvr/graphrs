/-
  Insertion sort (`isort`) for a total preorder yields a sorted list; candidates with pairwise distinct ids come out in
  strictly increasing id, hence in the same order for every arrangement of the input.
-/
import GraphrsModel.Lemmas.ListSet
import GraphrsModel.Base
import GraphrsModel.Model.Louvain
import Mathlib.Data.List.Perm.Basic
import Mathlib.Data.List.Sort
namespace Graphrs
namespace LF

theorem insertSorted_pairwise {α} (le : α → α → Bool)
    (htotal : ∀ a b, le a b = true ∨ le b a = true)
    (htrans : ∀ a b c, le a b = true → le b c = true → le a c = true)
    (x : α) (l : List α) (hl : l.Pairwise (fun a b => le a b = true)) :
    (insertSorted le x l).Pairwise (fun a b => le a b = true) := by
  induction l with
  | nil => simp [insertSorted]
  | cons y ys ih =>
    unfold insertSorted
    rw [List.pairwise_cons] at hl
    by_cases h : le x y = true
    · rw [if_pos h, List.pairwise_cons]
      refine ⟨?_, List.pairwise_cons.mpr hl⟩
      intro z hz
      rcases List.mem_cons.mp hz with rfl | hz
      · exact h
      · exact htrans _ _ _ h (hl.1 z hz)
    · rw [if_neg h, List.pairwise_cons]
      refine ⟨?_, ih hl.2⟩
      intro z hz
      have hz' := (insertSorted_perm le x ys).subset hz
      rcases List.mem_cons.mp hz' with rfl | hz'
      · rcases htotal z y with h' | h'
        · exact absurd h' h
        · exact h'
      · exact hl.1 z hz'

theorem isort_pairwise {α} (le : α → α → Bool)
    (htotal : ∀ a b, le a b = true ∨ le b a = true)
    (htrans : ∀ a b c, le a b = true → le b c = true → le a c = true)
    (l : List α) : (isort le l).Pairwise (fun a b => le a b = true) := by
  induction l with
  | nil => exact List.Pairwise.nil
  | cons x xs ih =>
    show (insertSorted le x (isort le xs)).Pairwise _
    exact insertSorted_pairwise le htotal htrans x _ ih

/-- sorting candidates with pairwise distinct ids by id lists them in strictly increasing id -/
theorem isort_key_strict (l : List (Nat × Rat)) (hnd : (l.map (·.1)).Nodup) :
    (isort (fun a b : Nat × Rat => decide (a.1 ≤ b.1)) l).Pairwise (fun a b => a.1 < b.1) := by
  have hle := isort_pairwise (fun a b : Nat × Rat => decide (a.1 ≤ b.1))
    (fun a b => by simp only [decide_eq_true_eq]; omega) (fun a b c => by simp only [decide_eq_true_eq]; omega) l
  have hnd' : ((isort (fun a b : Nat × Rat => decide (a.1 ≤ b.1)) l).map (·.1)).Nodup :=
    ((isort_perm _ l).map _).nodup_iff.2 hnd
  rw [List.Nodup, List.pairwise_map] at hnd'
  exact (hle.and hnd').imp fun h => Nat.lt_of_le_of_ne (of_decide_eq_true h.1) h.2

/-- sorting by the key gives the same list for every iteration order of a map -/
theorem isort_key_perm_eq (l1 l2 : List (Nat × Rat)) (hperm : l1.Perm l2)
    (hkeys : (l1.map (·.1)).Nodup) :
    isort (fun a b => decide (a.1 ≤ b.1)) l1 = isort (fun a b => decide (a.1 ≤ b.1)) l2 :=
  List.Perm.eq_of_pairwise (le := fun a b : Nat × Rat => a.1 < b.1)
    (fun _ _ _ _ h1 h2 => absurd h1 (Nat.lt_asymm h2)) (isort_key_strict l1 hkeys)
    (isort_key_strict l2 ((hperm.map _).nodup_iff.1 hkeys))
    ((isort_perm _ l1).trans (hperm.trans (isort_perm _ l2).symm))

/-- the scan returns the community it started from or the id of a candidate -/
theorem updateBest_fst (gain : Nat → Rat → Rat) (cands : List (Nat × Rat)) (best : Nat × Rat) :
    (Louvain.updateBest gain cands best).1 = best.1 ∨ (Louvain.updateBest gain cands best).1 ∈ cands.map (·.1) := by
  unfold Louvain.updateBest
  have hsub : ∀ p ∈ isort (fun a b : Nat × Rat => decide (a.1 ≤ b.1)) cands, p.1 ∈ cands.map (·.1) :=
    fun p hp => List.mem_map_of_mem ((mem_isort _ p cands).1 hp)
  generalize isort (fun a b : Nat × Rat => decide (a.1 ≤ b.1)) cands = l at hsub ⊢
  induction l generalizing best with
  | nil => exact Or.inl rfl
  | cons c l ih =>
    rw [List.foldl_cons]
    rcases ih _ (fun p hp => hsub p (List.mem_cons_of_mem _ hp)) with h | h
    · rw [h]
      split
      · exact Or.inr (hsub c List.mem_cons_self)
      · exact Or.inl rfl
    · exact Or.inr h

end LF
end Graphrs
