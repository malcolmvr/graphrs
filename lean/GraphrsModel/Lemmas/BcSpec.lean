/-
  C05 (Brandes), namespace `Bc`, specification side: the enumeration `Arcs.tightPaths` of `bcSpec` over an exact distance
  labelling and strictly positive costs.  Every listed path is a shortest walk, so it has fewer arcs than there are nodes
  and the fuel does not matter once it covers that; the number of listed paths and the number of listed paths through `v`
  obey the backward recursions over the tight predecessors.
-/
import GraphrsModel.Lemmas.ListSet
import GraphrsModel.Spec.Centrality
import GraphrsModel.Lemmas.BcGraph
import GraphrsModel.Lemmas.BcSum
namespace Graphrs
namespace Bc

/-- the predecessor list `tightPaths` walks back along -/
def tpreds (B : Arcs) (d : List (Nat × Int)) (t : Nat) (dt : Int) : List Nat :=
  dedup ((B.filter fun a =>
    a.2.1 == t && (match alookup d a.1 with | some dy => dy + a.2.2 == dt | none => false)).map (·.1))

theorem tightPaths_zero (B : Arcs) (d : List (Nat × Int)) (s t : Nat) :
    Arcs.tightPaths B d s 0 t = if t == s then [[s]] else [] := by
  rfl

theorem tightPaths_succ (B : Arcs) (d : List (Nat × Int)) (s f t : Nat) :
    Arcs.tightPaths B d s (f + 1) t =
      if t == s then [[s]]
      else match alookup d t with
        | none => []
        | some dt => (tpreds B d t dt).flatMap fun y => (Arcs.tightPaths B d s f y).map (· ++ [t]) := by
  rfl

theorem tpreds_nodup (B : Arcs) (d : List (Nat × Int)) (t : Nat) (dt : Int) : (tpreds B d t dt).Nodup :=
  nodup_dedup _

theorem mem_tightPaths {B : Arcs} {d : List (Nat × Int)} {s f t : Nat} {p : List Nat} (hp : p ∈ Arcs.tightPaths B d s f t) :
    (t = s ∧ p = [s]) ∨ ∃ f' dt y q, f = f' + 1 ∧ alookup d t = some dt ∧ y ∈ tpreds B d t dt ∧
      q ∈ Arcs.tightPaths B d s f' y ∧ p = q ++ [t] := by
  have hsrc : (t == s) = true → p ∈ [[s]] → t = s ∧ p = [s] := fun hts hp =>
    ⟨beq_iff_eq.1 hts, List.mem_singleton.1 hp⟩
  cases f with
  | zero =>
    rw [tightPaths_zero] at hp
    split at hp
    · exact Or.inl (hsrc ‹_› hp)
    · cases hp
  | succ f =>
    rw [tightPaths_succ] at hp
    split at hp
    · exact Or.inl (hsrc ‹_› hp)
    · split at hp
      · cases hp
      · obtain ⟨y, hy, hp'⟩ := List.mem_flatMap.1 hp
        obtain ⟨q, hq, rfl⟩ := List.mem_map.1 hp'
        exact Or.inr ⟨f, _, y, q, rfl, ‹_›, hy, hq, rfl⟩

theorem tightPaths_last (B : Arcs) (d : List (Nat × Int)) (s : Nat) :
    ∀ (f t : Nat) (p : List Nat), p ∈ Arcs.tightPaths B d s f t → p.getLast? = some t := by
  intro f t p hp
  rcases mem_tightPaths hp with ⟨rfl, rfl⟩ | ⟨_, _, _, q, _, _, _, _, rfl⟩
  · rfl
  · exact List.getLast?_concat ..

section exact
variable {B : Arcs} {d : List (Nat × Int)} {s : Nat}

def ExactD (B : Arcs) (d : List (Nat × Int)) (s : Nat) : Prop := ∀ v x, alookup d v = some x ↔ IsDist B s v x

theorem mem_tpreds_pos (hd : ExactD B d s) (t : Nat) (dt : Int) (y : Nat) :
    y ∈ tpreds B d t dt ↔ ∃ c, (y, t, c) ∈ B ∧ IsDist B s y (dt - c) := by
  unfold tpreds
  rw [mem_dedup, List.mem_map]
  constructor
  · rintro ⟨⟨u, w, c⟩, ha, rfl⟩
    obtain ⟨haB, hc⟩ := List.mem_filter.1 ha
    obtain ⟨hw, hm⟩ := Bool.and_eq_true_iff.1 hc
    obtain rfl : w = t := beq_iff_eq.1 hw
    refine ⟨c, haB, ?_⟩
    cases hl : alookup d u with
    | none => rw [hl] at hm; cases hm
    | some dy =>
      rw [hl] at hm
      rw [← show dy + c = dt from beq_iff_eq.1 hm, Int.add_sub_cancel]
      exact (hd u dy).1 hl
  · rintro ⟨c, haB, hy⟩
    refine ⟨(y, t, c), List.mem_filter.2 ⟨haB, ?_⟩, rfl⟩
    simp only [beq_self_eq_true, Bool.true_and, (hd y (dt - c)).2 hy, Int.sub_add_cancel]

theorem mem_tpreds (hU : UnitArcs B) (hd : ExactD B d s) (t : Nat) (dt : Int) (y : Nat) :
    y ∈ tpreds B d t dt ↔ ((y, t, (1 : Int)) ∈ B ∧ IsDist B s y (dt - 1)) := by
  rw [mem_tpreds_pos hd]
  constructor
  · rintro ⟨c, hB, hy⟩
    obtain rfl : c = 1 := hU _ hB
    exact ⟨hB, hy⟩
  · exact fun h => ⟨1, h⟩

theorem tightPaths_walkN (hP : PosArcs B) (hd : ExactD B d s) :
    ∀ (f t : Nat) (p : List Nat), p ∈ Arcs.tightPaths B d s f t →
      ∃ k c, p.length = k + 1 ∧ WalkN B s t k c ∧ IsDist B s t c := by
  intro f
  induction f with
  | zero =>
    intro t p hp
    rcases mem_tightPaths hp with ⟨rfl, rfl⟩ | ⟨_, _, _, _, h, _⟩
    · exact ⟨0, 0, rfl, WalkN.nil _, isDist_source_pos hP _⟩
    · cases h
  | succ f ih =>
    intro t p hp
    rcases mem_tightPaths hp with ⟨rfl, rfl⟩ | ⟨_, dt, y, q, h, hl, hy, hq, rfl⟩
    · exact ⟨0, 0, rfl, WalkN.nil _, isDist_source_pos hP _⟩
    · cases h
      obtain ⟨c, harc, hyd⟩ := (mem_tpreds_pos hd t dt y).1 hy
      obtain ⟨k, cq, hlen, hwk, hcq⟩ := ih y q hq
      obtain rfl := isDist_unique hcq hyd
      refine ⟨k + 1, dt, by rw [List.length_append, hlen]; rfl, ?_, (hd t dt).1 hl⟩
      have := WalkN.snoc hwk harc
      rwa [Int.sub_add_cancel] at this

theorem tp_filter (B : Arcs) (d : List (Nat × Int)) (s : Nat) :
    ∀ (f t : Nat), Arcs.tightPaths B d s f t =
      (Arcs.tightPaths B d s (f + 1) t).filter fun p => decide (p.length ≤ f + 1) := by
  intro f
  induction f with
  | zero =>
    intro t
    rw [tightPaths_zero, tightPaths_succ]
    split
    · rfl
    · -- the paths listed with fuel 1 for `t ≠ s` have two nodes
      symm
      rw [List.filter_eq_nil_iff]
      intro p hp
      split at hp
      · cases hp
      · obtain ⟨y, _, hp'⟩ := List.mem_flatMap.1 hp
        obtain ⟨q, hq, rfl⟩ := List.mem_map.1 hp'
        rcases mem_tightPaths hq with ⟨_, rfl⟩ | ⟨_, _, _, _, h, _⟩
        · exact of_decide_eq_false rfl
        · cases h
  | succ f ih =>
    intro t
    rw [tightPaths_succ B d s f t, tightPaths_succ B d s (f + 1) t]
    split
    · rfl
    · split
      · rfl
      · rw [List.filter_flatMap]
        refine List.flatMap_congr fun y _ => ?_
        rw [ih y, List.filter_map]
        congr 1
        refine List.filter_congr fun q _ => ?_
        simp only [Function.comp_apply, List.length_append, List.length_singleton, Nat.add_le_add_iff_right]

/-- the fuel-free unfolding of `tightPaths` at fuel `n` -/
def TpEq (B : Arcs) (d : List (Nat × Int)) (s n : Nat) : Prop :=
  ∀ t, Arcs.tightPaths B d s n t =
    if t == s then [[s]]
    else match alookup d t with
      | none => []
      | some dt => (tpreds B d t dt).flatMap fun y => (Arcs.tightPaths B d s n y).map (· ++ [t])

theorem tpEq_of_length {n : Nat} (hn : 0 < n) (hlen : ∀ t p, p ∈ Arcs.tightPaths B d s n t → p.length ≤ n) :
    TpEq B d s n := by
  obtain ⟨m, rfl⟩ : ∃ m, n = m + 1 := ⟨n - 1, by omega⟩
  intro t
  rw [tightPaths_succ]
  split
  · rfl
  · split
    · rfl
    · refine List.flatMap_congr fun y _ => ?_
      rw [tp_filter B d s m y, List.filter_eq_self.2 fun p hp => decide_eq_true (hlen y p hp)]

theorem tp_eq (hU : UnitArcs B) (hd : ExactD B d s) (n : Nat) (hn : ∀ t k, IsDist B s t k → k < (n : Int)) :
    TpEq B d s n := by
  have hn0 := hn s 0 (isDist_source_pos hU.pos s)
  refine tpEq_of_length (by omega) fun t p hp => ?_
  obtain ⟨k, c, hlen, hwk, hc⟩ := tightPaths_walkN hU.pos hd n t p hp
  have := hn t c hc
  rw [hwk.cost_unit hU] at this
  omega

theorem tp_eq_pos (hP : PosArcs B) (hd : ExactD B d s) (nodes : List Nat) (hs : s ∈ nodes)
    (hA : ∀ a ∈ B, a.2.1 ∈ nodes) (n : Nat) (hn : nodes.length ≤ n) : TpEq B d s n := by
  have hn0 : 0 < nodes.length := List.length_pos_of_mem hs
  refine tpEq_of_length (by omega) fun t p hp => ?_
  obtain ⟨k, c, hlen, hwk, hc⟩ := tightPaths_walkN hP hd n t p hp
  have := hwk.lt_nodes hP nodes hs hA hc.2
  omega

def sigH (B : Arcs) (d : List (Nat × Int)) (s n t : Nat) : Rat := ((Arcs.tightPaths B d s n t).length : Rat)

def thrH (B : Arcs) (d : List (Nat × Int)) (s n v t : Nat) : Rat :=
  (((Arcs.tightPaths B d s n t).filter fun q => q.contains v).length : Rat)

theorem length_flatMap_cast {α β} (l : List α) (f : α → List β) :
    ((l.flatMap f).length : Rat) = (l.map fun a => ((f a).length : Rat)).sum := by
  induction l with
  | nil => rfl
  | cons a l ih => rw [List.flatMap_cons, List.length_append, Nat.cast_add, ih, List.map_cons, List.sum_cons]

theorem contains_snoc (q : List Nat) (t v : Nat) : (q ++ [t]).contains v = (q.contains v || v == t) := by
  rw [List.contains_eq_mem, List.contains_eq_mem, Bool.eq_iff_iff]
  simp only [List.mem_append, List.mem_singleton, decide_eq_true_eq, Bool.or_eq_true, beq_iff_eq]

theorem filter_snoc_length (L : List (List Nat)) (t v : Nat) :
    ((L.map (· ++ [t])).filter fun q => q.contains v).length =
      if v = t then L.length else (L.filter fun q => q.contains v).length := by
  rw [List.filter_map, List.length_map]
  split
  · rw [List.filter_eq_self.2 fun q _ => by rw [Function.comp_apply, contains_snoc, beq_iff_eq.2 ‹v = t›, Bool.or_true]]
  · congr 1
    refine List.filter_congr fun q _ => ?_
    rw [Function.comp_apply, contains_snoc, beq_eq_false_iff_ne.2 ‹¬ v = t›, Bool.or_false]

theorem TpEq.source {n : Nat} (hTp : TpEq B d s n) : Arcs.tightPaths B d s n s = [[s]] := by
  rw [hTp, if_pos (beq_self_eq_true s)]

theorem TpEq.none {n : Nat} (hTp : TpEq B d s n) {t : Nat} (hts : t ≠ s) (hl : alookup d t = none) : Arcs.tightPaths B d s n t = [] := by
  rw [hTp, if_neg (mt beq_iff_eq.1 hts), hl]

theorem TpEq.some {n : Nat} (hTp : TpEq B d s n) {t : Nat} (hts : t ≠ s) {dt : Int} (hl : alookup d t = some dt) :
    Arcs.tightPaths B d s n t = (tpreds B d t dt).flatMap fun y => (Arcs.tightPaths B d s n y).map (· ++ [t]) := by
  rw [hTp, if_neg (mt beq_iff_eq.1 hts), hl]

theorem sigH_source {n : Nat} (hTp : TpEq B d s n) :
    sigH B d s n s = 1 := by
  unfold sigH
  rw [hTp.source]
  rfl

theorem thrH_source {n : Nat} (hTp : TpEq B d s n) (v : Nat) :
    thrH B d s n v s = if v = s then 1 else 0 := by
  unfold thrH
  rw [hTp.source]
  simp only [List.filter_cons, List.filter_nil, List.contains_cons, List.contains_nil, Bool.or_false, beq_iff_eq]
  split
  · exact Nat.cast_one
  · exact Nat.cast_zero

theorem thrH_none {n : Nat} (hTp : TpEq B d s n) (v t : Nat)
    (hts : t ≠ s) (hl : alookup d t = none) : thrH B d s n v t = 0 := by
  unfold thrH
  rw [hTp.none hts hl]
  rfl

theorem sigH_some {n : Nat} (hTp : TpEq B d s n) (t : Nat)
    (hts : t ≠ s) (dt : Int) (hl : alookup d t = some dt) :
    sigH B d s n t = ((tpreds B d t dt).map (sigH B d s n)).sum := by
  unfold sigH
  rw [hTp.some hts hl, length_flatMap_cast]
  simp only [List.length_map]

theorem thrH_some {n : Nat} (hTp : TpEq B d s n) (v t : Nat)
    (hts : t ≠ s) (dt : Int) (hl : alookup d t = some dt) :
    thrH B d s n v t = if v = t then sigH B d s n t else ((tpreds B d t dt).map (thrH B d s n v)).sum := by
  rw [sigH_some hTp t hts dt hl]
  unfold thrH sigH
  rw [hTp.some hts hl, List.filter_flatMap, length_flatMap_cast]
  simp only [filter_snoc_length]
  split <;> rfl

end exact

end Bc
end Graphrs
