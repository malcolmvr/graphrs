/-
  The histogram `Store.countMap` (sort, then count runs into a map) against the histogram of the definition
  `Abs.generalizedDegreeAt` (`dedup`, then count occurrences): the two bind the same keys to the same counts, so they are
  permutations of each other, and since the keys of `countMap` increase it is the key-sorted form of the definition's.
  Namespace `C11G` (generalized degree).
-/
import GraphrsModel.Lemmas.C11ModelAux
import GraphrsModel.Lemmas.AList
namespace Graphrs
namespace C11G
open C02 C11aux C11M

theorem perm_of_alookup {ν : Type} (m1 m2 : List (Nat × ν)) (h1 : (m1.map (·.1)).Nodup) (h2 : (m2.map (·.1)).Nodup)
    (h : ∀ k, alookup m1 k = alookup m2 k) : m1.Perm m2 := by
  apply (List.perm_ext_iff_of_nodup (List.Nodup.of_map _ h1) (List.Nodup.of_map _ h2)).2
  intro ⟨k, v⟩
  rw [AL.mem_iff_lookup h1, AL.mem_iff_lookup h2, h]

def keyLe (a b : Nat × Nat) : Bool := decide (a.1 ≤ b.1)

theorem insertSorted_key (x : Nat × Nat) (l : List (Nat × Nat)) (hl : l.Pairwise (fun a b => a.1 ≤ b.1)) :
    (insertSorted keyLe x l).Pairwise (fun a b => a.1 ≤ b.1) := by
  induction l with
  | nil => exact List.pairwise_singleton _ _
  | cons y ys ih =>
    unfold insertSorted
    rw [List.pairwise_cons] at hl
    split
    · have h : x.1 ≤ y.1 := of_decide_eq_true ‹keyLe x y = true›
      exact List.pairwise_cons.2 ⟨fun z hz => (List.mem_cons.1 hz).elim (fun e => e ▸ h)
        fun hz => Nat.le_trans h (hl.1 z hz), List.pairwise_cons.2 hl⟩
    · have h : y.1 ≤ x.1 := Nat.le_of_not_le (of_decide_eq_false (Bool.eq_false_iff.2 ‹¬ keyLe x y = true›))
      exact List.pairwise_cons.2 ⟨fun z hz => (List.mem_cons.1 ((insertSorted_perm keyLe x ys).subset hz)).elim
        (fun e => e ▸ h) (hl.1 z), ih hl.2⟩

theorem isort_key (l : List (Nat × Nat)) : (isort keyLe l).Pairwise (fun a b => a.1 ≤ b.1) := by
  induction l with
  | nil => exact List.Pairwise.nil
  | cons x xs ih => exact insertSorted_key x _ ih

theorem eq_isort_of_perm (g l : List (Nat × Nat)) (hg : (g.map (·.1)).Pairwise (· < ·)) (hp : g.Perm l) :
    g = isort keyLe l := by
  have hg' : g.Pairwise (fun a b => a.1 < b.1) := List.pairwise_map.1 hg
  have hgn : (g.map (·.1)).Nodup := hg.imp (fun h => Nat.ne_of_lt h)
  have hp' : g.Perm (isort keyLe l) := hp.trans (isort_perm keyLe l).symm
  refine List.Perm.eq_of_pairwise (le := fun a b : Nat × Nat => a.1 ≤ b.1) ?_
    (hg'.imp (fun h => Nat.le_of_lt h)) (isort_key l) hp'
  intro a b ha hb hab hba
  have e : a.1 = b.1 := Nat.le_antisymm hab hba
  have h1 := AL.mem_lookup hgn (k := a.1) (v := a.2) ha
  rw [e, AL.mem_lookup hgn (k := b.1) (v := b.2) (hp'.symm.subset hb)] at h1
  exact Prod.ext e (Option.some.inj h1).symm

def hstep (m : List (Nat × Nat)) (k : Nat) : List (Nat × Nat) := ainsert m k ((alookup m k).getD 0 + 1)

theorem countMap_eq (l : List Nat) : Store.countMap l = (sortNat l).foldl hstep [] := rfl

theorem alookup_hist (l : List Nat) (m0 : List (Nat × Nat)) (k : Nat) :
    alookup (l.foldl hstep m0) k
      = if l.count k = 0 then alookup m0 k else some ((alookup m0 k).getD 0 + l.count k) := by
  induction l generalizing m0 with
  | nil => rfl
  | cons a l ih =>
    rw [List.foldl_cons, ih, hstep, AL.lookup_insert]
    by_cases e : a = k
    · subst e
      rw [if_pos rfl, List.count_cons_self, if_neg (Nat.succ_ne_zero _), Option.getD_some]
      split
      · rw [‹List.count a l = 0›]
      · rw [Nat.add_assoc, Nat.add_comm 1]
    · rw [if_neg e, List.count_cons_of_ne e]

/-- over a sorted list the histogram map is built in increasing key order -/
theorem keys_hist_sorted (l : List Nat) (hl : l.Pairwise (· ≤ ·)) (m0 : List (Nat × Nat))
    (h0 : (m0.map (·.1)).Pairwise (· < ·)) (hb : ∀ k ∈ m0.map (·.1), ∀ x ∈ l, k ≤ x) :
    ((l.foldl hstep m0).map (·.1)).Pairwise (· < ·) := by
  induction l generalizing m0 with
  | nil => exact h0
  | cons a l ih =>
    rw [List.pairwise_cons] at hl
    rw [List.foldl_cons]
    -- the keys after the step: those of `m0`, and `a` behind them if it is new
    have hkeys : ∀ k ∈ (hstep m0 a).map (·.1), k ∈ m0.map (·.1) ∨ k = a :=
      fun k hk => (mem_keys_ainsert m0 a _ k).1 hk
    apply ih hl.2
    · rw [hstep, AL.keys_insert]
      split
      · exact h0
      · exact List.pairwise_append.2 ⟨h0, List.pairwise_singleton _ _, fun k hk b hb' =>
          List.mem_singleton.1 hb' ▸ Nat.lt_of_le_of_ne (hb k hk a List.mem_cons_self)
            fun e => ‹a ∉ m0.map (·.1)› (e ▸ hk)⟩
    · intro k hk x hx
      rcases hkeys k hk with hk | rfl
      · exact hb k hk x (List.mem_cons_of_mem _ hx)
      · exact hl.1 x hx

theorem countMap_keys_sorted (l : List Nat) : ((Store.countMap l).map (·.1)).Pairwise (· < ·) :=
  keys_hist_sorted _ (sorted_sortNat l) [] List.Pairwise.nil (fun _ hk => absurd hk List.not_mem_nil)

theorem alookup_countMap (l : List Nat) (k : Nat) :
    alookup (Store.countMap l) k = if k ∈ l then some (l.count k) else none := by
  have hc : (sortNat l).count k = l.count k := (isort_perm _ l).count_eq k
  rw [countMap_eq, alookup_hist, hc]
  by_cases hk : k ∈ l
  · rw [if_pos hk, if_neg (List.count_pos_iff.2 hk).ne']
    exact congrArg some (Nat.zero_add _)
  · rw [if_neg hk, if_pos (List.count_eq_zero.2 hk)]
    rfl

/-- the body of `Abs.generalizedDegreeAt` as a function of the list of per-neighbour counts -/
def specHist (c : List Nat) : List (Nat × Nat) := (dedup c).map fun k => (k, (c.filter (· == k)).length)

theorem alookup_specHist (c : List Nat) (k : Nat) :
    alookup (specHist c) k = if k ∈ c then some (c.count k) else none := by
  rw [specHist, C09M.alookup_map_self, List.count_eq_countP, List.countP_eq_length_filter]
  exact if_congr (mem_dedup c k) rfl rfl

theorem countMap_specHist (c c' : List Nat) (hp : c.Perm c') :
    (∀ t, alookup (Store.countMap c) t = alookup (specHist c') t) ∧
    (Store.countMap c).Perm (specHist c') ∧
    Store.countMap c = isort keyLe (specHist c') := by
  have h1 : ∀ t, alookup (Store.countMap c) t = alookup (specHist c') t := by
    intro t
    rw [alookup_countMap, alookup_specHist, hp.count_eq]
    exact if_congr hp.mem_iff rfl rfl
  have h2 : (Store.countMap c).Perm (specHist c') :=
    perm_of_alookup _ _ ((countMap_keys_sorted c).imp Nat.ne_of_lt)
      (by rw [specHist, List.map_map, List.map_id'' (f := _ ∘ _) fun _ => rfl]; exact nodup_dedup c') h1
  exact ⟨h1, h2, eq_isort_of_perm _ _ (countMap_keys_sorted c) h2⟩

theorem countMap_sum (l : List Nat) :
    sumNat ((Store.countMap l).map fun kv => kv.1 * kv.2) = sumNat l := by
  rw [sumNat_eq_sum, (((countMap_specHist l l (List.Perm.refl l)).2.1).map _).sum_eq, ← sumNat_eq_sum, specHist,
    List.map_map]
  exact (histogram (nodup_dedup l) (fun k => k) l fun x hx => (mem_dedup l x).2 hx).trans
    (congrArg sumNat (List.map_id' l))

end C11G
end Graphrs
