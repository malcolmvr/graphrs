/-
  The path bookkeeping of `dijkstra`: every stored path for `u` starts at the source, ends at `u` and has
  `walkCost` equal to `seen[u]` (at row boundaries; inside a row a cheaper parallel arc may still be pending).
-/
import GraphrsModel.Lemmas.DijkstraFull
import GraphrsModel.Spec.PathCheck
namespace Graphrs

theorem walkCost_append_last (A : Arcs) (u : Nat) : ∀ (q : List Nat) (v : Nat), q.getLast? = some v →
    Arcs.walkCost A (q ++ [u]) = (Arcs.walkCost A q).bind fun x => (minArc A v u).map fun b => x + b := by
  intro q
  induction q with
  | nil => intro v h; cases h
  | cons x rest ih =>
    intro v h
    cases rest with
    | nil =>
      rw [List.getLast?_singleton, Option.some.injEq] at h
      subst h
      rw [show [x] ++ [u] = [x, u] from rfl, walkCost_cons_cons]
      cases minArc A x u <;> rfl
    | cons y rest =>
      rw [List.getLast?_cons_cons] at h
      rw [List.cons_append, List.cons_append, walkCost_cons_cons, walkCost_cons_cons, ← List.cons_append, ih v h]
      cases minArc A x y with
      | none => rfl
      | some b =>
        cases Arcs.walkCost A (y :: rest) with
        | none => rfl
        | some x' =>
          cases minArc A v u with
          | none => rfl
          | some m => exact congrArg some (Int.add_right_comm x' m b)

abbrev pth (paths : List (List (List Nat))) (u : Nat) : List (List Nat) := paths[u]?.getD []

theorem pth_set_self {paths : List (List (List Nat))} {u : Nat} (x : List (List Nat)) (h : u < paths.length) :
    pth (paths.set u x) u = x := by
  rw [pth, List.getElem?_set_self h]
  rfl

theorem pth_set_ne {paths : List (List (List Nat))} {u y : Nat} (x : List (List Nat)) (h : u ≠ y) :
    pth (paths.set u x) y = pth paths y := by
  rw [pth, List.getElem?_set_ne h]

theorem pth_replicate (n u : Nat) : pth (List.replicate n ([] : List (List Nat))) u = [] := by
  unfold pth
  by_cases h : u < n
  · simp [h]
  · simp [h]

def PathOk (A : Arcs) (src u : Nat) (p : List Nat) (k : Int) : Prop :=
  p.head? = some src ∧ p.getLast? = some u ∧ Arcs.walkCost A p = some k

def PInvB (A : Arcs) (src : Nat) (seen : List (Option Int)) (paths : List (List (List Nat))) : Prop :=
  ∀ u, ∀ p ∈ paths[u]?.getD [], ∃ k, lk seen u = some k ∧ PathOk A src u p k

def PInv (A : Arcs) (src : Nat) (cut : Option Int) (v : Nat) (d : Int) (pend : Arcs)
    (seen : List (Option Int)) (paths : List (List (List Nat))) : Prop :=
  ∀ u, ∀ p ∈ paths[u]?.getD [], ∃ k k', lk seen u = some k ∧ PathOk A src u p k' ∧
    (k' = k ∨ (k' < k ∧ overCutoff cut k' = false ∧ ∃ c', (v, u, c') ∈ pend ∧ d + c' = k'))

theorem PInvB.toPInv {A : Arcs} {src : Nat} {cut : Option Int} {v : Nat} {d : Int} {pend : Arcs}
    {seen : List (Option Int)} {paths : List (List (List Nat))} (h : PInvB A src seen paths) :
    PInv A src cut v d pend seen paths := by
  intro u p hp
  obtain ⟨k, hk, hok⟩ := h u p hp
  exact ⟨k, k, hk, hok, Or.inl rfl⟩

theorem PInv.toPInvB {A : Arcs} {src : Nat} {cut : Option Int} {v : Nat} {d : Int}
    {seen : List (Option Int)} {paths : List (List (List Nat))} (h : PInv A src cut v d [] seen paths) :
    PInvB A src seen paths := by
  intro u p hp
  obtain ⟨k, k', hk, hok, h3⟩ := h u p hp
  rcases h3 with e | ⟨_, _, c', hc', _⟩
  · subst e; exact ⟨k', hk, hok⟩
  · simp at hc'

theorem PInvB.init (A : Arcs) (src n : Nat) :
    PInvB A src ((List.replicate n none).set src (some 0)) ((List.replicate n []).set src [[src]]) := by
  intro u p hp
  by_cases e : src = u
  · subst e
    by_cases hn : src < n
    · simp [hn] at hp
      subst hp
      exact ⟨0, lk_set_self _ _ _ (by simpa using hn), by simp [PathOk, Arcs.walkCost]⟩
    · simp [hn] at hp
  · rw [List.getElem?_set_ne e] at hp
    by_cases hn : u < n
    · simp [hn] at hp
    · simp [hn] at hp

theorem mem_getD_set_self {α} {l : List (List α)} {u : Nat} {x : List α} {p : α}
    (h : p ∈ (l.set u x)[u]?.getD []) : p ∈ x := by
  by_cases hn : u < l.length
  · simpa [hn] using h
  · simp [hn] at h

section row
variable {A : Arcs} {src n : Nat} {cut : Option Int} {v : Nat} {d : Int} {pend : Arcs} {u : Nat} {c : Int}

/-- an entry of `PInv` survives dropping the head arc `(v, u, c)` from the pending ones, unless that arc is its
    witness - and then `seen[u]` is above `d + c`, which is within the cutoff -/
theorem PInv.tail {seen : List (Option Int)} {paths : List (List (List Nat))}
    (h : PInv A src cut v d ((v, u, c) :: pend) seen paths) {x : Nat} {p : List Nat} (hp : p ∈ paths[x]?.getD [])
    (hno : x = u → overCutoff cut (d + c) = false → ∀ k, lk seen x = some k → k ≤ d + c) :
    ∃ k k', lk seen x = some k ∧ PathOk A src x p k' ∧
      (k' = k ∨ (k' < k ∧ overCutoff cut k' = false ∧ ∃ c', (v, x, c') ∈ pend ∧ d + c' = k')) := by
  obtain ⟨k, k', hk, hpo, h3⟩ := h x p hp
  refine ⟨k, k', hk, hpo, h3.imp_right fun ⟨hlt, hc, c', hc', he⟩ => ⟨hlt, hc, c', ?_, he⟩⟩
  rcases List.mem_cons.1 hc' with e | hc'
  · obtain ⟨_, e2, e3⟩ : v = v ∧ x = u ∧ c' = c := by simpa only [Prod.mk.injEq] using e
    subst e3 he
    exact absurd (hno e2 hc k hk) (Int.not_le.2 hlt)
  · exact hc'

theorem PInv.skip {seen : List (Option Int)} {paths : List (List (List Nat))}
    (h : PInv A src cut v d ((v, u, c) :: pend) seen paths) (hok : ArcOk cut seen d u c) :
    PInv A src cut v d pend seen paths := by
  intro x p hp
  refine h.tail hp fun e ho k hk => ?_
  rcases hok with ho' | ⟨k2, hk2, hle⟩
  · rw [ho] at ho'
    cases ho'
  · rw [e, hk2] at hk
    cases hk
    exact hle

theorem PInv.new_paths {dist seen : List (Option Int)} {fr : List FNode} {paths : List (List (List Nat))}
    (hA : ArcsWf A n)
    (R : RowInv A src n cut v d ((v, u, c) :: pend) dist seen fr)
    (h : PInv A src cut v d ((v, u, c) :: pend) seen paths)
    (hcut : overCutoff cut (d + c) = false)
    (hdec : ∀ su, lk seen u = some su → d + c ≤ su)
    (p : List Nat) (hp : p ∈ (paths[v]?.getD []).map (· ++ [u])) :
    ∃ k', PathOk A src u p k' ∧
      (k' = d + c ∨ (k' < d + c ∧ overCutoff cut k' = false ∧ ∃ c', (v, u, c') ∈ pend ∧ d + c' = k')) := by
  obtain ⟨q, hq, rfl⟩ := List.mem_map.1 hp
  have harc : (v, u, c) ∈ A := R.pendA _ (List.mem_cons_self ..)
  -- the stored paths to `v` cost exactly `d`: a pending cheaper one would use a loop at `v` of negative cost
  obtain ⟨kq, kq', hkq, ⟨hq1, hq2, hq3⟩, hq4⟩ := h v q hq
  have hkd : kq = d := Option.some.inj (hkq.symm.trans (R.distSeen v d R.hv))
  have hkq' : kq' = d := by
    rcases hq4 with e | ⟨hlt, _, c', hc', he⟩
    · exact e.trans hkd
    · have : 0 ≤ c' := (hA _ (R.pendA _ hc')).2
      omega
  -- `walkCost` takes the cheapest parallel arc `m ≤ c`; if `m < c` that arc is still pending
  obtain ⟨m, hm1, hm2, hm3⟩ := minArc_spec harc
  refine ⟨d + m, ⟨?_, List.getLast?_concat, ?_⟩, ?_⟩
  · rw [List.head?_append, hq1]
    rfl
  · rw [walkCost_append_last A u q v hq2, hq3, hm1, hkq']
    rfl
  · rcases Int.lt_or_eq_of_le hm3 with hlt | e
    · have hdm : d + m < d + c := Int.add_lt_add_left hlt d
      have hcm := overCutoff_mono hcut (Int.le_of_lt hdm)
      refine Or.inr ⟨hdm, hcm, m, ?_, rfl⟩
      rcases R.closed v d R.hv u m hm2 with hc | ho | ⟨k2, hk2, hle⟩
      · rcases List.mem_cons.1 hc with e | hc
        · exact absurd (Prod.mk.inj (Prod.mk.inj e).2).2 (Int.ne_of_lt hlt)
        · exact hc
      · rw [hcm] at ho
        cases ho
      · exact absurd (Int.lt_of_le_of_lt (Int.le_trans (hdec k2 hk2) hle) hdm) (Int.lt_irrefl _)
    · exact Or.inl (e ▸ rfl)

variable {st : DState}

theorem PInv.push_lt (hA : ArcsWf A n)
    (R : RowInv A src n cut v d ((v, u, c) :: pend) st.dist st.seen st.fringe)
    (h : PInv A src cut v d ((v, u, c) :: pend) st.seen st.paths)
    (hcut : overCutoff cut (d + c) = false)
    (hlt : ∀ su, lk st.seen u = some su → d + c < su) :
    PInv A src cut v d pend (pushLt true v u (d + c) st).seen (pushLt true v u (d + c) st).paths := by
  have hun : u < st.seen.length := R.lseen ▸ (hA _ (R.pendA _ (List.mem_cons_self ..))).1
  intro x p hp
  simp only [pushLt, if_true] at hp ⊢
  by_cases hx : x = u
  · subst hx
    obtain ⟨k', hpo, h3⟩ := PInv.new_paths hA R h hcut (fun su hs => Int.le_of_lt (hlt su hs)) p
      (mem_getD_set_self hp)
    exact ⟨d + c, k', lk_set_self _ _ _ hun, hpo, h3⟩
  · rw [List.getElem?_set_ne (Ne.symm hx)] at hp
    rw [lk_set_ne _ _ _ _ (Ne.symm hx)]
    exact h.tail hp fun e => absurd e hx

theorem PInv.push_eq (hA : ArcsWf A n)
    (R : RowInv A src n cut v d ((v, u, c) :: pend) st.dist st.seen st.fringe)
    (h : PInv A src cut v d ((v, u, c) :: pend) st.seen st.paths)
    (hcut : overCutoff cut (d + c) = false)
    (hs : lk st.seen u = some (d + c)) :
    PInv A src cut v d pend (pushEq true v u (d + c) st).seen (pushEq true v u (d + c) st).paths := by
  have hle : ∀ k, lk st.seen u = some k → d + c ≤ k := fun k hk =>
    Int.le_of_eq (Option.some.inj (hs.symm.trans hk))
  intro x p hp
  simp only [pushEq, if_true] at hp ⊢
  by_cases hx : x = u
  · subst hx
    rcases List.mem_append.1 (mem_getD_set_self hp) with hp' | hp'
    · exact h.tail hp' fun _ _ k hk => Int.le_of_eq (Option.some.inj (hk.symm.trans hs))
    · obtain ⟨k', hpo, h3⟩ := PInv.new_paths hA R h hcut hle p hp'
      exact ⟨d + c, k', hs, hpo, h3⟩
  · rw [List.getElem?_set_ne (Ne.symm hx)] at hp
    exact h.tail hp fun e => absurd e hx

end row

variable {A : Arcs} {src n : Nat} {weighted : Bool} {cut : Option Int} {firstOnly : Bool} {v : Nat} {d : Int}

theorem PInv.rowStep {withPaths : Bool} (hA : ArcsWf A n) (v : Nat) (d : Int) :
    RowStep A src n cut firstOnly withPaths v d
      (fun pend st => withPaths = true → PInv A src cut v d pend st.seen st.paths) where
  skip R P hs hp := (P hp).skip (hs.arcOk R)
  lt R P ho _ hlt hp := by subst hp; exact (P rfl).push_lt hA R ho hlt
  eq R P ho _ hs _ hp := by subst hp; exact (P rfl).push_eq hA R ho hs

theorem dijkstraLoop_inv {withPaths : Bool} {target : Option Nat} (rows : List (List Adj)) (hA : ArcsWf A n)
    (hrows : RowsOk A weighted rows) (fuel : Nat) (st : DState)
    (I : Inv A src n cut [] st.dist st.seen st.fringe) (P : withPaths = true → PInvB A src st.seen st.paths)
    (hm : st.fringe.length + pendFrom rows 0 st.dist < fuel) :
    ∃ st' pend, dijkstraLoop (fun v => rows[v]?.getD []) weighted target cut firstOnly withPaths fuel st = .ok st' ∧
      Inv A src n cut pend st'.dist st'.seen st'.fringe ∧ (target = none → pend = [] ∧ st'.fringe = []) ∧
      (withPaths = true → PInvB A src st'.seen st'.paths) := by
  obtain ⟨st', pend, e, I', hfin, hP⟩ := dijkstraLoop_run (target := target) rows hA hrows
    (fun st => withPaths = true → PInvB A src st.seen st.paths)
    (fun v d pend st => withPaths = true → PInv A src cut v d pend st.seen st.paths)
    (fun _ _ P => P) (fun _ _ _ _ _ P _ _ _ hp => (P hp).toPInv) (PInv.rowStep hA) (fun _ _ _ _ P hp => (P hp).toPInvB)
    fuel st I P hm
  refine ⟨st', pend, e, I', hfin, hP.elim id ?_⟩
  rintro ⟨st0, _, _, _, _, _, P0, _, _, _, rfl⟩
  exact P0

end Graphrs
