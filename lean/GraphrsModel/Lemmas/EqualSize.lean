/-
  The loop invariant of `bfs_equal_size_partitions` (C20): the part index stays in range, the search for an
  unvisited node succeeds while fewer than n nodes are placed, every placed index is a node position, and every
  queued index is a node position (so `visited[current]` and `successors_vec[current]` are in range).
-/
import GraphrsModel.Lemmas.NoPanic
import GraphrsModel.Model.Components
namespace Graphrs
namespace NP
open Store

structure EqInv (n k M : Nat) (parts : List (List Nat)) (visited : List Bool) (count part : Nat) : Prop where
  plen : parts.length = k
  vlen : visited.length = n
  part_lt : part < k
  later : ∀ j, part < j → j < k → parts[j]? = some []
  cnt : count = part * M + (parts[part]?.getD []).length
  vis : count = visited.count true
  bound : ∀ p ∈ parts, ∀ i ∈ p, i < n

theorem count_set_true {l : List Bool} {i : Nat} (h : l[i]? = some false) :
    (l.set i true).count true = l.count true + 1 := by
  obtain ⟨hlt, hi⟩ := List.getElem?_eq_some_iff.mp h
  rw [List.count_set hlt, hi]
  rfl

theorem count_true_eq_length {l : List Bool} (h : ∀ i, i < l.length → l[i]?.getD true = true) :
    l.count true = l.length := by
  rw [List.count_eq_length]
  intro b hb
  obtain ⟨i, hi⟩ := List.mem_iff_getElem?.mp hb
  have := h i (getElem?_lt hi)
  rw [hi] at this
  exact this.symm

namespace EqInv
variable {n k M : Nat} {parts : List (List Nat)} {visited : List Bool} {count part : Nat}

theorem visit (h : EqInv n k M parts visited count part) {cur : Nat} (hcur : cur < n)
    (hv : visited[cur]? = some false) {p : List Nat} (hp : parts[part]? = some p) :
    EqInv n k M (parts.set part (p ++ [cur])) (visited.set cur true) (count + 1) part ∧
      (parts.set part (p ++ [cur]))[part]? = some (p ++ [cur]) := by
  have hget : (parts.set part (p ++ [cur]))[part]? = some (p ++ [cur]) := List.getElem?_set_self (getElem?_lt hp)
  refine ⟨⟨(List.length_set ..).trans h.plen, (List.length_set ..).trans h.vlen, h.part_lt, ?_, ?_, ?_, ?_⟩, hget⟩
  · intro j hj hjk
    rw [List.getElem?_set_ne (Nat.ne_of_lt hj)]
    exact h.later j hj hjk
  · have := h.cnt
    rw [hp] at this
    rw [hget, this, Option.getD_some, Option.getD_some, List.length_append]
    exact Nat.add_assoc ..
  · rw [count_set_true hv, ← h.vis]
  · intro q hq i hi
    rcases List.mem_or_eq_of_mem_set hq with hq | rfl
    · exact h.bound q hq i hi
    · rcases List.mem_append.mp hi with hi | hi
      · exact h.bound _ (List.mem_of_getElem? hp) i hi
      · exact List.mem_singleton.mp hi ▸ hcur

/-- a full part is followed by an empty one: `count ≤ n < k * M` leaves room -/
theorem next (h : EqInv n k M parts visited count part) (hM : 0 < M) (hnk : n < k * M)
    (hfull : (parts[part]?.getD []).length = M) :
    EqInv n k M parts visited count (part + 1) ∧ (parts[part + 1]?.getD []).length < M := by
  have hcnt : count = (part + 1) * M := by rw [h.cnt, hfull, Nat.add_mul, Nat.one_mul]
  have hcn : count ≤ n := by rw [h.vis, ← h.vlen]; exact List.count_le_length
  have hlt : part + 1 < k :=
    Nat.lt_of_mul_lt_mul_right (hcnt ▸ Nat.lt_of_le_of_lt hcn hnk)
  have hnext := h.later (part + 1) (Nat.lt_succ_self _) hlt
  refine ⟨⟨h.plen, h.vlen, hlt, fun j hj hjk => h.later j (Nat.lt_of_succ_lt hj) hjk, ?_, h.vis, h.bound⟩, ?_⟩
  · rw [hnext]; exact hcnt
  · rw [hnext]; exact hM

end EqInv

theorem eqInner_inv (s : Store) (n k M : Nat) (hsl : s.succVec.length = n)
    (hrow : ∀ (i : Nat) (row : List Adj), s.succVec[i]? = some row → ∀ a ∈ row, a.1 < n) :
    ∀ (fuel : Nat) (parts : List (List Nat)) (visited : List Bool)
    (count : Nat) (queue : List Nat) (part : Nat),
    EqInv n k M parts visited count part → (parts[part]?.getD []).length < M → (∀ q ∈ queue, q < n) →
    ∃ st', eqInner s M fuel ⟨parts, visited, count, queue, part⟩ = some st' ∧
      EqInv n k M st'.parts st'.visited st'.count st'.part ∧ (st'.parts[st'.part]?.getD []).length ≤ M ∧
      (∀ q ∈ st'.queue, q < n) := by
  intro fuel
  induction fuel with
  | zero =>
    intro parts visited count queue part h hlt hq
    exact ⟨_, rfl, h, Nat.le_of_lt hlt, hq⟩
  | succ fuel ih =>
    intro parts visited count queue part h hlt hq
    cases queue with
    | nil => exact ⟨_, rfl, h, Nat.le_of_lt hlt, hq⟩
    | cons cur rest =>
      have hcur : cur < n := hq cur List.mem_cons_self
      have hrest : ∀ q ∈ rest, q < n := fun q hm => hq q (List.mem_cons_of_mem _ hm)
      obtain ⟨b, hb⟩ : ∃ b, visited[cur]? = some b := ⟨_, List.getElem?_eq_getElem (h.vlen ▸ hcur)⟩
      obtain ⟨p, hp⟩ : ∃ p, parts[part]? = some p := ⟨_, List.getElem?_eq_getElem (h.plen ▸ h.part_lt)⟩
      obtain ⟨row, hrw⟩ : ∃ row, s.succVec[cur]? = some row := ⟨_, List.getElem?_eq_getElem (hsl ▸ hcur)⟩
      simp only [eqInner, hb]
      cases b with
      | true => exact ih parts visited count rest part h hlt hrest
      | false =>
        obtain ⟨h', hget⟩ := h.visit hcur hb hp
        rw [hp] at hlt
        simp only [hp, hrw]
        by_cases hfull : ((p ++ [cur]).length == M) = true
        · rw [if_pos hfull]
          exact ⟨_, rfl, h', by rw [hget]; exact Nat.le_of_eq (beq_iff_eq.mp hfull), hrest⟩
        · rw [if_neg hfull]
          refine ih _ _ _ _ _ h' ?_ ?_
          · rw [hget]
            exact Nat.lt_of_le_of_ne (List.length_append ▸ hlt) fun e => hfull (beq_iff_eq.mpr e)
          · intro q hqm
            rcases List.mem_append.mp hqm with hqm | hqm
            · exact hrest q hqm
            · obtain ⟨a, ha, rfl⟩ := List.mem_map.mp hqm
              exact hrow cur _ hrw a ha

theorem eqOuter_inv (s : Store) (n k M : Nat) (hM : 0 < M) (hnk : n < k * M) (hsl : s.succVec.length = n)
    (hrow : ∀ (i : Nat) (row : List Adj), s.succVec[i]? = some row → ∀ a ∈ row, a.1 < n) :
    ∀ (fuel : Nat) (parts : List (List Nat)) (visited : List Bool) (count : Nat) (queue : List Nat) (part : Nat),
    EqInv n k M parts visited count part → (parts[part]?.getD []).length < M → (∀ q ∈ queue, q < n) →
    ∃ st', eqOuter s n M fuel ⟨parts, visited, count, queue, part⟩ = some st' ∧
      ∀ p ∈ st'.parts, ∀ i ∈ p, i < n := by
  intro fuel
  induction fuel with
  | zero =>
    intro parts visited count queue part h hlt hq
    exact ⟨_, rfl, h.bound⟩
  | succ fuel ih =>
    intro parts visited count queue part h hlt hq
    simp only [eqOuter]
    by_cases hc : count ≥ n
    · rw [if_pos hc]; exact ⟨_, rfl, h.bound⟩
    · rw [if_neg hc]
      cases hf : (List.range n).find? (fun i => !(visited[i]?.getD true)) with
      | none =>
        -- all of `visited` is set, so `count = n`
        refine absurd (Nat.le_of_eq ?_) hc
        rw [h.vis, ← h.vlen]
        refine (count_true_eq_length fun i hi => ?_).symm
        have := List.find?_eq_none.mp hf i (List.mem_range.mpr (h.vlen ▸ hi))
        rwa [Bool.not_eq_true, Bool.not_eq_false'] at this
      | some node =>
        have hnode : node < n := List.mem_range.mp (List.mem_of_find?_eq_some hf)
        obtain ⟨st', hst', h', hle, hq'⟩ := eqInner_inv s n k M hsl hrow ((queue ++ [node]).length + s.adjTotal + 2)
          parts visited count (queue ++ [node]) part h hlt (by
            intro q hqm
            rcases List.mem_append.mp hqm with hqm | hqm
            · exact hq q hqm
            · exact List.mem_singleton.mp hqm ▸ hnode)
        obtain ⟨p, hp⟩ : ∃ p, st'.parts[st'.part]? = some p :=
          ⟨_, List.getElem?_eq_getElem (h'.plen ▸ h'.part_lt)⟩
        simp only [hst', hp, Option.map_some]
        by_cases hfull : p.length = M
        · obtain ⟨h2, hlt2⟩ := h'.next hM hnk (by rw [hp]; exact hfull)
          rw [if_pos (by rw [hfull]; exact beq_self_eq_true _)]
          exact ih _ _ _ _ _ h2 hlt2 (fun q hqm => nomatch hqm)
        · rw [if_neg (fun e => hfull (Option.some.inj (beq_iff_eq.mp e)))]
          refine ih _ _ _ _ _ h' ?_ hq'
          rw [hp] at hle ⊢
          exact Nat.lt_of_le_of_ne hle hfull

theorem eqInv_init (n k M : Nat) (hk : 0 < k) :
    EqInv n k M (List.replicate k []) (List.replicate n false) 0 0 := by
  refine ⟨by simp, by simp, hk, ?_, ?_, ?_, ?_⟩
  · intro j _ hjk; simp [hjk]
  · simp [hk]
  · simp [List.count_replicate]
  · intro p hp i hi
    rw [List.eq_of_mem_replicate hp] at hi; cases hi

theorem bfsEqualSizePartitions_noPanic (s : Store) (hn : NodesInv s) (hvec : s.vecOk = true) (k : Nat) (hk : 0 < k) :
    (s.bfsEqualSizePartitions k).isPanic = false := by
  unfold bfsEqualSizePartitions
  rw [if_neg (by simp; omega)]
  simp only
  obtain ⟨st', hst', hb⟩ := eqOuter_inv s s.numberOfNodes k (s.numberOfNodes / k + 1) (Nat.succ_pos _)
    (Nat.lt_mul_div_succ _ hk) hn.succ_len (vec_lt hvec).1 (s.numberOfNodes + 1) _ _ _ [] _
    (eqInv_init s.numberOfNodes k _ hk) (by simp [hk]) (by intro q hq; cases hq)
  rw [hst']
  simp only
  refine C20B.np_of_ok (Outcome.foldl_ok_exists₀ _ st'.parts (fun out part hp => ?_) [])
  show ∃ b, Outcome.bind (part.foldl _ (.ok [])) _ = .ok b
  refine Outcome.bind_exists (Outcome.foldl_ok_exists₀ _ part (fun l i hi => ?_) []) fun names => ⟨_, rfl⟩
  have hi : i < s.nodesVec.length := hb part hp i hi
  have : s.getNodeByIndex i = some s.nodesVec[i] := (hn.rev_eq i).trans (List.getElem?_eq_getElem hi)
  exact ⟨_, by rw [this]; rfl⟩

end NP
end Graphrs
