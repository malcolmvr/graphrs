/-
  Directed weighted clustering: `get_all_directed_triangles` (real instance) in closed form and against the Fagiolo sum
  `Σ_j Σ_k s(v,j) s(j,k) s(k,v)` of Spec/Cluster.lean (`weightedFagioloAtG`).
-/
import GraphrsModel.Lemmas.C11WUndir
import GraphrsModel.Lemmas.C11ModelDir
namespace Graphrs
namespace C11W
open C02 C11aux C11M

noncomputable def indR (l : List Nat) (j : Nat) : ℝ := if j ∈ l then 1 else 0

theorem indR_eq_ind (l : List Nat) (j : Nat) : indR l j = ((ind l j : Nat) : ℝ) := by
  unfold indR ind
  split
  · exact Nat.cast_one.symm
  · exact Nat.cast_zero.symm

theorem indR_mul (L : List Nat) (j : Nat) (x : ℝ) : indR L j * x = if j ∈ L then x else 0 := by
  unfold indR
  split
  · exact one_mul x
  · exact zero_mul x

theorem sum_indR (ns L : List Nat) (hns : ns.Nodup) (hL : L.Nodup) (hsub : ∀ x ∈ L, x ∈ ns) (f : Nat → ℝ) :
    (L.map f).sum = (ns.map fun j => indR L j * f j).sum := by
  simp only [indR_mul]
  exact sum_sublist hns hL hsub f

theorem sum_sinter_indR (ns L1 L2 : List Nat) (hns : ns.Nodup) (h1 : L1.Nodup) (hsub : ∀ x ∈ L1, x ∈ ns) (f : Nat → ℝ) :
    ((sinter L1 L2).map f).sum = (ns.map fun k => indR L1 k * indR L2 k * f k).sum := by
  rw [sinter, sum_filter, sum_indR ns L1 hns h1 hsub]
  refine congrArg List.sum (List.map_congr_left fun k _ => ?_)
  rw [mul_assoc, indR_mul L2]
  simp only [decide_eq_true_eq]

/-- one of the four intersection sums: a cube root of a product of three weights, summed over `A ∩ B`, is the product of
    the cube roots summed over the universe -/
theorem sinter_term (ns A B : List Nat) (hns : ns.Nodup) (hA : A.Nodup) (hsub : ∀ k ∈ A, k ∈ ns) (x : ℝ)
    (wA wB cA cB : Nat → ℝ) (hcA : ∀ k ∈ A, rcbrt (wA k) = cA k) (hcB : ∀ k ∈ B, rcbrt (wB k) = cB k) :
    Store.csumG R ((sinter A B).map fun k => rcbrt (x * wA k * wB k))
      = rcbrt x * (ns.map fun k => indR A k * indR B k * (cA k * cB k)).sum := by
  have e : ((sinter A B).map fun k => rcbrt (x * wA k * wB k)) = (sinter A B).map fun k => rcbrt x * (cA k * cB k) :=
    List.map_congr_left fun k hk => by
      rw [rcbrt_mul, rcbrt_mul, hcA k (List.mem_filter.1 hk).1, hcB k (of_decide_eq_true (List.mem_filter.1 hk).2),
        mul_assoc]
  rw [csumG_real, e, sum_sinter_indR ns A B hns hA hsub, ← List.sum_map_mul_left]
  exact congrArg List.sum (List.map_congr_left fun k _ => mul_left_comm _ _ _)

/-- `ŵ^(1/3)` of the directed arc `u → w` -/
noncomputable def cR (a : Abs) (u w : Nat) : ℝ := rcbrt (wR a true u w)

/-- the symmetrised entry `s(u,w) = [u→w] ŵ_uw^(1/3) + [w→u] ŵ_wu^(1/3)` of the definition -/
noncomputable def sR (a : Abs) (u w : Nat) : ℝ :=
  (if a.arc u w == 1 then cR a u w else 0) + (if a.arc w u == 1 then cR a w u else 0)

theorem ind_beq_one (L : List Nat) (j : Nat) (x : ℝ) : (if (ind L j == 1) = true then x else 0) = indR L j * x := by
  rw [indR_mul]
  unfold ind
  by_cases h : j ∈ L
  · rw [if_pos h, if_pos h]; rfl
  · rw [if_neg h, if_neg h]; rfl

theorem sR_symm (a : Abs) (u w : Nat) : sR a u w = sR a w u := add_comm _ _

noncomputable def wt (s : Store) (u v : Nat) : ℝ := s.normWG R (s.maxWeightG R) u v

section
variable (s : Store) (h : s.wf = true) (hd : s.specs.directed = true) (i : Nat) (hi : s.hasNode i = true)
include h hd hi

theorem sR_left (j : Nat) : sR s.abs i j = indR (mS s i) j * cR s.abs i j + indR (mP s i) j * cR s.abs j i := by
  rw [sR, arc_out s h hd i hi, arc_in s h hd i hi, ind_beq_one, ind_beq_one]

end

/-- the four intersection sums of one iteration of `get_all_directed_triangles` (`ab` is the weight of the arc
    between `i` and `j` the iteration runs over) -/
noncomputable def quad (s : Store) (i j : Nat) (ab : ℝ) : ℝ :=
  Store.csumG R ((sinter (mP s i) (mP s j)).map fun k => rcbrt (ab * wt s k i * wt s k j)) +
  Store.csumG R ((sinter (mP s i) (mS s j)).map fun k => rcbrt (ab * wt s k i * wt s j k)) +
  Store.csumG R ((sinter (mS s i) (mP s j)).map fun k => rcbrt (ab * wt s i k * wt s k j)) +
  Store.csumG R ((sinter (mS s i) (mS s j)).map fun k => rcbrt (ab * wt s i k * wt s j k))

section
variable (s : Store) (h : s.wf = true) (hd : s.specs.directed = true) (i : Nat) (hi : s.hasNode i = true)
include h hd hi

/-- either loop of `get_all_directed_triangles` (`b`: over the predecessors) -/
theorem allDir_ok (b : Bool) :
    s.allDirectedTrianglesG R (s.maxWeightG R) i (mP s i) (mS s i) b
      = .ok (((if b then mP s i else mS s i).map fun j => quad s i j (if b then wt s j i else wt s i j)).sum) := by
  unfold Store.allDirectedTrianglesG
  show List.foldl _ _ (if b then mP s i else mS s i) = _
  rw [Outcome.foldl_ok_pure _ (fun t j => t + quad s i j (if b then wt s j i else wt s i j)), foldl_add_map]
  · exact congrArg Outcome.ok (zero_add _)
  · intro t j hj
    have hj' : s.hasNode j = true := (s.hasNode_names h j).2 (by
      cases b
      · exact mS_names s h hd i hi j hj
      · exact mP_names s h hd i hi j hj)
    simp only [adjWithout_pred s h hd j hj', adjWithout_succ s h hd j hj', bind, Outcome.bind]
    cases b <;> rfl

end

/-- `Σ_k s(j,k) s(k,i)` -/
noncomputable def twoStep (s : Store) (i j : Nat) : ℝ := (s.names.map fun k => sR s.abs j k * sR s.abs k i).sum

section
variable (s : Store) (h : s.wf = true) (hd : s.specs.directed = true) (hm : s.specs.multi = false)
  (hw : PosW s.abs)
include h hd hm hw

theorem wt_arc (u v : Nat) (huv : v ∈ s.abs.succOf u) : rcbrt (wt s u v) = cR s.abs u v := by
  obtain ⟨e, he, h1, h2⟩ := (C11_mem_succOf _ _ _).1 huv
  have := normW_eq s h hm hw u v e he (by rw [Abs.sameKey, h1, h2, beq_self_eq_true, beq_self_eq_true]; rfl)
  rw [wt, this, hd]
  rfl

variable (i : Nat) (hi : s.hasNode i = true)
include hi

theorem wt_succ (k : Nat) (hk : k ∈ mS s i) : rcbrt (wt s i k) = cR s.abs i k :=
  wt_arc s h hd hm hw i k ((mem_mS s h hd i hi k).1 hk).2

theorem wt_pred (k : Nat) (hk : k ∈ mP s i) : rcbrt (wt s k i) = cR s.abs k i :=
  wt_arc s h hd hm hw k i ((mem_mP s h hd i hi k).1 hk).2

theorem quad_eq (j : Nat) (hj : s.hasNode j = true) (x : ℝ) : quad s i j x = rcbrt x * twoStep s i j := by
  have hns := s.names_nodup h
  unfold quad twoStep
  -- as in the unweighted `gj_eq`: four products of two indicators, now carrying the cube roots of the two weights
  rw [sinter_term s.names (mP s i) (mP s j) hns (mP_nodup s i) (mP_names s h hd i hi) x _ _ _ _
      (wt_pred s h hd hm hw i hi) (wt_pred s h hd hm hw j hj),
    sinter_term s.names (mP s i) (mS s j) hns (mP_nodup s i) (mP_names s h hd i hi) x _ _ _ _
      (wt_pred s h hd hm hw i hi) (wt_succ s h hd hm hw j hj),
    sinter_term s.names (mS s i) (mP s j) hns (mS_nodup s i) (mS_names s h hd i hi) x _ _ _ _
      (wt_succ s h hd hm hw i hi) (wt_pred s h hd hm hw j hj),
    sinter_term s.names (mS s i) (mS s j) hns (mS_nodup s i) (mS_names s h hd i hi) x _ _ _ _
      (wt_succ s h hd hm hw i hi) (wt_succ s h hd hm hw j hj),
    ← mul_add, ← mul_add, ← mul_add, ← List.sum_map_add, ← List.sum_map_add, ← List.sum_map_add]
  refine congrArg (rcbrt x * ·) (congrArg List.sum (List.map_congr_left fun k _ => ?_))
  rw [sR_left s h hd j hj k, sR_symm s.abs k i, sR_left s h hd i hi k]
  ring

theorem dir_total :
    ((mP s i).map fun j => quad s i j (wt s j i)).sum + ((mS s i).map fun j => quad s i j (wt s i j)).sum
      = (s.names.flatMap fun j => s.names.map fun k => sR s.abs i j * sR s.abs j k * sR s.abs k i).sum := by
  have hns := s.names_nodup h
  have e1 : ((mP s i).map fun j => quad s i j (wt s j i)) = (mP s i).map fun j => cR s.abs j i * twoStep s i j :=
    List.map_congr_left fun j hj => by
      rw [quad_eq s h hd hm hw i hi j ((s.hasNode_names h j).2 (mP_names s h hd i hi j hj)),
        wt_pred s h hd hm hw i hi j hj]
  have e2 : ((mS s i).map fun j => quad s i j (wt s i j)) = (mS s i).map fun j => cR s.abs i j * twoStep s i j :=
    List.map_congr_left fun j hj => by
      rw [quad_eq s h hd hm hw i hi j ((s.hasNode_names h j).2 (mS_names s h hd i hi j hj)),
        wt_succ s h hd hm hw i hi j hj]
  rw [e1, e2, sum_indR s.names (mP s i) hns (mP_nodup s i) (mP_names s h hd i hi),
    sum_indR s.names (mS s i) hns (mS_nodup s i) (mS_names s h hd i hi), ← List.sum_map_add, sum_flatMap]
  refine congrArg List.sum (List.map_congr_left fun j _ => ?_)
  simp only [mul_assoc]
  rw [List.sum_map_mul_left, sR_left s h hd i hi j, twoStep]
  ring

end

end C11W
end Graphrs
