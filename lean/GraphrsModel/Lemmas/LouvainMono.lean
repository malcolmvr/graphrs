/-
  The modularity of the levels, measured on the input graph, never decreases.

  * The aggregation invariant `AggInv` of a level graph: its edge sums are the edge sums of the level-0 graph after
    mapping every original node to its super-node.  It holds after `convert_graph` and is kept by `generate_graph`.
  * The modularity of the partition `st.part` of ORIGINAL nodes is the potential of the level graph, so one call of
    `compute_one_level` never decreases it (`level_modularity_le`).
  * Along `levelLoop` the modularity `Qlist` (on the edge list of the level-0 graph, with the `m` the loop was given) of
    the partitions appended to the result never decreases, and the first one is at least as good as the partition
    `compute_one_level` started from (`levelLoop_modularity_le`, `lpTailF_modularity_le`).
  * Newman's modularity `Abs.modularitySpec` of the INPUT graph, for a list of communities given by node ranks, is
    `Qlist` over the edge list of the converted graph (`inputModularity_eq`).
-/
import GraphrsModel.Lemmas.LouvainFullLoop
import Mathlib.Data.List.Chain
namespace Graphrs
open LouvainFull
namespace LM

/-- `B` maps every original node `z < n` to the super-node of `lv` that contains it, and every edge sum of the level
    graph is the corresponding edge sum of the level-0 edge list `es0` (for symmetric `f` when undirected: an undirected
    edge is stored in one orientation only) -/
structure AggInv (es0 : List Edge) (n : Nat) (lv : Level) (k : Nat) (B : Nat → Nat) : Prop where
  blk : ∀ z, z < n → B z < k ∧ z ∈ LF.mem lv (B z)
  agg : ∀ f : Nat → Nat → Rat, (lv.g.specs.directed = false → ∀ u v, f u v = f v u) →
      wsum lv.g.allEdges f = wsum es0 (fun u v => f (B u) (B v))
  nonan : NoNaN lv.g.allEdges

theorem mem_part_iff {lv : Level} {n k : Nat} (hg : LF.GoodLevel lv n k) {st : LState} (hs : LF.SInv lv k st)
    {B : Nat → Nat} (hblk : ∀ z, z < n → B z < k ∧ z ∈ LF.mem lv (B z)) (z : Nat) (hz : z < n) (c : Nat) :
    z ∈ (st.part[c]?).getD [] ↔ LT.asg st (B z) = c := by
  obtain ⟨hb1, hb2⟩ := hblk z hz
  rw [hs.part_iff]
  constructor
  · rintro ⟨x, hx, hzx⟩
    have hxk := (hs.n2c_lt x c hx).1
    have : x = B z := hg.mem_disj x (B z) z hxk hb1 hzx hb2
    subst this
    simp [LT.asg, hx]
  · intro ha
    obtain ⟨c', hc'⟩ := hs.n2c_total (B z) hb1
    have : c' = c := by simpa [LT.asg, hc'] using ha
    subst this
    exact ⟨B z, hc', hb2⟩

/-- **the modularity (on the level-0 edge list) of the partition of original nodes a state describes is the
    modularity of its assignment on the level graph** -/
theorem Qlist_part {es0 : List Edge} {n : Nat} (hes0 : ∀ e ∈ es0, e.u < n ∧ e.v < n)
    {lv : Level} {k : Nat} (hg : LF.GoodLevel lv n k) {B : Nat → Nat} (hagg : AggInv es0 n lv k B)
    {st : LState} (hs : LF.SInv lv k st) (m res : Rat) :
    Qlist lv.g.specs.directed es0 m res st.part = Qasg lv.g.specs.directed lv.g.allEdges k m res (LT.asg st) := by
  rw [Qlist_range, hs.part_len]
  unfold Qasg
  apply Finset.sum_congr rfl
  intro c _
  have hmem := fun z hz => mem_part_iff hg hs hagg.blk z hz c
  -- an edge sum over the level-0 graph moves to the level graph when the two integrands agree along `B`
  have tr : ∀ φ ψ : Nat → Nat → Rat, (lv.g.specs.directed = false → ∀ u v, ψ u v = ψ v u) →
      (∀ e ∈ es0, φ e.u e.v = ψ (B e.u) (B e.v)) → wsum es0 φ = wsum lv.g.allEdges ψ := fun φ ψ hsym hφ => by
    rw [hagg.agg ψ hsym]; exact wsum_congr hφ
  have hL : wsum es0 (inL ((st.part[c]?).getD [])) = wsum lv.g.allEdges (indL (LT.asg st) c) :=
    tr (inL ((st.part[c]?).getD [])) (indL (LT.asg st) c) (fun _ => indL_symm _ _) fun e he =>
      if_congr (and_congr (hmem _ (hes0 e he).1) (hmem _ (hes0 e he).2)) rfl rfl
  unfold T
  rw [hL]
  cases hd : lv.g.specs.directed
  · -- undirected: only the symmetric sum `O + I` transfers
    have hD : wsum es0 (inO ((st.part[c]?).getD [])) + wsum es0 (inI ((st.part[c]?).getD []))
        = wsum lv.g.allEdges (indO (LT.asg st) c) + wsum lv.g.allEdges (indI (LT.asg st) c) := by
      rw [← wsum_add, ← wsum_add]
      have := hagg.agg (indD (LT.asg st) c) (fun _ => indD_symm _ _)
      unfold indD at this
      rw [this]
      apply wsum_congr
      intro e he
      unfold inO inI indO indI
      rw [if_congr (hmem _ (hes0 e he).1) rfl rfl, if_congr (hmem _ (hes0 e he).2) rfl rfl]
    unfold term
    simp only [Bool.false_eq_true, if_false]
    rw [hD]
  · have hnosym : lv.g.specs.directed = false → ∀ (f : Nat → Nat → Rat) u v, f u v = f v u := by
      intro h; rw [hd] at h; cases h
    rw [tr (inO ((st.part[c]?).getD [])) (indO (LT.asg st) c) (fun h => hnosym h _) fun e he =>
        if_congr (hmem _ (hes0 e he).1) rfl rfl,
      tr (inI ((st.part[c]?).getD [])) (indI (LT.asg st) c) (fun h => hnosym h _) fun e he =>
        if_congr (hmem _ (hes0 e he).2) rfl rfl]

/-! ### the local-moving loop never decreases the potential -/

theorem progress_potential_le {Φ : (Nat → Nat) → Rat} {k : Nat} {st st' : LState} (h : LT.Progress Φ k st st') :
    Φ (LT.asg st) ≤ Φ (LT.asg st') := by
  rcases h with ⟨_, h⟩ | ⟨_, h⟩
  · rw [h]
  · rcases h with h | ⟨h, _⟩
    · exact le_of_lt h
    · exact le_of_eq h

theorem sweeps_phi {lv : Level} {n k : Nat} (hg : LF.GoodLevel lv n k) (hwf : lv.g.wf = true)
    (hmulti : lv.g.specs.multi = false) {m res : Rat} (hm : 0 < m) (hres : 0 ≤ res)
    {deg0 in0 out0 : List (Nat × Rat)}
    (hnn : ∀ x, 0 ≤ LT.dgOf deg0 x ∧ 0 ≤ LT.dgOf in0 x ∧ 0 ≤ LT.dgOf out0 x) (order : List Nat) (fuel : Nat)
    (st st' : LState) (hs : LF.SInv lv k st) (ht : LT.TInv lv k deg0 in0 out0 st)
    (h : sweeps lv m res order fuel st = .ok (some st')) :
    LF.SInv lv k st' ∧ LT.Phi lv k m res deg0 in0 out0 (LT.asg st) ≤ LT.Phi lv k m res deg0 in0 out0 (LT.asg st') := by
  have := LF.sweeps_inv
    (fun a => LF.SInv lv k a ∧ LT.TInv lv k deg0 in0 out0 a ∧
      LT.Phi lv k m res deg0 in0 out0 (LT.asg st) ≤ LT.Phi lv k m res deg0 in0 out0 (LT.asg a))
    (fun a ha => ⟨ha.1.congr rfl rfl rfl, ⟨ha.2.1.deg_eq, ha.2.1.in_eq, ha.2.1.out_eq, ha.2.1.stotU, ha.2.1.stotD⟩, ha.2.2⟩)
    (fun a b ha hf => by
      obtain ⟨t1, hq⟩ := LT.pass_step hg hwf hmulti hm hres hnn order a b ha.1 ha.2.1 hf
      exact ⟨LF.SInv.pass hg order a b ha.1 hf, t1, le_trans ha.2.2 (progress_potential_le hq)⟩)
    fuel st st' ⟨hs, ht, le_refl _⟩ h
  exact ⟨this.1, this.2.2⟩

/-- **one call of `compute_one_level` never decreases the modularity measured on the level-0 edge list**: the partition
    it returns is at least as good as the partition it was handed (the member blocks of the level graph's nodes) -/
theorem level_modularity_le {es0 : List Edge} {n : Nat} (hes0 : ∀ e ∈ es0, e.u < n ∧ e.v < n)
    {lv : Level} {k : Nat} (hg : LF.GoodLevel lv n k) (hwf : lv.g.wf = true) (hmulti : lv.g.specs.multi = false)
    (hw : LF.EdgesNN lv.g) {B : Nat → Nat} (hagg : AggInv es0 n lv k B)
    {partition : List (List Nat)} (hin : LF.InputOK lv k partition)
    {m res : Rat} (hm : 0 < m) (hres : 0 ≤ res) {perm : List Nat} {fuel : Nat}
    {p i : List (List Nat)} {imp : Bool}
    (h : computeOneLevel lv m res partition perm fuel = .ok (some (p, i, imp))) :
    Qlist lv.g.specs.directed es0 m res partition ≤ Qlist lv.g.specs.directed es0 m res p := by
  obtain ⟨di, o, hdi, hsw, hr⟩ := LF.computeOneLevelW_ok hg hin (LF.computeOneLevel_eq_some.1 h)
  obtain ⟨st, rfl, -, hst⟩ := LF.levelResult_ok hr.symm
  cases hst
  obtain ⟨di', hdi', _, hU, hD, hnn⟩ := LT.degreeInformation_spec lv.g hwf k (fun x hx => (hg.names_iff x).2 hx) hw
  rw [hdi] at hdi'
  cases hdi'
  have hs0 : LF.SInv lv k (LT.initState partition k di) := LF.SInv.init hin di
  obtain ⟨hs1, hle⟩ := sweeps_phi hg hwf hmulti hm hres hnn _ fuel (LT.initState partition k di) st hs0
    (LT.TInv_init lv partition k di hU hD) hsw
  have e0 := Qlist_part hes0 hg hagg hs0 m res
  have e1 := Qlist_part hes0 hg hagg hs1 m res
  rw [← Phi_eq_Qasg hg hwf hagg.nonan m res _ (LT.asg_lt hs0) di hdi] at e0
  rw [← Phi_eq_Qasg hg hwf hagg.nonan m res _ (LT.asg_lt hs1) di hdi] at e1
  rw [Qlist_filter, e1]
  exact e0 ▸ hle

/-! ### the aggregation invariant is kept by `generate_graph` -/

theorem agg_step {es0 : List Edge} {n : Nat} {lv : Level} {k : Nat} (hg : LF.GoodLevel lv n k) (hwf : lv.g.wf = true)
    (hmulti : lv.g.specs.multi = false) {B : Nat → Nat} (hagg : AggInv es0 n lv k B)
    {inner : List (List Nat)} (hin : LF.PartOfRange k inner) {lv' : Level} (h : generateGraph lv inner = .ok lv') :
    lv'.g.specs.directed = lv.g.specs.directed ∧
    ∃ B', AggInv es0 n lv' inner.length B' := by
  obtain ⟨_, _, _, _, hmem'⟩ := LF.generateGraph_good lv n k hg hwf inner hin lv' h
  obtain ⟨hdir, -, hS⟩ := generateGraph_fold hg hwf hmulti hin h
  obtain ⟨hnan', hsum⟩ := hS hagg.nonan
  refine ⟨hdir, fun z => (alookup (LF.n2cOf inner) (B z)).getD 0, ?_, ?_, hnan'⟩
  · intro z hz
    obtain ⟨hb1, hb2⟩ := hagg.blk z hz
    obtain ⟨j, hj, hjl, hxj⟩ := LF.n2cOf_spec hin (B z) hb1
    simp only [hj, Option.getD_some]
    exact ⟨hjl, (hmem' j z hjl).2 ⟨B z, hxj, hb2⟩⟩
  · intro f hf
    have hf' : lv.g.specs.directed = false → ∀ u v, f u v = f v u := fun hd => hf (by rw [hdir]; exact hd)
    rw [hsum f hf']
    exact hagg.agg _ (fun hd u v => hf' hd _ _)

/-! ### the level loop -/

theorem isChain_getElem? {α : Type} {R : α → α → Prop} {l : List α} (h : l.IsChain R) (i : Nat) (a b : α)
    (ha : l[i]? = some a) (hb : l[i + 1]? = some b) : R a b := by
  rw [List.isChain_iff_getElem] at h
  obtain ⟨hi, rfl⟩ := List.getElem?_eq_some_iff.1 hb
  obtain ⟨_, rfl⟩ := List.getElem?_eq_some_iff.1 ha
  exact h i hi

theorem levelLoop_modularity_le (weighted : Bool) (res threshold m : Rat) (perms : List (List Nat)) (sweepFuel n : Nat)
    (es0 : List Edge) (dir : Bool) (hes0 : ∀ e ∈ es0, e.u < n ∧ e.v < n) (hm : 0 < m) (hres : 0 ≤ res)
    (pre : List (List (List Nat))) :
    ∀ (fuel : Nat) (lv : Level) (k : Nat) (partition inner : List (List Nat)) (improvement : Bool) (modularity : Rat)
      (acc levels : List (List (List Nat))) (B : Nat → Nat),
    LF.GoodLevel lv n k → lv.g.wf = true → lv.g.specs.multi = false → LF.EdgesNN lv.g → LF.PI lv k partition inner →
    AggInv es0 n lv k B → lv.g.specs.directed = dir →
    List.IsChain (fun a b => Qlist dir es0 m res a ≤ Qlist dir es0 m res b) (pre ++ acc) →
    (∀ x ∈ (pre ++ acc).getLast?, Qlist dir es0 m res x ≤ Qlist dir es0 m res partition) →
    levelLoop weighted res threshold m perms sweepFuel fuel lv partition inner improvement modularity acc = .ok (some levels) →
    List.IsChain (fun a b => Qlist dir es0 m res a ≤ Qlist dir es0 m res b) (pre ++ levels) := by
  intro fuel
  induction fuel with
  | zero => intro lv k partition inner improvement modularity acc levels B _ _ _ _ _ _ _ _ _ h; cases h
  | succ fuel ih =>
    intro lv k partition inner improvement modularity acc levels B hg hwf hmulti hnn hpi hagg hdir hchain hlast h
    unfold levelLoop at h
    cases improvement with
    | false =>
      simp only [Bool.not_false, if_true] at h
      cases h
      exact hchain
    | true =>
      have hchain' : List.IsChain (fun a b => Qlist dir es0 m res a ≤ Qlist dir es0 m res b)
          (pre ++ (acc ++ [partition])) := by
        rw [← List.append_assoc, List.isChain_append]
        refine ⟨hchain, List.isChain_singleton _, fun x hx y hy => ?_⟩
        cases hy
        exact hlast x hx
      simp only [bind, Bool.not_true, Bool.false_eq_true, if_false] at h
      obtain ⟨omod, -, h⟩ := Outcome.bind_eq_ok.1 h
      cases omod with
      | none => cases h
      | some newMod =>
        simp only at h
        by_cases hth : newMod - modularity ≤ threshold
        · rw [if_pos hth] at h
          cases h
          exact hchain'
        · rw [if_neg hth] at h
          obtain ⟨lv', hgen, h⟩ := Outcome.bind_eq_ok.1 h
          obtain ⟨ores, hcol, h⟩ := Outcome.bind_eq_ok.1 h
          obtain ⟨hwf', hm', _, hg', hmem'⟩ := LF.generateGraph_good lv n k hg hwf inner hpi.inner_part lv' hgen
          rw [hmulti] at hm'
          have hin' : LF.InputOK lv' inner.length partition := hpi.inputOK hmem'
          have hnn' : LF.EdgesNN lv'.g := LF.generateGraph_edgesNN hg hwf hmulti hpi.inner_part hnn hgen
          obtain ⟨hdir', B', hagg'⟩ := agg_step hg hwf hmulti hagg hpi.inner_part hgen
          cases ores with
          | none => cases h
          | some r =>
            obtain ⟨p, i, imp⟩ := r
            have hle := level_modularity_le hes0 hg' hwf' hm' hnn' hagg' hin' hm hres hcol
            rw [hdir'.trans hdir] at hle
            refine ih lv' inner.length p i imp newMod (acc ++ [partition]) levels B' hg' hwf' hm' hnn'
              (LF.computeOneLevel_post hg' hin' hcol).1 hagg' (hdir'.trans hdir) hchain' (fun x hx => ?_) h
            rw [← List.append_assoc, List.getLast?_append] at hx
            cases hx
            exact hle

/-- `louvainPartitions` after `convert_graph`: the chain starts with the all-singletons partition -/
theorem lpTailF_modularity_le (lv : Level) (n : Nat) (hg : LF.GoodLevel lv n n) (hwf : lv.g.wf = true)
    (hmulti : lv.g.specs.multi = false) (hnum : lv.g.numNodes = n) (hmem : ∀ x, LF.mem lv x = [x]) (hnn : LF.EdgesNN lv.g)
    (hnan : NoNaN lv.g.allEdges)
    (weighted : Bool) (res threshold : Rat) (perms : List (List Nat)) (hm : 0 < mOf lv weighted) (hres : 0 ≤ res)
    (F1 F2 : Nat) (levels : List (List (List Nat)))
    (h : lpTailF F1 F2 lv weighted res threshold perms = .ok (some levels)) :
    List.IsChain (fun a b => Qlist lv.g.specs.directed lv.g.allEdges (mOf lv weighted) res a
        ≤ Qlist lv.g.specs.directed lv.g.allEdges (mOf lv weighted) res b)
      (((List.range n).map fun i => [i]) :: levels) := by
  have hin : LF.InputOK lv n ((List.range n).map fun i => [i]) := LF.InputOK.singletons n hmem
  have hes0 := LT.edges_lt hg hwf
  have hagg : AggInv lv.g.allEdges n lv n id := by
    refine ⟨?_, ?_, hnan⟩
    · intro z hz
      exact ⟨hz, by rw [hmem]; exact List.mem_singleton_self z⟩
    · intro f _
      rfl
  unfold lpTailF at h
  simp only [bind, hnum] at h
  obtain ⟨omod, -, h⟩ := Outcome.bind_eq_ok.1 h
  cases omod with
  | none => cases h
  | some mod0 =>
    obtain ⟨ores, hcol, h⟩ := Outcome.bind_eq_ok.1 h
    cases ores with
    | none => cases h
    | some r =>
      obtain ⟨p, i, imp⟩ := r
      have hle := level_modularity_le hes0 hg hwf hmulti hnn hagg hin hm hres hcol
      exact levelLoop_modularity_le weighted res threshold (mOf lv weighted) perms F1 n lv.g.allEdges lv.g.specs.directed
        hes0 hm hres [(List.range n).map fun i => [i]] F2 lv n p i true mod0 [] levels id hg hwf hmulti hnn
        (LF.computeOneLevel_post hg hin hcol).1 hagg rfl (List.isChain_singleton _)
        (fun x hx => by cases hx; exact hle) h

/-! ### `convert_graph` on a single-edge store: the edges, with their endpoints -/

theorem convertGraph_edges_single (s : Store) (h : s.wf = true) (hmulti : s.specs.multi = false) (weighted : Bool) (lv : Level)
    (hc : convertGraph s weighted = .ok lv) :
    lv.g.specs.directed = s.specs.directed ∧
    ∃ E2 : List Edge,
      (if weighted = true then E2 = s.allEdges else E2.Perm (s.allEdges.map fun e => { e with w := some 1 })) ∧
      lv.g.allEdges.Perm (E2.map fun e =>
        (⟨LF.rk (sortNat s.getAllNodeNames) e.u, LF.rk (sortNat s.getAllNodeNames) e.v, e.w, none⟩ : Edge)) := by
  obtain ⟨hdir, E1, E2, h1, h2, hp⟩ := LF.convertGraph_edges s h weighted lv hc
  rw [if_neg (by rw [hmulti]; exact Bool.false_ne_true)] at h1
  subst h1
  exact ⟨hdir, E2, h2, hp⟩

/-- the weight of an input edge as `modularity` counts it -/
def wq (weighted : Bool) (e : Edge) : Rat := if weighted then ratW e.w else 1

/-- every edge sum of the converted graph is a sum over the input edges, endpoints replaced by their ranks -/
theorem conv_wsum (s : Store) (h : s.wf = true) (hmulti : s.specs.multi = false) (weighted : Bool) (lv : Level)
    (hc : convertGraph s weighted = .ok lv) (f : Nat → Nat → Rat) :
    wsum lv.g.allEdges f = (s.allEdges.map fun e => wq weighted e *
      f (LF.rk (sortNat s.getAllNodeNames) e.u) (LF.rk (sortNat s.getAllNodeNames) e.v)).sum := by
  obtain ⟨_, E2, h2, hp⟩ := convertGraph_edges_single s h hmulti weighted lv hc
  rw [wsum_perm hp, wsum_map]
  cases weighted with
  | true =>
    rw [if_pos rfl] at h2
    subst h2
    rfl
  | false =>
    rw [if_neg (by simp)] at h2
    rw [(h2.map _).sum_eq, List.map_map]
    congr 1

theorem conv_nonan (s : Store) (h : s.wf = true) (hmulti : s.specs.multi = false) (weighted : Bool) (lv : Level)
    (hc : convertGraph s weighted = .ok lv) (hnan : weighted = true → NoNaN s.allEdges) : NoNaN lv.g.allEdges := by
  obtain ⟨_, E2, h2, hp⟩ := convertGraph_edges_single s h hmulti weighted lv hc
  intro e he
  obtain ⟨e2, he2, rfl⟩ := List.mem_map.1 (hp.mem_iff.1 he)
  simp only
  cases weighted with
  | true =>
    rw [if_pos rfl] at h2
    subst h2
    exact hnan rfl e2 he2
  | false =>
    rw [if_neg (by simp)] at h2
    obtain ⟨e1, _, rfl⟩ := List.mem_map.1 (h2.mem_iff.1 he2)
    simp

/-! ### ranks and names -/

/-- the names of a list of ranks (as the harness maps a level back to node names) -/
def toNames (sorted : List Nat) (c : List Nat) : List Nat := c.filterMap fun r => sorted[r]?

theorem contains_toNames (sorted : List Nat) (hnd : sorted.Nodup) (c : List Nat) (x : Nat) (hx : x ∈ sorted) :
    (toNames sorted c).contains x = true ↔ LF.rk sorted x ∈ c := by
  rw [List.contains_iff_mem]
  unfold toNames
  rw [List.mem_filterMap]
  constructor
  · rintro ⟨i, hi, hs⟩
    obtain ⟨hlt, hget⟩ := List.getElem?_eq_some_iff.1 hs
    have := LF.rk_of_get hnd i hlt
    rw [hget] at this
    rw [this]; exact hi
  · intro hr
    exact ⟨LF.rk sorted x, hr, by rw [List.getElem?_eq_getElem (LF.rk_lt hx), LF.rk_get hx]⟩

/-- the rank singletons, mapped to names, are the singletons of the sorted names -/
theorem toNames_singletons (l : List Nat) :
    ((List.range l.length).map fun i => [i]).map (toNames l) = l.map fun x => [x] := by
  rw [List.map_map]
  refine List.ext_getElem (by rw [List.length_map, List.length_range, List.length_map]) fun i h1 h2 => ?_
  have hi : i < l.length := by rwa [List.length_map] at h2
  rw [List.getElem_map, List.getElem_map, List.getElem_range]
  show [i].filterMap (fun r => l[r]?) = [l[i]]
  rw [List.filterMap_cons_some (List.getElem?_eq_getElem hi)]
  rfl

/-! ### Newman's formula on the input graph -/

/-- Newman's formula does not depend on the order of the communities -/
theorem modularitySpec_perm (d : Bool) (a : Abs) {P P' : List (List Nat)} (h : P.Perm P') (weighted : Bool) (res : Rat) :
    Abs.modularitySpec d a P weighted res = Abs.modularitySpec d a P' weighted res := by
  unfold Abs.modularitySpec
  cases Abs.sumO (a.edges.map (Abs.wOf weighted)) with
  | none => rfl
  | some m => exact congrArg (fun x => if (m == 0) = true then none else x) (C12W.sumOpt_perm (h.map _))

theorem wOf_wq (weighted : Bool) (e : Edge) (h : weighted = true → e.w ≠ none) :
    Abs.wOf weighted e = some (wq weighted e) := by
  unfold Abs.wOf wq
  cases weighted with
  | false => simp
  | true =>
    simp only [if_true]
    cases hw : e.w with
    | none => exact absurd hw (h rfl)
    | some x => simp [ratW]

theorem sumO_filter (E : List Edge) (weighted : Bool) (hnan : weighted = true → NoNaN E) (p : Edge → Bool) :
    Abs.sumO ((E.filter p).map (Abs.wOf weighted))
      = some ((E.map fun e => if p e = true then wq weighted e else 0).sum) := by
  rw [C09M.sumO_eq, C12W.sumOpt_map_congr_some _ _ (wq weighted) ?_, Bc.sum_filter_ite]
  intro e he
  exact wOf_wq weighted e (fun hw => hnan hw e (List.mem_of_mem_filter he))

theorem wsum_one (es : List Edge) : wsum es (fun _ _ => 1) = (es.map fun e => ratW e.w).sum := by
  unfold wsum
  congr 1
  apply List.map_congr_left
  intro e _
  ring

/-- the `m` of the level loop is the total weight of the input as `modularity` counts it -/
theorem mOf_eq (s : Store) (h : s.wf = true) (hmulti : s.specs.multi = false) (weighted : Bool) (lv : Level)
    (hc : convertGraph s weighted = .ok lv) (hnan : weighted = true → NoNaN s.allEdges) :
    mOf lv weighted = (s.allEdges.map (wq weighted)).sum := by
  unfold mOf
  cases weighted with
  | true =>
    simp only [if_true]
    have : lv.g.sizeWeighted = Abs.sumW lv.g.allEdges := rfl
    rw [this, ratW_sumW _ (conv_nonan s h hmulti true lv hc hnan), ← wsum_one, conv_wsum s h hmulti true lv hc]
    congr 1
    apply List.map_congr_left
    intro e _
    ring
  | false =>
    simp only [Bool.false_eq_true, if_false]
    obtain ⟨_, E2, h2, hp⟩ := convertGraph_edges_single s h hmulti false lv hc
    rw [if_neg (by simp)] at h2
    have hlen : lv.g.sizeUnweighted = s.allEdges.length := by
      show lv.g.allEdges.length = _
      rw [hp.length_eq, List.length_map, h2.length_eq, List.length_map]
    rw [hlen]
    have : ∀ l : List Edge, ((l.length : Nat) : Rat) = (l.map (wq false)).sum := by
      intro l
      induction l with
      | nil => simp
      | cons e l ih =>
        rw [List.length_cons, List.map_cons, List.sum_cons, ← ih]
        simp only [wq, Bool.false_eq_true, if_false]
        push_cast
        ring
    exact this _

theorem conv_ind (s : Store) (h : s.wf = true) (hmulti : s.specs.multi = false) (weighted : Bool) (lv : Level)
    (hc : convertGraph s weighted = .ok lv) (p : Edge → Bool) (Pp : Nat → Nat → Prop) [∀ u v, Decidable (Pp u v)]
    (hp : ∀ e ∈ s.allEdges, p e = true ↔
      Pp (LF.rk (sortNat s.getAllNodeNames) e.u) (LF.rk (sortNat s.getAllNodeNames) e.v)) :
    (s.allEdges.map fun e => if p e = true then wq weighted e else 0).sum
      = wsum lv.g.allEdges (fun u v => if Pp u v then 1 else 0) := by
  rw [conv_wsum s h hmulti weighted lv hc]
  congr 1
  apply List.map_congr_left
  intro e he
  by_cases hh : Pp (LF.rk (sortNat s.getAllNodeNames) e.u) (LF.rk (sortNat s.getAllNodeNames) e.v)
  · rw [if_pos ((hp e he).2 hh), if_pos hh, mul_one]
  · rw [if_neg (fun hc' => hh ((hp e he).1 hc')), if_neg hh, mul_zero]

end LM

/-- **the modularity of a level measured on the input graph**: Newman's formula `Abs.modularitySpec` on the abstract
    graph of the store, for the communities of the level (lists of node ranks) mapped back to node names
    (rank `r` ↦ the `r`-th smallest name, as `convert_graph` numbers the nodes and as the harness maps levels back) -/
def LouvainFull.inputModularity (s : Store) (weighted : Bool) (res : Rat) (P : List (List Nat)) : Option Rat :=
  Abs.modularitySpec s.specs.directed s.abs (P.map (LM.toNames (sortNat s.getAllNodeNames))) weighted res

namespace LM

/-- **Newman's formula on the input graph is `Qlist` on the converted graph** -/
theorem inputModularity_eq (s : Store) (h : s.wf = true) (hmulti : s.specs.multi = false) (weighted : Bool) (lv : Level)
    (hc : convertGraph s weighted = .ok lv) (hnan : weighted = true → NoNaN s.allEdges) (res : Rat)
    (hM : mOf lv weighted ≠ 0) (P : List (List Nat)) :
    inputModularity s weighted res P = some (Qlist s.specs.directed lv.g.allEdges (mOf lv weighted) res P) := by
  obtain ⟨hn, he⟩ := Store.wf_inv h
  have hsnd : (sortNat s.getAllNodeNames).Nodup := (sortNat_perm _).nodup_iff.2 hn.names_nodup
  have hmemS : ∀ x, x ∈ s.names → x ∈ sortNat s.getAllNodeNames := fun x hx => (mem_sortNat x _).2 hx
  have hcu : ∀ (c : List Nat) (e : Edge), e ∈ s.allEdges →
      ((toNames (sortNat s.getAllNodeNames) c).contains e.u = true ↔ LF.rk (sortNat s.getAllNodeNames) e.u ∈ c) :=
    fun c e he' => contains_toNames _ hsnd c e.u (hmemS _ (Store.allEdges_valid he he').1)
  have hcv : ∀ (c : List Nat) (e : Edge), e ∈ s.allEdges →
      ((toNames (sortNat s.getAllNodeNames) c).contains e.v = true ↔ LF.rk (sortNat s.getAllNodeNames) e.v ∈ c) :=
    fun c e he' => contains_toNames _ hsnd c e.v (hmemS _ (Store.allEdges_valid he he').2.1)
  have hmO := mOf_eq s h hmulti weighted lv hc hnan
  have hm0 : Abs.sumO (s.abs.edges.map (Abs.wOf weighted)) = some (mOf lv weighted) := by
    rw [hmO, C09M.sumO_eq]
    exact C12W.sumOpt_map_congr_some _ _ _ (fun e he' => wOf_wq weighted e (fun hw => hnan hw e he'))
  have hbeq : ¬ (mOf lv weighted == 0) = true := fun hc => hM (beq_iff_eq.1 hc)
  unfold inputModularity Abs.modularitySpec
  rw [hm0]
  simp only
  rw [if_neg hbeq, C09M.sumO_eq, List.map_map]
  unfold Qlist
  refine C12W.sumOpt_map_congr_some _ _ _ ?_
  intro c _
  have hE : s.abs.edges = s.allEdges := rfl
  simp only [Function.comp_apply, hE]
  -- the three filtered sums of Newman's term (inside, out of, into `c`) become `wsum` of the rank-membership indicators
  rw [sumO_filter _ weighted hnan, sumO_filter _ weighted hnan, sumO_filter _ weighted hnan]
  rw [conv_ind s h hmulti weighted lv hc _ (fun u v => u ∈ c ∧ v ∈ c) (fun e he' => by
        rw [Bool.and_eq_true, hcu c e he', hcv c e he']),
    conv_ind s h hmulti weighted lv hc _ (fun u _ => u ∈ c) (fun e he' => hcu c e he'),
    conv_ind s h hmulti weighted lv hc _ (fun _ v => v ∈ c) (fun e he' => hcv c e he')]
  cases s.specs.directed <;> rfl

end LM
end Graphrs
