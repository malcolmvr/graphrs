/-
  What `add_edge` does, read off the model function alone (no invariant): the call cut into node creation (`ensure`),
  the adjacency phase and the edge-store phase; the case principle "by the way the call ends"; and what the
  traversal-list helpers `poison` / `adjSucc` / `adjPred` leave alone (`C02.Frame`).  The proofs that `add_edge` keeps the
  clauses of `Store.wf` (Lemmas/AddEdge, C02AdjPreserved, C03Final) all start from these equations.
-/
import GraphrsModel.Lemmas.AList
import GraphrsModel.Lemmas.Keys
namespace Graphrs

namespace C03

/- the `AdjacencyUpdate` that `add_edge` chooses, given whether the pair is `already` stored -/
def updOf (already : Bool) (sp : Specs) : AdjUpd :=
  match already, sp.multi with
  | false, _ => .push
  | true, true => .keepMin
  | true, false => if sp.dedupe == .keepLast then .overwrite else .untouched

end C03

namespace Store
open C03 (updOf)

/-- the node-creation step of `add_edge` for one endpoint -/
def ensure (s : Store) (x : Nat) : Store := if !acontains s.nodesMap x then s.addNode ⟨x, none⟩ else s

/-- `y` recorded as a successor of `x`, by name and by position -/
def noteSucc (s : Store) (x y i j : Nat) : Store :=
  { s with succ := amodify s.succ x [] (sinsert · y), succMap := amodify s.succMap i [] (sinsert · j) }

/-- `x` recorded as a predecessor of `y`, by name and by position -/
def notePred (s : Store) (x y i j : Nat) : Store :=
  { s with pred := amodify s.pred y [] (sinsert · x), predMap := amodify s.predMap j [] (sinsert · i) }

/-- the adjacency part of `add_edge` -/
def adjPhase (sp : Specs) (s : Store) (e : Edge) (ui vi ou ov : Nat) (upd : AdjUpd) : Store :=
  let s := (s.noteSucc e.u e.v ui vi).adjSucc ou ov e.w upd
  if sp.directed then (s.notePred e.u e.v ui vi).adjPred ov ou e.w upd
  else (s.noteSucc e.v e.u vi ui).adjSucc ov ou e.w upd

/-- the edge-store part of `add_edge` -/
def edgePhase (sp : Specs) (s : Store) (ordered : Edge) (ou ov : Nat) : Store :=
  if sp.multi then
    { s with
      edges := amodify s.edges (ordered.u, ordered.v) [] (· ++ [ordered])
      edgesMap := amodify s.edgesMap (ou, ov) [] (· ++ [ordered]) }
  else if (s.edgesByIdx ou ov).isNone then
    { s with
      edges := ainsert s.edges (ordered.u, ordered.v) [ordered]
      edgesMap := ainsert s.edgesMap (ou, ov) [ordered] }
  else if sp.dedupe == .keepLast then
    { s with
      edges := ainsert s.edges (ordered.u, ordered.v) [ordered]
      edgesMap := ainsert s.edgesMap (ou, ov) [ordered] }
  else s

/-- `add_edge` past the self-loop and the missing-node rejection -/
def addEdgeMain (s : Store) (e : Edge) : Store × Option ErrKind :=
  let s2 := (s.ensure e.u).ensure e.v
  match alookup s2.nodesMap e.u, alookup s2.nodesMap e.v with
  | some ui, some vi =>
    let already := (s2.edgesByIdx ui vi).isSome
    if s.specs.dedupe == .error && !s.specs.multi && already then (s2, some .DuplicateEdge)
    else
      let k := idxKey s.specs.directed ui vi
      (edgePhase s.specs (adjPhase s.specs s2 e ui vi k.1 k.2 (updOf already s.specs))
        (Abs.canon s.specs.directed e) k.1 k.2, none)
  | _, _ => (s2.poison "add_edge: nodes_map.get(..).unwrap()", none)

theorem addEdge_eq (s : Store) (e : Edge) :
    s.addEdge e =
      if !s.specs.selfLoops && e.u == e.v then
        match s.specs.slFalse with
        | .error => (s, some .SelfLoopsFound)
        | .drop => (s, none)
      else if s.specs.missing == .error && (!acontains s.nodesMap e.u || !acontains s.nodesMap e.v) then
        (s, some .NodeNotFound)
      else addEdgeMain s e := by
  rfl

theorem addEdge_elim {P : Store × Option ErrKind → Prop} (s : Store) (e : Edge)
    (hloop : (!s.specs.selfLoops && e.u == e.v) = true →
      P (match s.specs.slFalse with | .error => (s, some .SelfLoopsFound) | .drop => (s, none)))
    (hmiss : ¬ (!s.specs.selfLoops && e.u == e.v) = true →
      (s.specs.missing == .error && (!acontains s.nodesMap e.u || !acontains s.nodesMap e.v)) = true →
      P (s, some .NodeNotFound))
    (hmain : ¬ (!s.specs.selfLoops && e.u == e.v) = true →
      ¬ (s.specs.missing == .error && (!acontains s.nodesMap e.u || !acontains s.nodesMap e.v)) = true →
      P (addEdgeMain s e)) : P (s.addEdge e) := by
  rw [addEdge_eq]
  by_cases h1 : (!s.specs.selfLoops && e.u == e.v) = true
  · rw [if_pos h1]; exact hloop h1
  · rw [if_neg h1]
    by_cases h2 : (s.specs.missing == .error && (!acontains s.nodesMap e.u || !acontains s.nodesMap e.v)) = true
    · rw [if_pos h2]; exact hmiss h1 h2
    · rw [if_neg h2]; exact hmain h1 h2

theorem addEdgeMain_of_lookup {s : Store} {e : Edge} {ui vi : Nat}
    (hu : alookup ((s.ensure e.u).ensure e.v).nodesMap e.u = some ui)
    (hv : alookup ((s.ensure e.u).ensure e.v).nodesMap e.v = some vi) :
    addEdgeMain s e =
      if (s.specs.dedupe == .error && !s.specs.multi && (((s.ensure e.u).ensure e.v).edgesByIdx ui vi).isSome) = true
      then ((s.ensure e.u).ensure e.v, some .DuplicateEdge)
      else
        (edgePhase s.specs
          (adjPhase s.specs ((s.ensure e.u).ensure e.v) e ui vi (idxKey s.specs.directed ui vi).1
            (idxKey s.specs.directed ui vi).2 (updOf (((s.ensure e.u).ensure e.v).edgesByIdx ui vi).isSome s.specs))
          (Abs.canon s.specs.directed e) (idxKey s.specs.directed ui vi).1 (idxKey s.specs.directed ui vi).2, none) := by
  unfold addEdgeMain
  simp only [hu, hv]

/-- the main branch when an endpoint has no position: the `unwrap` panics -/
theorem addEdgeMain_of_none {s : Store} {e : Edge}
    (h : alookup ((s.ensure e.u).ensure e.v).nodesMap e.u = none ∨
      alookup ((s.ensure e.u).ensure e.v).nodesMap e.v = none) :
    addEdgeMain s e = (((s.ensure e.u).ensure e.v).poison "add_edge: nodes_map.get(..).unwrap()", none) := by
  unfold addEdgeMain
  rcases h with h | h
  · simp only [h]
  · cases hu : alookup ((s.ensure e.u).ensure e.v).nodesMap e.u <;> simp only [h, hu]

theorem edgesByIdx_eq (s : Store) (i j : Nat) : s.edgesByIdx i j = alookup s.edgesMap (idxKey s.specs.directed i j) := rfl

/-- the list stored for the key of the new edge after the edge-store phase (`none`: the stores stay as they are) -/
def newList (sp : Specs) (old : Option (List Edge)) (ordered : Edge) : Option (List Edge) :=
  if sp.multi || old.isNone then some (old.getD [] ++ [ordered])
  else if sp.dedupe == .keepLast then some [ordered]
  else none

theorem edgePhase_eq (sp : Specs) (s : Store) (o : Edge) (k key : Nat × Nat) (hkey : (o.u, o.v) = key)
    (hk : idxKey s.specs.directed k.1 k.2 = k) (hE : alookup s.edgesMap k = alookup s.edges key) :
    edgePhase sp s o k.1 k.2 =
      match newList sp (alookup s.edges key) o with
      | some L => { s with edges := ainsert s.edges key L, edgesMap := ainsert s.edgesMap k L }
      | none => s := by
  subst hkey
  unfold edgePhase newList amodify
  rw [edgesByIdx_eq, hk, hE]
  cases sp.multi
  · cases alookup s.edges (o.u, o.v)
    · rfl
    · cases sp.dedupe == Dedupe.keepLast <;> rfl
  · rfl

theorem poison_succVec (s : Store) (site : String) : (s.poison site).succVec = s.succVec := by
  unfold poison; split <;> rfl

theorem addEdges_cons (s : Store) (e : Edge) (es : List Edge) :
    s.addEdges (e :: es) =
      match (s.addEdge e).2 with
      | none => (s.addEdge e).1.addEdges es
      | some k => ((s.addEdge e).1, some k) := by
  rw [addEdges]
  rcases s.addEdge e with ⟨s', _ | k⟩ <;> rfl

end Store

namespace C02

/-- `t` differs from `s` at most in the traversal lists and the poison flag: the shape of what
    `poison`, `adjSucc` and `adjPred` do to a store -/
structure Frame (s t : Store) : Prop where
  specs : t.specs = s.specs
  nodesMap : t.nodesMap = s.nodesMap
  nodesMapRev : t.nodesMapRev = s.nodesMapRev
  nodesVec : t.nodesVec = s.nodesVec
  edges : t.edges = s.edges
  edgesMap : t.edgesMap = s.edgesMap
  succ : t.succ = s.succ
  succMap : t.succMap = s.succMap
  pred : t.pred = s.pred
  predMap : t.predMap = s.predMap

theorem Frame.of_vecs (s : Store) (sv pv : List (List Adj)) (p : Option String) :
    Frame s { s with succVec := sv, predVec := pv, poisoned := p } :=
  ⟨rfl, rfl, rfl, rfl, rfl, rfl, rfl, rfl, rfl, rfl⟩

theorem Frame.trans {s t r : Store} (h : Frame s t) (h' : Frame t r) : Frame s r :=
  ⟨h'.specs.trans h.specs, h'.nodesMap.trans h.nodesMap, h'.nodesMapRev.trans h.nodesMapRev,
    h'.nodesVec.trans h.nodesVec, h'.edges.trans h.edges, h'.edgesMap.trans h.edgesMap, h'.succ.trans h.succ,
    h'.succMap.trans h.succMap, h'.pred.trans h.pred, h'.predMap.trans h.predMap⟩

theorem Frame.mapSucc {s t : Store} (h : Frame s t) (f g : List (Nat × List Nat) → List (Nat × List Nat)) :
    Frame { s with succ := f s.succ, succMap := g s.succMap } { t with succ := f t.succ, succMap := g t.succMap } :=
  ⟨h.specs, h.nodesMap, h.nodesMapRev, h.nodesVec, h.edges, h.edgesMap, congrArg f h.succ, congrArg g h.succMap,
    h.pred, h.predMap⟩

theorem Frame.mapPred {s t : Store} (h : Frame s t) (f g : List (Nat × List Nat) → List (Nat × List Nat)) :
    Frame { s with pred := f s.pred, predMap := g s.predMap } { t with pred := f t.pred, predMap := g t.predMap } :=
  ⟨h.specs, h.nodesMap, h.nodesMapRev, h.nodesVec, h.edges, h.edgesMap, h.succ, h.succMap, congrArg f h.pred,
    congrArg g h.predMap⟩

theorem poison_frame (s : Store) (site : String) : Frame s (s.poison site) := by
  unfold Store.poison
  split <;> exact Frame.of_vecs s _ _ _

theorem adjSucc_frame (s : Store) (a b : Nat) (w : W) (u : AdjUpd) : Frame s (s.adjSucc a b w u) := by
  unfold Store.adjSucc
  split
  · exact Frame.of_vecs s _ _ _
  · exact poison_frame _ _

theorem adjPred_frame (s : Store) (a b : Nat) (w : W) (u : AdjUpd) : Frame s (s.adjPred a b w u) := by
  unfold Store.adjPred
  split
  · exact Frame.of_vecs s _ _ _
  · exact poison_frame _ _

@[simp] theorem adjPred_nodesMapRev (s : Store) (a b : Nat) (w : W) (u : AdjUpd) : (s.adjPred a b w u).nodesMapRev = s.nodesMapRev := by
  exact (adjPred_frame s a b w u).nodesMapRev

@[simp] theorem adjPred_succVec (s : Store) (a b : Nat) (w : W) (u : AdjUpd) : (s.adjPred a b w u).succVec = s.succVec := by
  unfold Store.adjPred Store.poison
  split
  · rfl
  · split <;> rfl

end C02

namespace Store

theorem poison_specs (s : Store) (m : String) : (s.poison m).specs = s.specs := (C02.poison_frame s m).specs

theorem addNode_specs (s : Store) (n : Node) : (s.addNode n).specs = s.specs := by
  unfold addNode
  split
  · split
    · rfl
    · exact poison_specs s _
  · rfl

theorem ensure_specs (s : Store) (x : Nat) : (s.ensure x).specs = s.specs := by
  unfold ensure; split
  · exact addNode_specs _ _
  · rfl

theorem edgePhase_specs (sp : Specs) (s : Store) (o : Edge) (ou ov : Nat) :
    (edgePhase sp s o ou ov).specs = s.specs := by
  unfold edgePhase
  cases sp.multi
  · cases (s.edgesByIdx ou ov).isNone
    · cases sp.dedupe == .keepLast <;> rfl
    · rfl
  · rfl

theorem adjPhase_specs (sp : Specs) (s : Store) (e : Edge) (ui vi ou ov : Nat) (upd : AdjUpd) :
    (adjPhase sp s e ui vi ou ov upd).specs = s.specs := by
  unfold adjPhase
  split
  · exact (C02.adjPred_frame ..).specs.trans (C02.adjSucc_frame ..).specs
  · exact (C02.adjSucc_frame ..).specs.trans (C02.adjSucc_frame ..).specs

theorem addEdge_specs (s : Store) (e : Edge) : (s.addEdge e).1.specs = s.specs := by
  refine addEdge_elim (P := fun r => r.1.specs = s.specs) s e (fun _ => by split <;> rfl) (fun _ _ => rfl) fun _ _ => ?_
  have h2 : ((s.ensure e.u).ensure e.v).specs = s.specs := (ensure_specs ..).trans (ensure_specs ..)
  unfold addEdgeMain
  simp only
  split
  · split
    · exact h2
    · exact (edgePhase_specs ..).trans ((adjPhase_specs ..).trans h2)
  · exact (poison_specs ..).trans h2

section
variable {P : Store → Prop}

theorem addNodes_ind (hN : ∀ s n, P s → P (s.addNode n)) (ns : List Node) (s : Store) (h : P s) :
    P (s.addNodes ns) := by
  unfold addNodes
  induction ns generalizing s with
  | nil => exact h
  | cons n ns ih => exact ih _ (hN s n h)

theorem addEdges_ind (es : List Edge) (hE : ∀ s, ∀ e ∈ es, P s → P (s.addEdge e).1) (s : Store) (h : P s) :
    P (s.addEdges es).1 := by
  induction es generalizing s with
  | nil => exact h
  | cons e es ih =>
    have h1 := hE s e List.mem_cons_self h
    rw [addEdges_cons]
    cases (s.addEdge e).2 with
    | none => exact ih (fun s e he => hE s e (List.mem_cons_of_mem _ he)) _ h1
    | some k => exact h1

theorem newFrom_ind (h0 : ∀ sp, P (Store.new sp)) (hN : ∀ s n, P s → P (s.addNode n)) {es : List Edge}
    (hE : ∀ s, ∀ e ∈ es, P s → P (s.addEdge e).1) {sp : Specs} {ns : List Node} {t : Store}
    (ht : Store.newFrom sp ns es = .ok t) : P t := by
  have hall := addEdges_ind es hE _ (addNodes_ind hN ns _ (h0 sp))
  unfold newFrom at ht
  cases hr : ((Store.new sp).addNodes ns).addEdges es with
  | mk s' r =>
    rw [hr] at ht hall
    cases r with
    | none => cases ht; exact hall
    | some k => cases ht

theorem step_ind (h0 : ∀ sp, P (Store.new sp)) (hN : ∀ s n, P s → P (s.addNode n))
    (hE : ∀ s e, P s → P (s.addEdge e).1) (s : Store) (op : Op) (h : P s) : P (s.step op).1 := by
  cases op with
  | addNode n => exact hN s n h
  | addNodes ns => exact addNodes_ind hN ns s h
  | addEdge e => exact hE s e h
  | addEdgeTuple u v => exact hE s _ h
  | addEdges es => exact addEdges_ind es (fun s e _ => hE s e) s h
  | addEdgeTuples es => exact addEdges_ind _ (fun s e _ => hE s e) s h
  | newFrom ns es =>
    show P (match Store.newFrom s.specs ns es with
      | .ok s' => (s', none) | .err k => (s, some k) | .panic site => (s.poison site, none)).1
    cases hr : Store.newFrom s.specs ns es with
    | ok t => exact newFrom_ind h0 hN (fun s e _ => hE s e) hr
    | err k => exact h
    | panic site =>
      -- `newFrom` has no panic outcome
      unfold newFrom at hr
      split at hr <;> cases hr

theorem run_ind (h0 : ∀ sp, P (Store.new sp)) (hN : ∀ s n, P s → P (s.addNode n))
    (hE : ∀ s e, P s → P (s.addEdge e).1) (sp : Specs) (ops : List Op) : P (Store.run sp ops).1 := by
  unfold run
  suffices ∀ (acc : Store × List (Option ErrKind)), P acc.1 →
      P (ops.foldl (fun (acc : Store × List (Option ErrKind)) op =>
        let (s', r) := acc.1.step op
        (s', acc.2 ++ [r])) acc).1 from this _ (h0 sp)
  intro acc
  induction ops generalizing acc with
  | nil => exact id
  | cons op ops ih => exact fun h => ih _ (step_ind h0 hN hE acc.1 op h)

end

end Store
end Graphrs
