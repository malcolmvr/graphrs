/-
  The adjacency-matrix triplets as a `flatMap` over the position-keyed edge store, and the one-to-one correspondence
  between the position-keyed and the name-keyed store.
-/
import GraphrsModel.Lemmas.C02Lists
import GraphrsModel.Lemmas.EdgesOk
import Mathlib.Data.List.Nodup
namespace Graphrs
namespace C09R

/-- the matrix entries of one stored pair with weight `w`: mirrored when undirected and off the diagonal -/
def entries (dir : Bool) (i j : Nat) (w : Int) : List (Nat × Nat × Int) :=
  if !dir && i != j then [(i, j, w), (j, i, w)] else [(i, j, w)]

/-- the weight `get_sparse_adjacency_matrix` takes for a pair: that of its first edge, 1 if it has none -/
def headW : List Edge → Int
  | [] => 1
  | e :: _ => match e.w with | none => 1 | some x => x

/-- the entries one binding of `edges_map` contributes -/
def trip (dir : Bool) (kv : (Nat × Nat) × List Edge) : List (Nat × Nat × Int) :=
  entries dir kv.1.1 kv.1.2 (headW kv.2)

theorem triplets_eq (s : Store) (hm : s.specs.multi = false) (hne : ∀ kv ∈ s.edgesMap, kv.2 ≠ []) :
    s.getAdjacencyTriplets = .ok (s.edgesMap.flatMap (trip s.specs.directed)) := by
  unfold Store.getAdjacencyTriplets
  simp only [hm, Bool.false_eq_true, if_false]
  rw [C02.foldl_ok_append _ (trip s.specs.directed) s.edgesMap []]
  · rfl
  · intro kv hkv acc
    obtain ⟨⟨u, v⟩, l⟩ := kv
    cases l with
    | nil => exact absurd rfl (hne _ hkv)
    | cons e l =>
      obtain ⟨eu, ev, ew, ea⟩ := e
      cases ew <;> (simp only [bind, Outcome.bind, trip, entries, headW]; split <;> simp)

def pos (s : Store) (x : Nat) : Nat := (alookup s.nodesMap x).getD 0

/-- the `edges_map` binding that corresponds to a binding of `edges` -/
def toIdx (s : Store) (kv : (Nat × Nat) × List Edge) : (Nat × Nat) × List Edge :=
  (idxKey s.specs.directed (pos s kv.1.1) (pos s kv.1.2), kv.2)

theorem emap_nonempty {s : Store} (he : s.EdgesInv) : ∀ kv ∈ s.edgesMap, kv.2 ≠ [] := by
  intro kv hkv
  obtain ⟨k, l⟩ := kv
  have hl := AL.mem_lookup he.emap_nodup hkv
  obtain ⟨_, _, _, x, y, _, _, a4⟩ := he.emap_ok k l hl
  exact (he.edges_ok _ l a4).1

theorem emap_perm {s : Store} (hn : s.NodesInv) (he : s.EdgesInv) : s.edgesMap.Perm (s.edges.map (toIdx s)) := by
  -- both lists are duplicate-free, so it is enough that they have the same members
  rw [List.perm_ext_iff_of_nodup (List.Nodup.of_map _ he.emap_nodup)]
  · rintro ⟨k, l⟩
    constructor
    · intro hkl
      have hl := AL.mem_lookup he.emap_nodup hkl
      obtain ⟨_, _, a3, x, y, e1, e2, a4⟩ := he.emap_ok k l hl
      have px : pos s x = k.1 := by simp [pos, (hn.map_iff x k.1).mpr e1]
      have py : pos s y = k.2 := by simp [pos, (hn.map_iff y k.2).mpr e2]
      refine List.mem_map.mpr ⟨(nameKey s.specs.directed x y, l), AL.lookup_mem a4, ?_⟩
      simp only [toIdx]
      rcases idxKey_cases s.specs.directed x y with ⟨hk, _⟩ | ⟨hk, hd, _⟩
      · rw [show nameKey = idxKey from rfl, hk]
        simp only [px, py, idxKey_canon _ k a3]
      · rw [show nameKey = idxKey from rfl, hk]
        simp only [px, py]
        rw [hd, idxKey_symm, ← hd, idxKey_canon _ k a3]
    · intro hkl
      obtain ⟨⟨k', l'⟩, hmem, heq⟩ := List.mem_map.mp hkl
      have hl := AL.mem_lookup he.edges_nodup hmem
      obtain ⟨_, _, _, _, _, _, _, i, j, e1, e2, a8⟩ := he.edges_ok k' l' hl
      simp only [toIdx, pos, e1, e2, Option.getD_some, Prod.mk.injEq] at heq
      obtain ⟨h1, h2⟩ := heq
      subst h1; subst h2
      exact AL.lookup_mem a8
  -- `toIdx` is injective on `edges`: positions determine names (`key_inj`)
  · apply List.Nodup.map_on _ (List.Nodup.of_map _ he.edges_nodup)
    rintro ⟨k, l⟩ hkl ⟨k', l'⟩ hkl' heq
    obtain ⟨_, _, a3, _, _, _, _, i, j, e1, e2, _⟩ := he.edges_ok k l (AL.mem_lookup he.edges_nodup hkl)
    obtain ⟨_, _, a3', _, _, _, _, i', j', e1', e2', _⟩ := he.edges_ok k' l' (AL.mem_lookup he.edges_nodup hkl')
    simp only [toIdx, pos, e1, e2, e1', e2', Option.getD_some, Prod.mk.injEq] at heq
    obtain ⟨h1, h2⟩ := heq
    have := key_inj s.specs.directed (x := k.1) (y := k.2) (u := k'.1) (v := k'.2) (i := i) (j := j) (ui := i') (vi := j')
      ⟨fun e => hn.idx_inj e1 (e ▸ e1'), fun e => hn.idx_inj e1 (e ▸ e2'),
       fun e => hn.idx_inj e2 (e ▸ e1'), fun e => hn.idx_inj e2 (e ▸ e2')⟩ h1
    rw [show nameKey = idxKey from rfl, idxKey_canon _ k a3, idxKey_canon _ k' a3'] at this
    rw [this, h2]


theorem entries_swap_mem (i j : Nat) (w : Int) (t : Nat × Nat × Int) (ht : t ∈ entries false i j w) :
    (t.2.1, t.1, t.2.2) ∈ entries false i j w := by
  simp only [entries, Bool.not_false, Bool.true_and] at ht ⊢
  by_cases hij : i = j
  · subst hij
    simp only [bne_self_eq_false, Bool.false_eq_true, if_false, List.mem_singleton] at ht ⊢
    subst ht; rfl
  · have : (i != j) = true := by simpa using hij
    simp only [this, if_true, List.mem_cons, List.not_mem_nil, or_false] at ht ⊢
    rcases ht with rfl | rfl
    · exact Or.inr rfl
    · exact Or.inl rfl

theorem entries_pos_mem (dir : Bool) (i j : Nat) (w : Int) (p : Nat × Nat)
    (hp : p ∈ (entries dir i j w).map fun t => (t.1, t.2.1)) :
    p = (i, j) ∨ (dir = false ∧ i ≠ j ∧ p = (j, i)) := by
  unfold entries at hp
  split at hp
  · rename_i hc
    simp only [Bool.and_eq_true, Bool.not_eq_true', bne_iff_ne] at hc
    simp only [List.map_cons, List.map_nil, List.mem_cons, List.not_mem_nil, or_false] at hp
    rcases hp with rfl | rfl
    · exact Or.inl rfl
    · exact Or.inr ⟨hc.1, hc.2, rfl⟩
  · simp only [List.map_cons, List.map_nil, List.mem_singleton] at hp
    exact Or.inl hp

theorem entries_pos_nodup (dir : Bool) (i j : Nat) (w : Int) :
    ((entries dir i j w).map fun t => (t.1, t.2.1)).Nodup := by
  unfold entries
  split
  · rename_i hc
    simp only [Bool.and_eq_true, Bool.not_eq_true', bne_iff_ne] at hc
    simp only [List.map_cons, List.map_nil, List.nodup_cons, List.mem_singleton, Prod.mk.injEq, List.not_mem_nil,
      not_false_eq_true, List.nodup_nil, and_true]
    intro hh; exact hc.2 hh.1
  · simp

theorem entries_idxKey_perm (dir : Bool) (i j : Nat) (w : Int) :
    (entries dir (idxKey dir i j).1 (idxKey dir i j).2 w).Perm (entries dir i j w) := by
  rcases idxKey_cases dir i j with ⟨hk, _⟩ | ⟨hk, hd, hlt⟩
  · rw [hk]
  · rw [hk, hd]
    have h1 : (j != i) = true := by simp; omega
    have h2 : (i != j) = true := by simp; omega
    simp only [entries, Bool.not_false, Bool.true_and, h1, h2, if_true]
    exact List.Perm.swap _ _ _

theorem positions_nodup {s : Store} (he : s.EdgesInv) :
    ((s.edgesMap.flatMap (trip s.specs.directed)).map fun t => (t.1, t.2.1)).Nodup := by
  rw [List.map_flatMap, List.nodup_flatMap]
  refine ⟨fun kv _ => entries_pos_nodup _ _ _ _, ?_⟩
  have hnd := he.emap_nodup
  rw [List.Nodup, List.pairwise_map] at hnd
  refine hnd.imp_of_mem ?_
  intro kv kv' hkv hkv' hne
  have c1 := (he.emap_ok kv.1 kv.2 (AL.mem_lookup he.emap_nodup hkv)).2.2.1
  have c2 := (he.emap_ok kv'.1 kv'.2 (AL.mem_lookup he.emap_nodup hkv')).2.2.1
  -- two distinct canonical keys cannot give the same position, even mirrored: canonical means `u ≤ v`
  show List.Disjoint _ _
  intro p hp hp'
  have h1 := entries_pos_mem _ _ _ _ p hp
  have h2 := entries_pos_mem _ _ _ _ p hp'
  obtain ⟨⟨u, v⟩, l⟩ := kv
  obtain ⟨⟨u', v'⟩, l'⟩ := kv'
  simp only [ne_eq, Prod.mk.injEq] at hne h1 h2 c1 c2
  rcases h1 with rfl | ⟨hd, hne1, rfl⟩
  · rcases h2 with h2 | ⟨hd, hne2, h2⟩
    · exact hne (by simpa using h2)
    · rw [hd] at c1 c2
      simp only [Bool.false_eq_true, false_or, Prod.mk.injEq] at c1 c2 h2
      omega
  · rw [hd] at c1 c2
    simp only [Bool.false_eq_true, false_or] at c1 c2
    rcases h2 with h2 | ⟨_, hne2, h2⟩
    · simp only [Prod.mk.injEq] at h2; omega
    · simp only [Prod.mk.injEq] at h2
      exact hne ⟨h2.2, h2.1⟩

end C09R
end Graphrs
