/-
  The Bellman-Ford bound behind `Arcs.distFrom` (Spec/Paths.lean): with non-negative costs and all arc endpoints
  among `n` distinct nodes, `n` rounds of (in-place) relaxation from a source among them yield exactly the
  shortest-walk distances.  `ccSpec` / `bcSpec` run `distFrom arcs n s` without testing `isClosed`; this is the
  justification.

  Proof: (1) after `k` rounds every label is at most the cost of every walk with at most `k` arcs; (2) every label is
  the cost of a walk; (3) every walk can be replaced by a walk with fewer than `n` arcs that is not more expensive
  (cut at the last visit of the source and recurse on the graph without the source).
  Namespace `C06B`: closeness, Bellman-Ford; the relaxation and round lemmas also serve Lemmas/BcGraph.lean.
-/
import GraphrsModel.Lemmas.C06Walk
import GraphrsModel.Lemmas.C04Aux
import GraphrsModel.Lemmas.DijkstraInv
namespace Graphrs
namespace C06B

inductive WalkK (arcs : Arcs) : Nat → Nat → Int → Nat → Prop
  | nil (s : Nat) : WalkK arcs s s 0 0
  | snoc {s u v : Nat} {c w : Int} {k : Nat} : WalkK arcs s u c k → (u, v, w) ∈ arcs → WalkK arcs s v (c + w) (k + 1)

theorem WalkK.toWalk {arcs : Arcs} {s t : Nat} {c : Int} {k : Nat} (h : WalkK arcs s t c k) : Walk arcs s t c := by
  induction h with
  | nil => exact Walk.nil _
  | snoc _ ha ih => exact Walk.snoc ih ha

theorem WalkK.mono {arcs arcs' : Arcs} (hsub : ∀ a ∈ arcs, a ∈ arcs') {s t : Nat} {c : Int} {k : Nat}
    (h : WalkK arcs s t c k) : WalkK arcs' s t c k := by
  induction h with
  | nil => exact WalkK.nil _
  | snoc _ ha ih => exact WalkK.snoc ih (hsub _ ha)

theorem WalkK.cons {arcs : Arcs} {x y b : Nat} {w c : Int} {k : Nat} (ha : (x, y, w) ∈ arcs)
    (hw : WalkK arcs y b c k) : WalkK arcs x b (c + w) (k + 1) := by
  induction hw with
  | nil =>
    have := WalkK.snoc (WalkK.nil (arcs := arcs) x) ha
    simpa using this
  | snoc hw' ha' ih =>
    rename_i u v c' w' k'
    have := WalkK.snoc ih ha'
    have e : c' + w' + w = c' + w + w' := Int.add_right_comm c' w' w
    rw [e]; exact this

def avoid (arcs : Arcs) (s : Nat) : Arcs := arcs.filter fun a => a.1 != s && a.2.1 != s

theorem mem_avoid (arcs : Arcs) (s : Nat) (a : Nat × Nat × Int) :
    a ∈ avoid arcs s ↔ a ∈ arcs ∧ a.1 ≠ s ∧ a.2.1 ≠ s := by
  simp [avoid]

theorem split_last {arcs : Arcs} (hnn : ∀ a ∈ arcs, 0 ≤ a.2.2) {s t : Nat} {c : Int} (h : Walk arcs s t c) :
    t = s ∨ ∃ y w c', y ≠ s ∧ (s, y, w) ∈ arcs ∧ Walk (avoid arcs s) y t c' ∧ w + c' ≤ c := by
  induction h with
  | nil => exact Or.inl rfl
  | snoc hw' ha ih =>
    rename_i u v c w
    by_cases hv : v = s
    · exact Or.inl hv
    · right
      by_cases hu : u = s
      · subst hu
        have h0 := Walk.nonneg hnn hw'
        exact ⟨v, w, 0, hv, ha, Walk.nil _, by rw [Int.add_zero]; exact Int.le_add_of_nonneg_left h0⟩
      · rcases ih with e | ⟨y, w0, c', hy, harc, hwalk, hle⟩
        · exact absurd e hu
        · refine ⟨y, w0, c' + w, hy, harc, Walk.snoc hwalk ?_, by rw [← Int.add_assoc]; exact Int.add_le_add_right hle w⟩
          rw [mem_avoid]
          exact ⟨ha, hu, hv⟩

/-- **every walk can be replaced by one with fewer than `|V|` arcs that costs no more** -/
theorem short_walk : ∀ (m : Nat) (V : List Nat) (arcs : Arcs) (s t : Nat) (c : Int),
    V.length = m → V.Nodup → s ∈ V → (∀ a ∈ arcs, a.1 ∈ V ∧ a.2.1 ∈ V) → (∀ a ∈ arcs, 0 ≤ a.2.2) →
    Walk arcs s t c → ∃ k c', k + 1 ≤ m ∧ c' ≤ c ∧ WalkK arcs s t c' k := by
  intro m
  induction m with
  | zero =>
    intro V arcs s t c hlen _ hs
    have : V = [] := List.eq_nil_of_length_eq_zero hlen
    subst this
    simp at hs
  | succ m ih =>
    intro V arcs s t c hlen hnd hs hend hnn hw
    rcases split_last hnn hw with e | ⟨y, w, c', hy, harc, hwalk, hle⟩
    · subst e
      exact ⟨0, 0, Nat.succ_le_succ (Nat.zero_le m), Walk.nonneg hnn hw, WalkK.nil _⟩
    · have hyV : y ∈ V := (hend _ harc).2
      have hlen' : (V.erase s).length = m := by
        rw [List.length_erase_of_mem hs, hlen]; rfl
      have hend' : ∀ a ∈ avoid arcs s, a.1 ∈ V.erase s ∧ a.2.1 ∈ V.erase s := by
        intro a ha
        rw [mem_avoid] at ha
        exact ⟨(List.mem_erase_of_ne ha.2.1).2 (hend a ha.1).1, (List.mem_erase_of_ne ha.2.2).2 (hend a ha.1).2⟩
      have hnn' : ∀ a ∈ avoid arcs s, 0 ≤ a.2.2 := fun a ha => hnn a ((mem_avoid arcs s a).1 ha).1
      obtain ⟨k, c'', hk, hc, hwk⟩ := ih (V.erase s) (avoid arcs s) y t c' hlen' (hnd.erase s)
        ((List.mem_erase_of_ne hy).2 hyV) hend' hnn' hwalk
      have hwk' : WalkK arcs y t c'' k := hwk.mono (fun a ha => ((mem_avoid arcs s a).1 ha).1)
      exact ⟨k + 1, c'' + w, Nat.succ_le_succ hk,
        Int.le_trans (Int.add_le_add_right hc w) (Int.add_comm w c' ▸ hle), WalkK.cons harc hwk'⟩

theorem relaxStep_cases (d : List (Nat × Int)) (u v : Nat) (w : Int) :
    (relaxStep d (u, v, w) = d ∧ ∀ du, alookup d u = some du → ∃ dv, alookup d v = some dv ∧ dv ≤ du + w) ∨
    ∃ du, alookup d u = some du ∧ relaxStep d (u, v, w) = ainsert d v (du + w) ∧
      ∀ dv, alookup d v = some dv → du + w < dv := by
  unfold relaxStep
  dsimp only
  cases alookup d u with
  | none => exact Or.inl ⟨rfl, fun du h => absurd h (Option.some_ne_none du).symm⟩
  | some du =>
    cases alookup d v with
    | none => exact Or.inr ⟨du, rfl, rfl, fun dv h => absurd h (Option.some_ne_none dv).symm⟩
    | some dv =>
      by_cases hlt : du + w < dv
      · exact Or.inr ⟨du, rfl, if_pos hlt, fun dv' h => Option.some.inj h ▸ hlt⟩
      · exact Or.inl ⟨if_neg hlt, fun du' h => ⟨dv, rfl, Option.some.inj h ▸ Int.not_lt.1 hlt⟩⟩

theorem relaxStep_mono (d : List (Nat × Int)) (arc : Nat × Nat × Int) (t : Nat) (x : Int)
    (h : alookup d t = some x) : ∃ x', alookup (relaxStep d arc) t = some x' ∧ x' ≤ x := by
  obtain ⟨u, v, w⟩ := arc
  rcases relaxStep_cases d u v w with ⟨e, _⟩ | ⟨du, _, e, hlt⟩
  · rw [e]
    exact ⟨x, h, Int.le_refl _⟩
  · rw [e, AL.lookup_insert]
    by_cases hvt : v = t
    · subst hvt
      exact ⟨du + w, if_pos rfl, Int.le_of_lt (hlt x h)⟩
    · exact ⟨x, (if_neg hvt).trans h, Int.le_refl _⟩

theorem foldl_relaxStep_mono (l : Arcs) : ∀ (d : List (Nat × Int)) (t : Nat) (x : Int),
    alookup d t = some x → ∃ x', alookup (l.foldl relaxStep d) t = some x' ∧ x' ≤ x := by
  induction l with
  | nil => intro d t x h; exact ⟨x, h, Int.le_refl _⟩
  | cons a l ih =>
    intro d t x h
    obtain ⟨x1, h1, hle1⟩ := relaxStep_mono d a t x h
    obtain ⟨x2, h2, hle2⟩ := ih _ t x1 h1
    exact ⟨x2, h2, Int.le_trans hle2 hle1⟩

theorem relaxStep_relax (d : List (Nat × Int)) (u v : Nat) (w du : Int) (hu : alookup d u = some du) :
    ∃ x, alookup (relaxStep d (u, v, w)) v = some x ∧ x ≤ du + w := by
  rcases relaxStep_cases d u v w with ⟨e, hcl⟩ | ⟨du', hu', e, _⟩
  · rw [e]
    exact hcl du hu
  · cases Option.some.inj (hu.symm.trans hu')
    rw [e, AL.lookup_insert]
    exact ⟨du + w, if_pos rfl, Int.le_refl _⟩

theorem foldl_relaxStep_relax (l : Arcs) : ∀ (d : List (Nat × Int)) (u v : Nat) (w du : Int),
    (u, v, w) ∈ l → alookup d u = some du →
    ∃ x, alookup (l.foldl relaxStep d) v = some x ∧ x ≤ du + w := by
  induction l with
  | nil => intro d u v w du h; simp at h
  | cons a l ih =>
    intro d u v w du h hu
    rw [List.foldl_cons]
    rw [List.mem_cons] at h
    rcases h with h | h
    · subst h
      obtain ⟨x, hx, hle⟩ := relaxStep_relax d u v w du hu
      obtain ⟨x', hx', hle'⟩ := foldl_relaxStep_mono l _ v x hx
      exact ⟨x', hx', Int.le_trans hle' hle⟩
    · obtain ⟨du', hdu', hle⟩ := relaxStep_mono d a u du hu
      obtain ⟨x, hx, hle'⟩ := ih _ u v w du' h hdu'
      exact ⟨x, hx, Int.le_trans hle' (Int.add_le_add_right hle w)⟩

theorem distFrom_zero (arcs : Arcs) (s : Nat) : Arcs.distFrom arcs 0 s = [(s, 0)] := rfl

theorem distFrom_succ (arcs : Arcs) (k s : Nat) :
    Arcs.distFrom arcs (k + 1) s = arcs.foldl relaxStep (Arcs.distFrom arcs k s) := by
  unfold Arcs.distFrom
  rw [List.range_succ, List.foldl_append]
  rfl

theorem relaxStep_keys_nodup (d : List (Nat × Int)) (arc : Nat × Nat × Int) (h : (d.map (·.1)).Nodup) :
    ((relaxStep d arc).map (·.1)).Nodup := by
  unfold relaxStep
  split
  · exact h
  · split
    · exact AL.nodup_insert h _ _
    · simp only
      split
      · exact AL.nodup_insert h _ _
      · exact h

theorem distFrom_keys_nodup (B : Arcs) (rounds s : Nat) : ((Arcs.distFrom B rounds s).map (·.1)).Nodup := by
  unfold Arcs.distFrom
  apply foldl_const_inv (fun d : List (Nat × Int) => (d.map (·.1)).Nodup)
  · intro d hd
    rw [relaxRound_eq]
    have : ∀ (l : Arcs) (d : List (Nat × Int)), (d.map (·.1)).Nodup → ((l.foldl relaxStep d).map (·.1)).Nodup := by
      intro l
      induction l with
      | nil => intro d hd; exact hd
      | cons a l ih => intro d hd; exact ih _ (relaxStep_keys_nodup d a hd)
    exact this B d hd
  · simp

theorem distFrom_le_walkK (arcs : Arcs) (s : Nat) : ∀ (k j t : Nat) (c : Int), j ≤ k → WalkK arcs s t c j →
    ∃ x, alookup (Arcs.distFrom arcs k s) t = some x ∧ x ≤ c := by
  intro k
  induction k with
  | zero =>
    intro j t c hj hw
    have : j = 0 := Nat.le_zero.1 hj
    subst this
    cases hw
    exact ⟨0, by simp [distFrom_zero, alookup], Int.le_refl _⟩
  | succ k ih =>
    intro j t c hj hw
    rw [distFrom_succ]
    by_cases hjk : j ≤ k
    · obtain ⟨x, hx, hle⟩ := ih j t c hjk hw
      obtain ⟨x', hx', hle'⟩ := foldl_relaxStep_mono arcs _ t x hx
      exact ⟨x', hx', Int.le_trans hle' hle⟩
    · have : j = k + 1 := Nat.le_antisymm hj (Nat.lt_of_not_le hjk)
      subst this
      cases hw with
      | snoc hw' ha =>
        rename_i u c0 w
        obtain ⟨du, hdu, hle⟩ := ih k u c0 (Nat.le_refl _) hw'
        obtain ⟨x, hx, hle'⟩ := foldl_relaxStep_relax arcs _ u t w du ha hdu
        exact ⟨x, hx, Int.le_trans hle' (Int.add_le_add_right hle w)⟩

theorem distFrom_lower (V : List Nat) (arcs : Arcs) (s : Nat) (hnd : V.Nodup) (hs : s ∈ V)
    (hend : ∀ a ∈ arcs, a.1 ∈ V ∧ a.2.1 ∈ V) (hnn : ∀ a ∈ arcs, 0 ≤ a.2.2) (t : Nat) (c : Int) (hw : Walk arcs s t c) :
    ∃ x, alookup (Arcs.distFrom arcs V.length s) t = some x ∧ x ≤ c := by
  obtain ⟨k, c', hk, hc, hwk⟩ := short_walk V.length V arcs s t c rfl hnd hs hend hnn hw
  obtain ⟨x, hx, hle⟩ := distFrom_le_walkK arcs s V.length k t c' (Nat.le_of_succ_le hk) hwk
  exact ⟨x, hx, Int.le_trans hle hc⟩

/-- **`|V|` rounds of relaxation compute exactly the shortest distances** (non-negative costs, all arc endpoints and
    the source among the duplicate-free list `V`) -/
theorem distFrom_exact (V : List Nat) (arcs : Arcs) (s : Nat) (hnd : V.Nodup) (hs : s ∈ V)
    (hend : ∀ a ∈ arcs, a.1 ∈ V ∧ a.2.1 ∈ V) (hnn : ∀ a ∈ arcs, 0 ≤ a.2.2) (t : Nat) (d : Int) :
    alookup (Arcs.distFrom arcs V.length s) t = some d ↔ IsDist arcs s t d :=
  C06T.isDist_iff_of_lower (lab := fun t d => alookup (Arcs.distFrom arcs V.length s) t = some d)
    (fun _ _ _ ha hb => Option.some.inj (ha.symm.trans hb)) (distFrom_witnessed arcs V.length s)
    (distFrom_lower V arcs s hnd hs hend hnn) t d

/-- in particular the labelling is closed under relaxation (what `isClosed` tests at run time) -/
theorem distFrom_closed (V : List Nat) (arcs : Arcs) (s : Nat) (hnd : V.Nodup) (hs : s ∈ V)
    (hend : ∀ a ∈ arcs, a.1 ∈ V ∧ a.2.1 ∈ V) (hnn : ∀ a ∈ arcs, 0 ≤ a.2.2) :
    isClosed arcs (Arcs.distFrom arcs V.length s) = true := by
  unfold isClosed
  rw [List.all_eq_true]
  rintro ⟨u, v, w⟩ ha
  cases hu : alookup (Arcs.distFrom arcs V.length s) u with
  | none => rfl
  | some du =>
    obtain ⟨x, hx, hle⟩ := distFrom_lower V arcs s hnd hs hend hnn v (du + w)
      (Walk.snoc (distFrom_witnessed arcs V.length s u du hu) ha)
    simp only [hx]
    exact decide_eq_true hle

end C06B
end Graphrs
