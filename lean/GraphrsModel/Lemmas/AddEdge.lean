/-
  The closed form of the main branch of `add_edge` on a well-formed store (`MainOutcome`, over the decomposition of
  Lemmas/AddEdgeShape and the no-panic fact of Lemmas/C03Final), from which the preservation of `nodesOk` /
  `edgesOk` and the refinement of the abstract machine are read off.
-/
import GraphrsModel.Lemmas.C03Final
namespace Graphrs

def hasKey (vec : List (List Adj)) (u v : Nat) : Prop := ∃ row, vec[u]? = some row ∧ v ∈ row.map (·.1)

theorem hasKey_lt {vec : List (List Adj)} {u v : Nat} (h : hasKey vec u v) : u < vec.length := by
  obtain ⟨row, hr, _⟩ := h
  exact Store.getElem?_lt hr

namespace Store

open C03 (updOf)

theorem NodesInv.of_adj {s : Store} (h : NodesInv s) {sc scm p pm : List (Nat × List Nat)} {sv pv : List (List Adj)}
    (l1 : sv.length = s.succVec.length) (l2 : pv.length = s.predVec.length) :
    NodesInv { s with succ := sc, succMap := scm, succVec := sv, pred := p, predMap := pm, predVec := pv } :=
  ⟨h.names_nodup, h.map_nodup, h.rev_nodup, h.map_iff, h.rev_eq, l1.trans h.succ_len, l2.trans h.pred_len,
    h.not_poisoned⟩

theorem EdgesInv.of_adj {s : Store} (h : EdgesInv s) {sc scm p pm : List (Nat × List Nat)} {sv pv : List (List Adj)} :
    EdgesInv { s with succ := sc, succMap := scm, succVec := sv, pred := p, predMap := pm, predVec := pv } :=
  ⟨h.edges_nodup, h.emap_nodup, h.edges_ok, h.emap_ok⟩

theorem NodesInv.of_edges {s : Store} (h : NodesInv s) {ed em : List ((Nat × Nat) × List Edge)} :
    NodesInv { s with edges := ed, edgesMap := em } :=
  ⟨h.names_nodup, h.map_nodup, h.rev_nodup, h.map_iff, h.rev_eq, h.succ_len, h.pred_len, h.not_poisoned⟩

theorem ensure_edgesMap (s : Store) (x : Nat) : (s.ensure x).edgesMap = s.edgesMap := by
  unfold ensure; split
  · exact addNode_edgesMap _ _
  · rfl

theorem ensure_nodesInv {s : Store} (h : NodesInv s) (x : Nat) : NodesInv (s.ensure x) := by
  unfold ensure; split
  · exact addNode_nodesInv h _
  · exact h

theorem ensure_names_mono {s : Store} (h : NodesInv s) (x : Nat) {i y : Nat}
    (hy : s.names[i]? = some y) : (s.ensure x).names[i]? = some y := by
  unfold ensure; split
  · exact addNode_names_mono h _ hy
  · exact hy

theorem ensure_edgesInv {s : Store} (hs : NodesInv s) (h : EdgesInv s) (x : Nat) : EdgesInv (s.ensure x) := by
  unfold ensure; split
  · exact addNode_edgesInv hs h _
  · exact h

theorem ensure_of_mem {s : Store} (h : NodesInv s) {x : Nat} (hx : x ∈ s.names) : s.ensure x = s := by
  unfold ensure
  rw [(h.acontains_iff x).mpr hx]; rfl

theorem ensure_mem {s : Store} (h : NodesInv s) (x : Nat) : x ∈ (s.ensure x).names := by
  by_cases hx : x ∈ s.names
  · rwa [ensure_of_mem h hx]
  · unfold ensure
    rw [h.acontains_eq_false hx, if_pos (by rfl), addNode_new_names h ⟨x, none⟩ ((h.lookup_none_iff x).mpr hx)]
    exact List.mem_append_right _ List.mem_cons_self

/-- facts about the state after node creation -/
structure Ensured (s : Store) (e : Edge) (s2 : Store) (ui vi : Nat) : Prop where
  nodes : NodesInv s2
  edges : EdgesInv s2
  specs : s2.specs = s.specs
  hu : alookup s2.nodesMap e.u = some ui
  hv : alookup s2.nodesMap e.v = some vi
  /-- if the position key is already bound, no node was created -/
  old : (s2.edgesByIdx ui vi).isSome = true → s2 = s

theorem ensured {s : Store} (hn : NodesInv s) (he : EdgesInv s) (e : Edge) :
    ∃ ui vi, Ensured s e ((s.ensure e.u).ensure e.v) ui vi := by
  have hn1 := ensure_nodesInv hn e.u
  have hn2 := ensure_nodesInv hn1 e.v
  have hmono : ∀ {i y : Nat}, s.names[i]? = some y → ((s.ensure e.u).ensure e.v).names[i]? = some y :=
    fun h => ensure_names_mono hn1 e.v (ensure_names_mono hn e.u h)
  have hum : e.u ∈ ((s.ensure e.u).ensure e.v).names :=
    have ⟨i, hi⟩ := List.mem_iff_getElem?.mp (ensure_mem hn e.u)
    List.mem_iff_getElem?.mpr ⟨i, ensure_names_mono hn1 e.v hi⟩
  obtain ⟨ui, hu⟩ := (hn2.mem_names_iff _).mp hum
  obtain ⟨vi, hv⟩ := (hn2.mem_names_iff _).mp (ensure_mem hn1 e.v)
  have hem : ((s.ensure e.u).ensure e.v).edgesMap = s.edgesMap := by rw [ensure_edgesMap, ensure_edgesMap]
  have hsp : ((s.ensure e.u).ensure e.v).specs = s.specs := by rw [ensure_specs, ensure_specs]
  refine ⟨ui, vi, hn2, ensure_edgesInv hn1 (ensure_edgesInv hn he e.u) e.v, hsp, hu, hv, fun hsome => ?_⟩
  rw [edgesByIdx_eq, hem, hsp] at hsome
  obtain ⟨l, hl⟩ := Option.isSome_iff_exists.mp hsome
  obtain ⟨_, _, _, x, y, e1, e2, _⟩ := he.emap_ok _ l hl
  -- both positions are old positions, so both names are old names
  have old : ∀ {i z w : Nat}, s.names[i]? = some z → alookup ((s.ensure e.u).ensure e.v).nodesMap w = some i →
      w ∈ s.names := fun h1 h2 =>
    Option.some.inj ((hmono h1).symm.trans ((hn2.map_iff _ _).mp h2)) ▸ List.mem_iff_getElem?.mpr ⟨_, h1⟩
  have hold : e.u ∈ s.names ∧ e.v ∈ s.names := by
    rcases idxKey_cases s.specs.directed ui vi with ⟨hk, _⟩ | ⟨hk, _, _⟩ <;> rw [hk] at e1 e2
    · exact ⟨old e1 hu, old e2 hv⟩
    · exact ⟨old e2 hu, old e1 hv⟩
  rw [ensure_of_mem hn hold.1, ensure_of_mem hn hold.2]

theorem newList_props {sp : Specs} {old : Option (List Edge)} {ordered : Edge} {L : List Edge} {K : Nat × Nat}
    (h : newList sp old ordered = some L) (hold : ∀ l, old = some l → ∀ e ∈ l, (e.u, e.v) = K)
    (hord : (ordered.u, ordered.v) = K) :
    L ≠ [] ∧ (∀ e ∈ L, (e.u, e.v) = K) ∧ (sp.multi = true ∨ L.length = 1) := by
  have single : ([ordered] : List Edge) ≠ [] ∧ (∀ e ∈ [ordered], (e.u, e.v) = K) ∧
      (sp.multi = true ∨ [ordered].length = 1) :=
    ⟨List.cons_ne_nil _ _, fun e he => List.mem_singleton.mp he ▸ hord, Or.inr rfl⟩
  unfold newList at h
  by_cases hm : (sp.multi || old.isNone) = true
  · rw [if_pos hm] at h
    cases h
    refine ⟨List.append_ne_nil_of_right_ne_nil _ (List.cons_ne_nil _ _), fun e he => ?_, ?_⟩
    · rcases List.mem_append.mp he with he | he
      · cases old with
        | none => cases he
        | some l => exact hold l rfl e he
      · exact List.mem_singleton.mp he ▸ hord
    · cases old with
      | none => exact Or.inr rfl
      | some l => exact Or.inl ((Bool.or_false _).symm.trans hm)
  · rw [if_neg hm] at h
    by_cases hk : (sp.dedupe == .keepLast) = true
    · rw [if_pos hk] at h; cases h; exact single
    · rw [if_neg hk] at h; cases h

/-- what the main branch of `add_edge` returns from the state `s2` after node creation: a forbidden
    duplicate is reported from `s2`; otherwise the call succeeds, keeps the node and edge invariants, and stores
    `newList` under the key of `e` -/
def MainOutcome (s : Store) (e : Edge) (s2 : Store) (ui vi : Nat) (res : Store × Option ErrKind) : Prop :=
  if (s.specs.dedupe == .error && !s.specs.multi && (s2.edgesByIdx ui vi).isSome) = true then
    res = (s2, some .DuplicateEdge)
  else
    res.2 = none ∧ NodesInv res.1 ∧ EdgesInv res.1 ∧ res.1.nodesVec = s2.nodesVec ∧
    res.1.edges =
      match newList s.specs (alookup s2.edges (nameKey s.specs.directed e.u e.v)) (Abs.canon s.specs.directed e) with
      | some L => ainsert s2.edges (nameKey s.specs.directed e.u e.v) L
      | none => s2.edges

/-- `add_edge` on a well-formed store, past the two rejections: the endpoints are created (and if a forbidden
    duplicate is then found, that state is the old one, `Ensured.old`) -/
theorem addEdge_main {s : Store} (hw : s.wf = true) (e : Edge)
    (hsl : ¬ ((!s.specs.selfLoops && e.u == e.v) = true)) :
    ∃ s2 ui vi, s2 = (s.ensure e.u).ensure e.v ∧ Ensured s e s2 ui vi ∧ MainOutcome s e s2 ui vi (addEdgeMain s e) := by
  have hsl' : s.specs.selfLoops = true ∨ e.u ≠ e.v := by
    cases h : s.specs.selfLoops with
    | true => exact Or.inl rfl
    | false => exact Or.inr fun heq => hsl (by rw [h, heq, beq_self_eq_true]; rfl)
  obtain ⟨ui, vi, E⟩ := ensured ((wf_iff s).mp hw).1 ((wf_iff s).mp hw).2.1 e
  have hp2 : C03.Pre ((s.ensure e.u).ensure e.v) := C03.pre_ensure _ _ (C03.pre_ensure _ _ (C03.pre_of_wf s hw))
  refine ⟨_, ui, vi, rfl, E, ?_⟩
  unfold addEdgeMain MainOutcome
  generalize (s.ensure e.u).ensure e.v = s2 at E hp2 ⊢
  simp only [E.hu, E.hv]
  by_cases hdup : (s.specs.dedupe == .error && !s.specs.multi && (s2.edgesByIdx ui vi).isSome) = true
  · rw [if_pos hdup, if_pos hdup]
  · rw [if_neg hdup, if_neg hdup, ← E.specs]
    -- the traversal part of the invariant (Lemmas/C03Final) shows that the adjacency phase reaches no panic site
    obtain ⟨sc, scm, sv, p, pm, pv, hform, l1, l2⟩ := C03.adjPhase_form hp2 e E.hu E.hv
    rw [hform]
    have hnt := E.nodes.of_adj (sc := sc) (scm := scm) (p := p) (pm := pm) l1 l2
    have het := E.edges.of_adj (sc := sc) (scm := scm) (p := p) (pm := pm) (sv := sv) (pv := pv)
    rw [edgePhase_eq s2.specs _ _ (idxKey s2.specs.directed ui vi) _ (canon_key _ e) (by exact idxKey_idem _ ui vi)
      (by exact emap_eq_edges hnt het E.hu E.hv)]
    simp only
    cases hL : newList s2.specs (alookup s2.edges (nameKey s2.specs.directed e.u e.v))
        (Abs.canon s2.specs.directed e) with
    | none => exact ⟨trivial, hnt, het, rfl, rfl⟩
    | some L =>
      obtain ⟨p1, p2, p3⟩ := newList_props hL (fun l hl => (E.edges.edges_ok _ l hl).2.1) (canon_key _ e)
      exact ⟨trivial, hnt.of_edges, insert_edgesInv hnt het L E.hu E.hv p1 p2 p3 (E.specs ▸ hsl'), rfl, rfl⟩

/-- `add_edge` keeps the node and the edge invariant (the other two clauses are used for `keepMin`) -/
theorem addEdge_inv {s : Store} (hw : s.wf = true) (e : Edge) :
    NodesInv (s.addEdge e).1 ∧ EdgesInv (s.addEdge e).1 := by
  obtain ⟨hn, he, _⟩ := (wf_iff s).mp hw
  refine addEdge_elim (P := fun r => NodesInv r.1 ∧ EdgesInv r.1) s e (fun _ => by split <;> exact ⟨hn, he⟩)
    (fun _ _ => ⟨hn, he⟩) fun hsl _ => ?_
  obtain ⟨s2, ui, vi, _, E, hmain⟩ := addEdge_main hw e hsl
  unfold MainOutcome at hmain
  split at hmain
  · rw [hmain]; exact ⟨E.nodes, E.edges⟩
  · exact ⟨hmain.2.1, hmain.2.2.1⟩

theorem addEdge_error_unchanged' {s : Store} (hw : s.wf = true) (e : Edge) (k : ErrKind) (herr : (s.addEdge e).2 = some k) : (s.addEdge e).1 = s := by
  revert herr
  refine addEdge_elim (P := fun r => r.2 = some k → r.1 = s) s e (fun _ => by split <;> exact fun _ => rfl)
    (fun _ _ _ => rfl) fun hsl _ herr => ?_
  obtain ⟨s2, ui, vi, _, E, hmain⟩ := addEdge_main hw e hsl
  unfold MainOutcome at hmain
  split at hmain
  · rename_i hd
    rw [hmain]
    exact E.old (Bool.and_eq_true _ _ ▸ hd).2
  · rw [hmain.1] at herr; cases herr

theorem addEdges_specs (s : Store) (es : List Edge) : (s.addEdges es).1.specs = s.specs := by
  induction es generalizing s with
  | nil => rfl
  | cons e es ih =>
    rw [addEdges_cons]
    cases (s.addEdge e).2 with
    | none => exact (ih _).trans (addEdge_specs s e)
    | some k => exact addEdge_specs s e

theorem addNodes_specs (s : Store) (ns : List Node) : (s.addNodes ns).specs = s.specs := by
  unfold addNodes
  induction ns generalizing s with
  | nil => rfl
  | cons n ns ih => rw [List.foldl_cons, ih, addNode_specs]

theorem newFrom_specs {sp : Specs} {ns : List Node} {es : List Edge} {t : Store}
    (h : Store.newFrom sp ns es = .ok t) : t.specs = sp := by
  have h' := addEdges_specs ((Store.new sp).addNodes ns) es
  rw [addNodes_specs] at h'
  unfold newFrom at h
  cases hr : ((Store.new sp).addNodes ns).addEdges es with
  | mk s' r =>
    rw [hr] at h h'
    cases r with
    | none => cases h; exact h'
    | some k => cases h

theorem step_specs (s : Store) (op : Op) : (s.step op).1.specs = s.specs := by
  cases op with
  | addNode n => exact addNode_specs s n
  | addNodes ns => exact addNodes_specs s ns
  | addEdge e => exact addEdge_specs s e
  | addEdgeTuple u v => exact addEdge_specs s _
  | addEdges es => exact addEdges_specs s es
  | addEdgeTuples es => exact addEdges_specs s _
  | newFrom ns es =>
    show (match Store.newFrom s.specs ns es with
      | .ok s' => (s', none) | .err k => (s, some k) | .panic site => (s.poison site, none)).1.specs = s.specs
    cases hr : Store.newFrom s.specs ns es with
    | ok t => exact newFrom_specs hr
    | err k => rfl
    | panic site => exact poison_specs s site

theorem run_specs (sp : Specs) (ops : List Op) : (Store.run sp ops).1.specs = sp := by
  unfold Store.run
  have : ∀ (acc : Store × List (Option ErrKind)),
      (ops.foldl (fun (acc : Store × List (Option ErrKind)) op =>
        let (s', r) := acc.1.step op
        (s', acc.2 ++ [r])) acc).1.specs = acc.1.specs := by
    induction ops with
    | nil => intro acc; rfl
    | cons op ops ih =>
      intro acc
      rw [List.foldl_cons, ih]
      exact step_specs acc.1 op
  exact this _

end Store
end Graphrs
