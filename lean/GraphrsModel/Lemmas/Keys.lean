/-
  The algebra of the keys under which an edge is stored: `nameKey` (by name, in `edges`) and `idxKey` (by position,
  in `edges_map`) are one function, so there is one set of lemmas.
-/
import GraphrsModel.Spec.Inv
namespace Graphrs

theorem AL.keysNodup_iff {κ ν} [DecidableEq κ] (m : List (κ × ν)) : keysNodup m = true ↔ (m.map (·.1)).Nodup :=
  decide_eq_true_iff

theorem nameKey_eq_idxKey : nameKey = idxKey := rfl

theorem idxKey_false (i j : Nat) : idxKey false i j = if j < i then (j, i) else (i, j) := by
  simp only [idxKey, Bool.not_false, Bool.true_and, decide_eq_true_eq, GT.gt]

theorem idxKey_symm (x y : Nat) : idxKey false x y = idxKey false y x := by
  rw [idxKey_false, idxKey_false]
  rcases Nat.lt_trichotomy x y with h | rfl | h
  · rw [if_neg (Nat.lt_asymm h), if_pos h]
  · rfl
  · rw [if_pos h, if_neg (Nat.lt_asymm h)]

theorem nameKey_symm (x y : Nat) : nameKey false x y = nameKey false y x := idxKey_symm x y

theorem idxKey_cases (dir : Bool) (i j : Nat) :
    (idxKey dir i j = (i, j) ∧ (dir = true ∨ i ≤ j)) ∨ (idxKey dir i j = (j, i) ∧ dir = false ∧ j < i) := by
  cases dir
  · rw [idxKey_false]
    split
    · exact Or.inr ⟨rfl, rfl, by assumption⟩
    · exact Or.inl ⟨rfl, Or.inr (Nat.le_of_not_lt (by assumption))⟩
  · exact Or.inl ⟨rfl, Or.inl rfl⟩

theorem idxKey_ind {P : Nat × Nat → Prop} (dir : Bool) (i j : Nat) (h1 : P (i, j))
    (h2 : dir = false → P (j, i)) : P (idxKey dir i j) := by
  rcases idxKey_cases dir i j with ⟨h, _⟩ | ⟨h, hd, _⟩ <;> rw [h]
  · exact h1
  · exact h2 hd

theorem idxKey_ordered (dir : Bool) (i j : Nat) : dir = true ∨ (idxKey dir i j).1 ≤ (idxKey dir i j).2 := by
  rcases idxKey_cases dir i j with ⟨h, h'⟩ | ⟨h, _, h'⟩ <;> rw [h]
  · exact h'
  · exact Or.inr (Nat.le_of_lt h')

theorem idxKey_canon (dir : Bool) (k : Nat × Nat) (h : dir = true ∨ k.1 ≤ k.2) : idxKey dir k.1 k.2 = k := by
  rcases idxKey_cases dir k.1 k.2 with ⟨h', _⟩ | ⟨_, hd, hlt⟩
  · exact h'
  · rcases h with h | h
    · exact absurd (hd ▸ h) Bool.false_ne_true
    · exact absurd hlt (Nat.not_lt.mpr h)

theorem idxKey_eq_iff (dir : Bool) (i j a b : Nat) :
    idxKey dir i j = idxKey dir a b ↔ (i = a ∧ j = b) ∨ (dir = false ∧ i = b ∧ j = a) := by
  constructor
  · intro h
    rcases idxKey_cases dir i j with ⟨h1, _⟩ | ⟨h1, hd, _⟩ <;>
      rcases idxKey_cases dir a b with ⟨h2, _⟩ | ⟨h2, hd', _⟩ <;> rw [h1, h2] at h <;> cases h
    · exact Or.inl ⟨rfl, rfl⟩
    · exact Or.inr ⟨hd', rfl, rfl⟩
    · exact Or.inr ⟨hd, rfl, rfl⟩
    · exact Or.inl ⟨rfl, rfl⟩
  · rintro (⟨rfl, rfl⟩ | ⟨rfl, rfl, rfl⟩)
    · rfl
    · exact idxKey_symm _ _

theorem idxKey_map (dir : Bool) (g : Nat → Option Nat) {i j x y x' y' : Nat} (hi : g i = some x) (hj : g j = some y)
    (h1 : g (idxKey dir i j).1 = some x') (h2 : g (idxKey dir i j).2 = some y') :
    idxKey dir x' y' = idxKey dir x y := by
  rcases idxKey_cases dir i j with ⟨h, _⟩ | ⟨h, hd, _⟩ <;> rw [h] at h1 h2
  · cases hi.symm.trans h1
    cases hj.symm.trans h2
    rfl
  · cases hj.symm.trans h1
    cases hi.symm.trans h2
    rw [hd, idxKey_symm]

/-- the key correspondence: if the positions `i`, `j` can only coincide with `ui`, `vi` where the names `x`, `y`
    coincide with `u`, `v` (`hinj`: the name-to-position map is injective on the four names), equal position keys
    mean equal name keys -/
theorem key_inj (dir : Bool) {x y u v i j ui vi : Nat}
    (hinj : (i = ui → x = u) ∧ (i = vi → x = v) ∧ (j = ui → y = u) ∧ (j = vi → y = v))
    (h : idxKey dir i j = idxKey dir ui vi) : nameKey dir x y = nameKey dir u v := by
  obtain ⟨h1, h2, h3, h4⟩ := hinj
  rw [nameKey_eq_idxKey, idxKey_eq_iff]
  rcases (idxKey_eq_iff ..).mp h with ⟨a, b⟩ | ⟨hd, a, b⟩
  · exact Or.inl ⟨h1 a, h4 b⟩
  · exact Or.inr ⟨hd, h2 a, h3 b⟩

theorem sameKey_iff_nameKey (dir : Bool) (e : Edge) (u v : Nat) (hc : dir = true ∨ e.u ≤ e.v) :
    Abs.sameKey dir e u v = true ↔ (e.u, e.v) = nameKey dir u v := by
  rw [← idxKey_canon dir (e.u, e.v) hc, nameKey_eq_idxKey, idxKey_eq_iff]
  cases dir <;> simp [Abs.sameKey]

theorem canon_key (dir : Bool) (e : Edge) :
    ((Abs.canon dir e).u, (Abs.canon dir e).v) = nameKey dir e.u e.v := by
  cases dir
  · rw [nameKey_eq_idxKey, idxKey_false]
    unfold Abs.canon Edge.ordered
    by_cases h : e.v < e.u
    · rw [if_pos h, if_pos h]; rfl
    · rw [if_neg h, if_neg h]; rfl
  · rfl

theorem idxKey_eq_nameKey (d : Bool) (i j : Nat) : idxKey d i j = nameKey d i j := rfl

theorem nameKey_true (x y : Nat) : nameKey true x y = (x, y) := rfl

theorem nameKey_of_canon {d : Bool} {x y : Nat} (h : d = true ∨ x ≤ y) : nameKey d x y = (x, y) :=
  idxKey_canon d (x, y) h

theorem nameKey_cases (d : Bool) (x y : Nat) :
    nameKey d x y = (x, y) ∨ (d = false ∧ nameKey d x y = (y, x)) := by
  rcases idxKey_cases d x y with ⟨h, _⟩ | ⟨h, hd, _⟩
  · exact .inl h
  · exact .inr ⟨hd, h⟩

theorem nameKey_eq_iff (d : Bool) (x y u v : Nat) :
    nameKey d x y = nameKey d u v ↔ (x = u ∧ y = v) ∨ (d = false ∧ x = v ∧ y = u) := idxKey_eq_iff d x y u v

theorem idxKey_idem (d : Bool) (i j : Nat) : idxKey d (idxKey d i j).1 (idxKey d i j).2 = idxKey d i j :=
  idxKey_canon d _ (idxKey_ordered d i j)

theorem canon_w (dir : Bool) (e : Edge) : (Abs.canon dir e).w = e.w := by
  unfold Abs.canon Edge.ordered
  split
  · rfl
  · split <;> rfl

end Graphrs
