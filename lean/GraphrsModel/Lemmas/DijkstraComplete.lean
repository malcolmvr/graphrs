/-
  Completeness of the path lists of `dijkstra` (strictly positive costs, no cutoff, `first_only = false`):
  the closure invariant "for a finalised `v'` and a tight arc `v' → u` (`dist v' + m = seen u`) every stored path of `v'`
  extended by `u` is stored for `u`", and from it: at termination every shortest path is stored.
-/
import GraphrsModel.Lemmas.DijkstraPaths
import GraphrsModel.Lemmas.DijkstraRun
import GraphrsModel.Props.C04
namespace Graphrs

variable {A : Arcs} {src n : Nat} {weighted : Bool}

section row
variable {v : Nat} {d : Int} {pend : Arcs} {dist seen seen' : List (Option Int)}
  {paths paths' : List (List (List Nat))} {u : Nat} {c : Int}

/-- a strictly cheaper parallel arc into `u` is still pending: the list of `u` is provisional -/
def Tmp (v : Nat) (d : Int) (pend : Arcs) (seen : List (Option Int)) (u : Nat) : Prop :=
  ∃ k c', lk seen u = some k ∧ (v, u, c') ∈ pend ∧ d + c' < k

namespace Tmp

theorem nil : ¬ Tmp v d [] seen u := by
  rintro ⟨_, _, _, h, _⟩
  cases h

theorem tail {x : Nat} (h : Tmp v d ((v, u, c) :: pend) seen x)
    (hu : x = u → ∀ k, lk seen u = some k → k ≤ d + c) : Tmp v d pend seen x := by
  obtain ⟨k, c', hk, hm, hlt⟩ := h
  rcases List.mem_cons.1 hm with e | hm
  · cases e
    exact absurd (hu rfl k hk) (Int.not_le.2 hlt)
  · exact ⟨k, c', hk, hm, hlt⟩

theorem other {x : Nat} (h : Tmp v d ((v, u, c) :: pend) seen x) (hx : x ≠ u) (hs : lk seen' x = lk seen x) :
    Tmp v d pend seen' x := by
  obtain ⟨k, c', hk, hm, hlt⟩ := h
  rcases List.mem_cons.1 hm with e | hm
  · cases e
    exact absurd rfl hx
  · exact ⟨k, c', hs ▸ hk, hm, hlt⟩

end Tmp

/-- inside the row of `v` (finalised with label `d`): `clos` - for a finalised `v'` and a tight arc `v' → u`
    (`dist v' + m = seen u`) every stored path of `v'` extended by `u` is stored for `u`, unless the arc is still
    pending or the list of `u` is provisional (`Tmp`) -/
structure CInv (A : Arcs) (src n v : Nat) (d : Int) (pend : Arcs) (dist seen : List (Option Int))
    (paths : List (List (List Nat))) : Prop where
  plen : paths.length = n
  src0 : [src] ∈ pth paths src
  clos : ∀ v' dv' u m, lk dist v' = some dv' → (v', u, m) ∈ A → lk seen u = some (dv' + m) →
    (v', u, m) ∈ pend ∨ Tmp v d pend seen u ∨ ∀ q ∈ pth paths v', q ++ [u] ∈ pth paths u

structure CInvB (A : Arcs) (src n : Nat) (dist seen : List (Option Int)) (paths : List (List (List Nat))) : Prop where
  plen : paths.length = n
  src0 : [src] ∈ pth paths src
  clos : ∀ v' dv' u m, lk dist v' = some dv' → (v', u, m) ∈ A → lk seen u = some (dv' + m) →
    ∀ q ∈ pth paths v', q ++ [u] ∈ pth paths u

namespace CInvB

theorem init (A : Arcs) (src n : Nat) (hsrc : src < n) (seen : List (Option Int)) :
    CInvB A src n (List.replicate n none) seen ((List.replicate n []).set src [[src]]) where
  plen := by simp
  src0 := by rw [pth_set_self _ (by simpa using hsrc)]; simp
  clos := by intro v' dv' u m h; rw [lk_replicate_none] at h; cases h

theorem enter (C : CInvB A src n dist seen paths) (v : Nat) (d : Int) (pend : Arcs)
    (hp1 : ∀ x w, (v, x, w) ∈ A → (v, x, w) ∈ pend) :
    CInv A src n v d pend (dist.set v (some d)) seen paths where
  plen := C.plen
  src0 := C.src0
  clos := by
    intro v' dv' u m hd ha hs
    by_cases e : v = v'
    · subst e; exact Or.inl (hp1 u m ha)
    · rw [lk_set_ne _ _ _ _ e] at hd
      exact Or.inr (Or.inr (C.clos v' dv' u m hd ha hs))

end CInvB

namespace CInv

theorem exit (C : CInv A src n v d [] dist seen paths) : CInvB A src n dist seen paths where
  plen := C.plen
  src0 := C.src0
  clos := by
    intro v' dv' u m hd ha hs
    rcases C.clos v' dv' u m hd ha hs with h | h | h
    · cases h
    · exact absurd h Tmp.nil
    · exact h

theorem skip {su : Int} (C : CInv A src n v d ((v, u, c) :: pend) dist seen paths) (hv : lk dist v = some d)
    (hs : lk seen u = some su) (hlt : su < d + c) : CInv A src n v d pend dist seen paths where
  plen := C.plen
  src0 := C.src0
  clos := by
    have hk : ∀ k, lk seen u = some k → k ≤ d + c := fun k hk => by
      rw [hs] at hk
      cases hk
      exact Int.le_of_lt hlt
    intro v' dv' u' m hd ha hs'
    rcases C.clos v' dv' u' m hd ha hs' with h | h | h
    · rcases List.mem_cons.1 h with e | h
      · cases e
        rw [hv] at hd
        cases hd
        cases hs.symm.trans hs'
        exact absurd hlt (Int.lt_irrefl _)
      · exact Or.inl h
    · exact Or.inr (Or.inl (h.tail fun _ => hk))
    · exact Or.inr (Or.inr h)

/-- a push at the unfinalised node `u`: labels and path lists of the other nodes stay; what is asked of `u` is `hu` -/
theorem push (C : CInv A src n v d ((v, u, c) :: pend) dist seen paths) (hd : lk dist u = none)
    (hs : ∀ x, x ≠ u → lk seen' x = lk seen x) (hp : ∀ x, x ≠ u → pth paths' x = pth paths x)
    (hlen : paths'.length = n) (hsrc : [src] ∈ pth paths' src)
    (hu : ∀ v' dv' m, lk dist v' = some dv' → (v', u, m) ∈ A → lk seen' u = some (dv' + m) →
      (v', u, m) ∈ pend ∨ Tmp v d pend seen' u ∨ ∀ q ∈ pth paths v', q ++ [u] ∈ pth paths' u) :
    CInv A src n v d pend dist seen' paths' where
  plen := hlen
  src0 := hsrc
  clos := by
    intro v' dv' u' m hd' ha hs'
    have hv' : v' ≠ u := fun e => by rw [e, hd] at hd'; cases hd'
    rw [hp v' hv']
    by_cases hu' : u' = u
    · subst hu'
      exact hu v' dv' m hd' ha hs'
    · rw [hs u' hu'] at hs'
      rcases C.clos v' dv' u' m hd' ha hs' with h | h | h
      · rcases List.mem_cons.1 h with e | h
        · cases e
          exact absurd rfl hu'
        · exact Or.inl h
      · exact Or.inr (Or.inl (h.other hu' (hs u' hu')))
      · exact Or.inr (Or.inr (by rw [hp u' hu']; exact h))

end CInv

end row

section push
variable {v : Nat} {d : Int} {pend : Arcs} {dist seen : List (Option Int)} {fr : List FNode}
  {paths : List (List (List Nat))} {u : Nat} {c : Int}

namespace CInv

theorem push_lt (hA : ArcsWf A n) (R : RowInv A src n none v d ((v, u, c) :: pend) dist seen fr)
    (C : CInv A src n v d ((v, u, c) :: pend) dist seen paths)
    (hd : lk dist u = none) (hlt : ∀ su, lk seen u = some su → d + c < su) :
    CInv A src n v d pend dist (seen.set u (some (d + c))) (paths.set u ((pth paths v).map (· ++ [u]))) := by
  have hun : u < n := (hA _ (R.pendA _ (List.mem_cons_self ..))).1
  have hvu : v ≠ u := fun e => by rw [← e, R.hv] at hd; cases hd
  refine C.push hd (fun x hx => lk_set_ne _ _ _ _ (Ne.symm hx)) (fun x hx => pth_set_ne _ (Ne.symm hx))
    ((List.length_set ..).trans C.plen) ?_ ?_
  · -- a strict improvement never hits the source, whose label is at most 0
    have : u ≠ src := by
      intro e
      obtain ⟨k, hk, hle⟩ := R.srcOk
      have h1 := hlt k (e ▸ hk)
      have h2 : 0 ≤ d := Walk.nonneg (fun a ha => (hA a ha).2) (R.distWalk v d R.hv)
      have h3 : 0 ≤ c := (hA _ (R.pendA _ (List.mem_cons_self ..))).2
      omega
    rw [pth_set_ne _ this]
    exact C.src0
  · intro v' dv' m hd' ha hs'
    rw [lk_set_self _ _ _ (R.lseen.symm ▸ hun)] at hs'
    by_cases hv : v' = v
    · subst hv
      refine Or.inr (Or.inr fun q hq => ?_)
      rw [pth_set_self _ (C.plen.symm ▸ hun)]
      exact List.mem_map.2 ⟨q, hq, rfl⟩
    · -- an arc from another finalised `v'` has been relaxed against the old, larger label: it cannot be tight for the new
      rcases R.closed v' dv' hd' u m ha with h | h | ⟨k, hk, hle⟩
      · exact absurd (R.pendSrc _ h) hv
      · cases h
      · have h1 := hlt k hk
        have h2 : d + c = dv' + m := Option.some.inj hs'
        omega

theorem push_eq (hA : ArcsWf A n) (R : RowInv A src n none v d ((v, u, c) :: pend) dist seen fr)
    (C : CInv A src n v d ((v, u, c) :: pend) dist seen paths)
    (hd : lk dist u = none) (hs : lk seen u = some (d + c)) :
    CInv A src n v d pend dist seen (paths.set u (pth paths u ++ (pth paths v).map (· ++ [u]))) := by
  have hup : u < paths.length := C.plen.symm ▸ (hA _ (R.pendA _ (List.mem_cons_self ..))).1
  have hmono : ∀ p ∈ pth paths u, p ∈ pth (paths.set u (pth paths u ++ (pth paths v).map (· ++ [u]))) u :=
    fun p hp => by rw [pth_set_self _ hup]; exact List.mem_append_left _ hp
  refine C.push hd (fun _ _ => rfl) (fun x hx => pth_set_ne _ (Ne.symm hx)) ((List.length_set ..).trans C.plen) ?_ ?_
  · by_cases e : u = src
    · exact e ▸ hmono _ (e ▸ C.src0)
    · rw [pth_set_ne _ e]
      exact C.src0
  · intro v' dv' m hd' ha hs'
    rcases C.clos v' dv' u m hd' ha hs' with h | h | h
    · rcases List.mem_cons.1 h with e | h
      · cases e
        refine Or.inr (Or.inr fun q hq => ?_)
        rw [pth_set_self _ hup]
        exact List.mem_append_right _ (List.mem_map.2 ⟨q, hq, rfl⟩)
      · exact Or.inl h
    · refine Or.inr (Or.inl (h.tail fun _ k hk => ?_))
      rw [hs] at hk
      cases hk
      exact Int.le_refl _
    · exact Or.inr (Or.inr fun q hq => hmono _ (h q hq))

end CInv

end push

namespace CInv

theorem rowStep (hA : ArcsWf A n) (hpos : ∀ a ∈ A, 0 < a.2.2) (v : Nat) (d : Int) :
    RowStep A src n none false true v d (fun pend st => CInv A src n v d pend st.dist st.seen st.paths) where
  skip R C h := by
    obtain ⟨su, hs, hlt⟩ := h.lt_of_pos hpos R
    exact C.skip R.hv hs hlt
  lt R C _ hd hlt := C.push_lt hA R hd hlt
  eq R C _ hd hs _ := C.push_eq hA R hd hs

end CInv

theorem dijkstraLoop_complete
    (rows : List (List Adj)) (hA : ArcsWf A n) (hpos : ∀ a ∈ A, 0 < a.2.2)
    (hrows : RowsOk A weighted rows) (fuel : Nat) (st st' : DState)
    (I : Inv A src n none [] st.dist st.seen st.fringe)
    (C : CInvB A src n st.dist st.seen st.paths) (hm : st.fringe.length + pendFrom rows 0 st.dist < fuel)
    (h : dijkstraLoop (fun v => rows[v]?.getD []) weighted none none false true fuel st = .ok st') :
    CInvB A src n st'.dist st'.seen st'.paths := by
  obtain ⟨st'', _, e, _, _, hJ⟩ := dijkstraLoop_run (target := none) rows hA hrows
    (fun st => CInvB A src n st.dist st.seen st.paths)
    (fun v d pend st => CInv A src n v d pend st.dist st.seen st.paths)
    (fun st b J => J)
    (fun st d cnt v _ J _ _ _ => J.enter v d _ (hrows.sub v))
    (CInv.rowStep hA hpos)
    (fun v d st _ J => J.exit)
    fuel st I C hm
  cases e.symm.trans h
  rcases hJ with hJ | ⟨_, _, _, _, ht, _⟩
  · exact hJ
  · cases ht

/-- by induction on the length of the path -/
theorem complete_final_aux {dist seen : List (Option Int)} {paths : List (List (List Nat))}
    (hA : ArcsWf A n) (I : Inv A src n none [] dist seen []) (C : CInvB A src n dist seen paths) :
    ∀ (k : Nat) (p : List Nat), p.length = k → ∀ (t : Nat) (d : Int), p.head? = some src → p.getLast? = some t →
      Arcs.walkCost A p = some d → IsDist A src t d → p ∈ pth paths t := by
  have hex := fun t d => I.final_exact hA rfl t d
  intro k
  induction k with
  | zero =>
    intro p hk t d hh
    rw [List.eq_nil_of_length_eq_zero hk] at hh
    cases hh
  | succ k ih =>
    intro p hk t d hh hl hc hd
    rcases List.eq_nil_or_concat p with e | ⟨q, u, e⟩
    · rw [e] at hh; cases hh
    rw [List.concat_eq_append] at e
    subst e
    have hut : u = t := by simpa using hl
    subst hut
    have hqk : q.length = k := by simpa using hk
    cases hq : q.getLast? with
    | none =>
      rw [List.getLast?_eq_none_iff.1 hq] at hh ⊢
      cases hh
      exact C.src0
    | some v =>
      have hqh : q.head? = some src := by
        cases q with
        | nil => cases hq
        | cons a q' => exact hh
      rw [walkCost_append_last A u q v hq] at hc
      cases hx : Arcs.walkCost A q with
      | none => rw [hx] at hc; cases hc
      | some x =>
        cases hm : minArc A v u with
        | none => rw [hx, hm] at hc; cases hc
        | some b =>
          rw [hx, hm] at hc
          have hc' : x + b = d := Option.some.inj hc
          have harc := (minArc_some hm).1
          obtain ⟨dv, hdv, hle⟩ := I.final_lower hA v x (walkCost_walk' hx hqh hq) rfl
          have hdv' := ((hex v dv).1 hdv).1
          have h1 := hd.2 _ (Walk.snoc hdv'.1 harc)
          -- the prefix `q` is itself shortest (`dist v ≤ x` and `x + b = d ≤ dist v + b`), so the arc `(v, u, b)` is
          -- tight and the closure clause stores `q ++ [u]`
          have exv : dv = x := Int.le_antisymm hle (Int.le_of_add_le_add_right (hc' ▸ h1))
          subst exv
          have hsu : lk seen u = some (dv + b) := by
            rw [I.distSeen u d ((hex u d).2 ⟨hd, rfl⟩), hc']
          exact C.clos v dv u b hdv harc hsu q (ih q hqk v dv hqh hq hx hdv')

theorem complete_final {dist seen : List (Option Int)} {paths : List (List (List Nat))}
    (hA : ArcsWf A n) (I : Inv A src n none [] dist seen []) (C : CInvB A src n dist seen paths)
    {p : List Nat} {t : Nat} {d : Int} (hh : p.head? = some src) (hl : p.getLast? = some t)
    (hc : Arcs.walkCost A p = some d) (hd : IsDist A src t d) : p ∈ pth paths t :=
  complete_final_aux hA I C p.length p rfl t d hh hl hc hd

end Graphrs
