/-
  What the model functions of `dijkstra` do, without any graph hypothesis: the outcomes of one relaxation
  (`relaxFull`, `relaxBasic`) in terms of the two pushes `pushLt` / `pushEq`, the iterations of the two loops,
  and an invariant of `foldExcept`.
-/
import GraphrsModel.Lemmas.DijkstraInv
namespace Graphrs

theorem foldExcept_ok_inv {α β ε} {f : β → α → Except ε β} (J : β → Prop) (l : List α)
    (hstep : ∀ b, ∀ a ∈ l, ∀ b', J b → f b a = .ok b' → J b') :
    ∀ b b', J b → foldExcept f b l = .ok b' → J b' := by
  induction l with
  | nil => intro b b' hb h; cases h; exact hb
  | cons a l ih =>
    intro b b' hb h
    rw [foldExcept] at h
    cases h1 : f b a with
    | error e => rw [h1] at h; cases h
    | ok b1 =>
      rw [h1] at h
      exact ih (fun b c hc => hstep b c (List.mem_cons_of_mem _ hc)) b1 b'
        (hstep b a (List.mem_cons_self ..) b1 hb h1) h

/-- the state after a strict improvement of `seen[u]` -/
def pushLt (withPaths : Bool) (v u : Nat) (vu : Int) (st : DState) : DState :=
  { dist := st.dist, seen := st.seen.set u (some vu), fringe := (vu, st.count + 1, u) :: st.fringe,
    count := st.count + 1,
    paths := if withPaths then st.paths.set u ((st.paths[v]?.getD []).map (· ++ [u])) else st.paths }

/-- the state after a tie -/
def pushEq (withPaths : Bool) (v u : Nat) (vu : Int) (st : DState) : DState :=
  { dist := st.dist, seen := st.seen, fringe := (vu, st.count + 1, u) :: st.fringe,
    count := st.count + 1,
    paths := if withPaths then st.paths.set u ((st.paths[u]?.getD []) ++ (st.paths[v]?.getD []).map (· ++ [u]))
             else st.paths }

theorem seen_cases (o : Option Int) (x : Int) :
    (∀ su, o = some su → x < su) ∨ o = some x ∨ ∃ su, o = some su ∧ su < x := by
  cases o with
  | none => exact Or.inl fun _ h => nomatch h
  | some su =>
    rcases Int.lt_trichotomy x su with h | h | h
    · exact Or.inl fun _ e => Option.some.inj e ▸ h
    · exact Or.inr (Or.inl (h ▸ rfl))
    · exact Or.inr (Or.inr ⟨su, rfl, h⟩)

section relax
variable {weighted : Bool} {cut : Option Int} {firstOnly withPaths : Bool} {v : Nat} {d : Int} {st : DState}
  {u : Nat} {w : W}

theorem relaxFull_none (hc : (if weighted then w else some 1) = none) :
    relaxFull weighted cut firstOnly withPaths v d st (u, w) = .ok st := by
  unfold relaxFull
  simp only [hc]

theorem relaxFull_over {c : Int} (hc : (if weighted then w else some 1) = some c)
    (ho : overCutoff cut (d + c) = true) :
    relaxFull weighted cut firstOnly withPaths v d st (u, w) = .ok st := by
  unfold relaxFull
  simp only [hc, ho, if_true]

theorem relaxFull_finalised {c du : Int} (hc : (if weighted then w else some 1) = some c)
    (ho : overCutoff cut (d + c) = false) (hd : lk st.dist u = some du) (hle : du ≤ d + c) :
    relaxFull weighted cut firstOnly withPaths v d st (u, w) = .ok st := by
  unfold relaxFull
  unfold lk at hd
  simp only [hc, ho, hd, Bool.false_eq_true, if_false, if_neg (Int.not_lt.2 hle)]

theorem relaxFull_contradictory {c du : Int} (hc : (if weighted then w else some 1) = some c)
    (ho : overCutoff cut (d + c) = false) (hd : lk st.dist u = some du) (hlt : d + c < du) :
    relaxFull weighted cut firstOnly withPaths v d st (u, w) = .error .ContradictoryPaths := by
  unfold relaxFull
  unfold lk at hd
  simp only [hc, ho, hd, Bool.false_eq_true, if_false, if_pos hlt]

theorem relaxFull_lt {c : Int} (hc : (if weighted then w else some 1) = some c)
    (ho : overCutoff cut (d + c) = false) (hd : lk st.dist u = none)
    (h : ∀ su, lk st.seen u = some su → d + c < su) :
    relaxFull weighted cut firstOnly withPaths v d st (u, w) = .ok (pushLt withPaths v u (d + c) st) := by
  unfold relaxFull pushLt
  unfold lk at hd h
  simp only [hc, ho, hd]
  cases hs : st.seen[u]?.join with
  | none => cases withPaths <;> rfl
  | some su => cases withPaths <;> simp only [h su hs, decide_true, if_true] <;> rfl

theorem relaxFull_eq {c : Int} (hc : (if weighted then w else some 1) = some c)
    (ho : overCutoff cut (d + c) = false) (hd : lk st.dist u = none)
    (h : lk st.seen u = some (d + c)) (hf : firstOnly = false) :
    relaxFull weighted cut firstOnly withPaths v d st (u, w) = .ok (pushEq withPaths v u (d + c) st) := by
  unfold relaxFull pushEq
  unfold lk at hd h
  subst hf
  simp only [hc, ho, hd, h, Int.lt_irrefl, decide_false, Bool.false_eq_true, if_false, Bool.not_false,
    BEq.rfl, Bool.and_self, if_true]
  cases withPaths <;> rfl

theorem relaxFull_skip {c su : Int} (hc : (if weighted then w else some 1) = some c)
    (ho : overCutoff cut (d + c) = false) (hd : lk st.dist u = none)
    (h : lk st.seen u = some su) (hle : su ≤ d + c) (hf : firstOnly = true ∨ su < d + c) :
    relaxFull weighted cut firstOnly withPaths v d st (u, w) = .ok st := by
  unfold relaxFull
  unfold lk at hd h
  have h2 : (!firstOnly && some su == some (d + c)) = false := by
    rcases hf with hf | hf
    · rw [hf]; rfl
    · rw [Bool.and_eq_false_iff]
      exact Or.inr (beq_false_of_ne fun e => Int.ne_of_lt hf (Option.some.inj e))
  simp only [hc, ho, hd, h, h2, decide_eq_false (Int.not_lt.2 hle), Bool.false_eq_true, if_false]

theorem relaxBasic_none (hc : (if weighted then w else some 1) = none) :
    relaxBasic weighted d st (u, w) = st := by
  unfold relaxBasic
  simp only [hc]

/-- `dijkstra_basic` pushes as `dijkstra` does without paths -/
theorem relaxBasic_lt {c : Int} (hc : (if weighted then w else some 1) = some c)
    (h : ∀ su, lk st.seen u = some su → d + c < su) :
    relaxBasic weighted d st (u, w) = pushLt false v u (d + c) st := by
  unfold relaxBasic
  unfold lk at h
  simp only [hc]
  cases hs : st.seen[u]?.join with
  | none => rfl
  | some su => simp only [h su hs, decide_true, if_true]; rfl

theorem relaxBasic_eq {c : Int} (hc : (if weighted then w else some 1) = some c)
    (h : lk st.seen u = some (d + c)) :
    relaxBasic weighted d st (u, w) = pushEq false v u (d + c) st := by
  unfold relaxBasic
  unfold lk at h
  simp only [hc, h, Int.lt_irrefl, decide_false, Bool.false_eq_true, if_false, BEq.rfl, if_true]
  rfl

theorem relaxBasic_gt {c su : Int} (hc : (if weighted then w else some 1) = some c)
    (h : lk st.seen u = some su) (hgt : su < d + c) :
    relaxBasic weighted d st (u, w) = st := by
  unfold relaxBasic
  unfold lk at h
  simp only [hc, h, decide_eq_false (Int.not_lt.2 (Int.le_of_lt hgt)),
    beq_false_of_ne fun e => Int.ne_of_lt hgt (Option.some.inj e), Bool.false_eq_true, if_false]

end relax

/-- `relaxFull` on states with these `dist` and `seen` is `r`, whatever the path table and `with_paths` -/
def RelaxIs (weighted : Bool) (cut : Option Int) (firstOnly : Bool) (v : Nat) (d : Int) (dist seen : List (Option Int))
    (a : Adj) (r : Bool → DState → Except ErrKind DState) : Prop :=
  ∀ wp st, st.dist = dist → st.seen = seen → relaxFull weighted cut firstOnly wp v d st a = r wp st

/-- why a relaxation over the arc `v → u` of cost `c` leaves the state as it is: over the cutoff, `u` finalised, or the
    label of `u` not improved (with `first_only`, not even tied) -/
def Skipped (cut : Option Int) (firstOnly : Bool) (d : Int) (dist seen : List (Option Int)) (u : Nat) (c : Int) : Prop :=
  overCutoff cut (d + c) = true ∨ (∃ du, lk dist u = some du ∧ du ≤ d + c) ∨
  (lk dist u = none ∧ ∃ su, lk seen u = some su ∧ su ≤ d + c ∧ (firstOnly = true ∨ su < d + c))

theorem relaxFull_outcome (weighted : Bool) (cut : Option Int) (firstOnly : Bool) (v : Nat) (d : Int)
    (dist seen : List (Option Int)) (u : Nat) (w : W) :
    ((if weighted then w else some 1) = none ∧
      RelaxIs weighted cut firstOnly v d dist seen (u, w) (fun _ st => .ok st)) ∨
    ∃ c, (if weighted then w else some 1) = some c ∧
      ((Skipped cut firstOnly d dist seen u c ∧
          RelaxIs weighted cut firstOnly v d dist seen (u, w) (fun _ st => .ok st)) ∨
       ((∃ du, lk dist u = some du ∧ d + c < du) ∧
          RelaxIs weighted cut firstOnly v d dist seen (u, w) (fun _ _ => .error .ContradictoryPaths)) ∨
       (overCutoff cut (d + c) = false ∧ lk dist u = none ∧ (∀ su, lk seen u = some su → d + c < su) ∧
          RelaxIs weighted cut firstOnly v d dist seen (u, w) (fun wp st => .ok (pushLt wp v u (d + c) st))) ∨
       (overCutoff cut (d + c) = false ∧ lk dist u = none ∧ lk seen u = some (d + c) ∧ firstOnly = false ∧
          RelaxIs weighted cut firstOnly v d dist seen (u, w) (fun wp st => .ok (pushEq wp v u (d + c) st)))) := by
  cases hc : (if weighted then w else some 1) with
  | none => exact Or.inl ⟨rfl, fun _ _ _ _ => relaxFull_none hc⟩
  | some c =>
    refine Or.inr ⟨c, rfl, ?_⟩
    cases ho : overCutoff cut (d + c) with
    | true => exact Or.inl ⟨Or.inl ho, fun _ _ _ _ => relaxFull_over hc ho⟩
    | false =>
      cases hd : lk dist u with
      | some du =>
        by_cases hlt : d + c < du
        · exact Or.inr (Or.inl ⟨⟨du, rfl, hlt⟩, fun _ _ e _ => relaxFull_contradictory hc ho (e ▸ hd) hlt⟩)
        · exact Or.inl ⟨Or.inr (Or.inl ⟨du, hd, Int.not_lt.1 hlt⟩),
            fun _ _ e _ => relaxFull_finalised hc ho (e ▸ hd) (Int.not_lt.1 hlt)⟩
      | none =>
        rcases seen_cases (lk seen u) (d + c) with h | h | ⟨su, h, hgt⟩
        · exact Or.inr (Or.inr (Or.inl ⟨rfl, rfl, h, fun _ _ e1 e2 => relaxFull_lt hc ho (e1 ▸ hd) (e2 ▸ h)⟩))
        · cases firstOnly with
          | false =>
            exact Or.inr (Or.inr (Or.inr ⟨rfl, rfl, h, rfl, fun _ _ e1 e2 => relaxFull_eq hc ho (e1 ▸ hd) (e2 ▸ h) rfl⟩))
          | true =>
            exact Or.inl ⟨Or.inr (Or.inr ⟨hd, _, h, Int.le_refl _, Or.inl rfl⟩),
              fun _ _ e1 e2 => relaxFull_skip hc ho (e1 ▸ hd) (e2 ▸ h) (Int.le_refl _) (Or.inl rfl)⟩
        · exact Or.inl ⟨Or.inr (Or.inr ⟨hd, su, h, Int.le_of_lt hgt, Or.inr hgt⟩),
            fun _ _ e1 e2 => relaxFull_skip hc ho (e1 ▸ hd) (e2 ▸ h) (Int.le_of_lt hgt) (Or.inr hgt)⟩

theorem relaxFull_inv {weighted : Bool} {cut : Option Int} {firstOnly withPaths : Bool} {v : Nat} {d : Int}
    {st st' : DState} {u : Nat} {w : W} (h : relaxFull weighted cut firstOnly withPaths v d st (u, w) = .ok st') :
    ((if weighted then w else some 1) = none ∧ st' = st) ∨
    ∃ c, (if weighted then w else some 1) = some c ∧
      ((Skipped cut firstOnly d st.dist st.seen u c ∧ st' = st) ∨
       (overCutoff cut (d + c) = false ∧ lk st.dist u = none ∧ (∀ su, lk st.seen u = some su → d + c < su) ∧
          st' = pushLt withPaths v u (d + c) st) ∨
       (overCutoff cut (d + c) = false ∧ lk st.dist u = none ∧ lk st.seen u = some (d + c) ∧ firstOnly = false ∧
          st' = pushEq withPaths v u (d + c) st)) := by
  have inj : ∀ {x : DState}, relaxFull weighted cut firstOnly withPaths v d st (u, w) = .ok x → st' = x :=
    fun e => Except.ok.inj (h.symm.trans e)
  rcases relaxFull_outcome weighted cut firstOnly v d st.dist st.seen u w with
    ⟨hc, e⟩ | ⟨c, hc, ⟨hs, e⟩ | ⟨_, e⟩ | ⟨ho, hd, hlt, e⟩ | ⟨ho, hd, hs, hf, e⟩⟩
  · exact Or.inl ⟨hc, inj (e _ st rfl rfl)⟩
  · exact Or.inr ⟨c, hc, Or.inl ⟨hs, inj (e _ st rfl rfl)⟩⟩
  · exact nomatch h.symm.trans (e _ st rfl rfl)
  · exact Or.inr ⟨c, hc, Or.inr (Or.inl ⟨ho, hd, hlt, inj (e _ st rfl rfl)⟩)⟩
  · exact Or.inr ⟨c, hc, Or.inr (Or.inr ⟨ho, hd, hs, hf, inj (e _ st rfl rfl)⟩)⟩

theorem bind_eq_ok {ε α β} {x : Except ε α} {f : α → Except ε β} {b : β} (h : x.bind f = .ok b) :
    ∃ a, x = .ok a ∧ f a = .ok b := by
  cases x with
  | error e => cases h
  | ok a => exact ⟨a, rfl, h⟩

section loop
variable {adjOf : Nat → List Adj} {weighted : Bool} {target : Option Nat} {cut : Option Int}
  {firstOnly withPaths : Bool} {fuel : Nat} {st : DState} {d : Int} {cnt v : Nat} {rest : List FNode}

theorem dijkstraLoop_empty (hp : popFringe st.fringe = none) :
    dijkstraLoop adjOf weighted target cut firstOnly withPaths (fuel + 1) st = .ok st := by
  rw [dijkstraLoop, hp]

theorem dijkstraLoop_stale {dv : Int} (hp : popFringe st.fringe = some ((d, cnt, v), rest))
    (hd : lk st.dist v = some dv) :
    dijkstraLoop adjOf weighted target cut firstOnly withPaths (fuel + 1) st =
      dijkstraLoop adjOf weighted target cut firstOnly withPaths fuel { st with fringe := rest } := by
  rw [dijkstraLoop, hp]
  simp only [show st.dist[v]?.join = some dv from hd, Option.isSome_some, if_true]

theorem dijkstraLoop_target (hp : popFringe st.fringe = some ((d, cnt, v), rest)) (hd : lk st.dist v = none) :
    dijkstraLoop adjOf weighted (some v) cut firstOnly withPaths (fuel + 1) st =
      .ok { st with fringe := rest, dist := st.dist.set v (some d) } := by
  rw [dijkstraLoop, hp]
  simp only [show st.dist[v]?.join = none from hd, Option.isSome_none, Bool.false_eq_true, if_false, BEq.rfl, if_true]

theorem dijkstraLoop_fresh (hp : popFringe st.fringe = some ((d, cnt, v), rest)) (hd : lk st.dist v = none)
    (ht : target ≠ some v) :
    dijkstraLoop adjOf weighted target cut firstOnly withPaths (fuel + 1) st =
      (foldExcept (relaxFull weighted cut firstOnly withPaths v d)
        { st with fringe := rest, dist := st.dist.set v (some d) } (adjOf v)).bind
        (dijkstraLoop adjOf weighted target cut firstOnly withPaths fuel) := by
  rw [dijkstraLoop, hp]
  simp only [show st.dist[v]?.join = none from hd, Option.isSome_none, Bool.false_eq_true, if_false,
    beq_false_of_ne ht]
  cases foldExcept (relaxFull weighted cut firstOnly withPaths v d)
    { st with fringe := rest, dist := st.dist.set v (some d) } (adjOf v) <;> rfl

theorem dijkstraLoop_ok_inv (J : DState → Prop)
    (hpop : ∀ st rest, J st → J { st with fringe := rest })
    (hfin : ∀ st rest v d, lk st.dist v = none → J st → J { st with fringe := rest, dist := st.dist.set v (some d) })
    (hrelax : ∀ v d st, ∀ a ∈ adjOf v, ∀ st', J st → relaxFull weighted cut firstOnly withPaths v d st a = .ok st' → J st') :
    ∀ (fuel : Nat) (st st' : DState), J st →
      dijkstraLoop adjOf weighted target cut firstOnly withPaths fuel st = .ok st' → J st' := by
  intro fuel
  induction fuel with
  | zero =>
    intro st st' hJ h
    rw [dijkstraLoop] at h
    cases h
    exact hJ
  | succ fuel ih =>
    intro st st' hJ h
    cases hp : popFringe st.fringe with
    | none =>
      rw [dijkstraLoop_empty hp] at h
      cases h
      exact hJ
    | some res =>
      obtain ⟨⟨d, cnt, v⟩, rest⟩ := res
      cases hd : lk st.dist v with
      | some dv =>
        rw [dijkstraLoop_stale hp hd] at h
        exact ih _ st' (hpop st rest hJ) h
      | none =>
        by_cases ht : target = some v
        · subst ht
          rw [dijkstraLoop_target hp hd] at h
          cases h
          exact hfin st rest v d hd hJ
        · rw [dijkstraLoop_fresh hp hd ht] at h
          obtain ⟨st2, hf, h⟩ := bind_eq_ok h
          exact ih st2 st' (foldExcept_ok_inv J _ (hrelax v d) _ st2 (hfin st rest v d hd hJ) hf) h

theorem basicLoop_empty (hp : popFringe st.fringe = none) : basicLoop adjOf weighted (fuel + 1) st = st := by
  rw [basicLoop, hp]

theorem basicLoop_stale {dv : Int} (hp : popFringe st.fringe = some ((d, cnt, v), rest))
    (hd : lk st.dist v = some dv) :
    basicLoop adjOf weighted (fuel + 1) st = basicLoop adjOf weighted fuel { st with fringe := rest } := by
  rw [basicLoop, hp]
  simp only [show st.dist[v]?.join = some dv from hd, Option.isSome_some, if_true]

theorem basicLoop_fresh (hp : popFringe st.fringe = some ((d, cnt, v), rest)) (hd : lk st.dist v = none) :
    basicLoop adjOf weighted (fuel + 1) st = basicLoop adjOf weighted fuel
      ((adjOf v).foldl (relaxBasic weighted d) { st with fringe := rest, dist := st.dist.set v (some d) }) := by
  rw [basicLoop, hp]
  simp only [show st.dist[v]?.join = none from hd, Option.isSome_none, Bool.false_eq_true, if_false]

end loop

end Graphrs
