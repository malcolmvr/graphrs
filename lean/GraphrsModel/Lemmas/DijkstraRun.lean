/-
  `Store.dijkstra` as a run of `dijkstraLoop` from its start state, and the result vector `spInfos`.
-/
import GraphrsModel.Model.Dijkstra
namespace Graphrs

/-- the state in which `Store.dijkstra` enters its loop -/
def DState.start (n source : Nat) (withPaths : Bool) : DState :=
  { dist := List.replicate n none, seen := (List.replicate n none).set source (some 0),
    fringe := [(0, 0, source)], count := 0,
    paths := if withPaths then (List.replicate n []).set source [[source]] else [] }

theorem dijkstra_eq (s : Store) (weighted : Bool) {source : Nat} (target : Option Nat) (cutoff2 : Option Int)
    (firstOnly withPaths : Bool) (hs : source < s.numberOfNodes) :
    s.dijkstra weighted source target cutoff2 firstOnly withPaths =
      match dijkstraLoop (fun v => s.succVec[v]?.getD []) weighted target cutoff2 firstOnly withPaths
          (s.totalAdj + 2) (DState.start s.numberOfNodes source withPaths) with
      | .error e => .err e
      | .ok st => .ok (spInfos st.dist st.paths withPaths) := by
  unfold Store.dijkstra
  rw [if_neg (Nat.not_le_of_lt hs)]
  rfl

theorem dijkstra_ok_loop {s : Store} {weighted : Bool} {source : Nat} {target : Option Nat} {cutoff2 : Option Int}
    {firstOnly withPaths : Bool} {out : List (Nat × SPInfo)}
    (h : s.dijkstra weighted source target cutoff2 firstOnly withPaths = .ok out) :
    source < s.nodesVec.length ∧ ∃ st, dijkstraLoop (fun v => s.succVec[v]?.getD []) weighted target cutoff2 firstOnly withPaths
      (s.totalAdj + 2) (DState.start s.numberOfNodes source withPaths) = .ok st ∧
      out = spInfos st.dist st.paths withPaths := by
  by_cases hs : source < s.numberOfNodes
  · rw [dijkstra_eq s weighted target cutoff2 firstOnly withPaths hs] at h
    refine ⟨hs, ?_⟩
    cases hl : dijkstraLoop (fun v => s.succVec[v]?.getD []) weighted target cutoff2 firstOnly withPaths
        (s.totalAdj + 2) (DState.start s.numberOfNodes source withPaths) with
    | error e => rw [hl] at h; cases h
    | ok st => rw [hl] at h; exact ⟨st, rfl, (Outcome.ok.inj h).symm⟩
  · unfold Store.dijkstra at h
    rw [if_pos (Nat.le_of_not_lt hs)] at h
    cases h

theorem spInfos_keys_sublist (paths : List (List (List Nat))) (wp : Bool) (l : List (Option Int × Nat)) :
    ((l.filterMap fun p =>
      match p.1 with
      | none => none
      | some d => some (p.2, (⟨d, if wp then paths[p.2]?.getD [] else []⟩ : SPInfo))).map (·.1)).Sublist (l.map (·.2)) := by
  induction l with
  | nil => exact List.Sublist.slnil
  | cons a l ih =>
    obtain ⟨o, i⟩ := a
    cases o with
    | none => exact ih.cons _
    | some d => exact ih.cons_cons _

theorem spInfos_keys_nodup (dist : List (Option Int)) (paths : List (List (List Nat))) (wp : Bool) :
    ((spInfos dist paths wp).map (·.1)).Nodup := by
  refine (spInfos_keys_sublist paths wp dist.zipIdx).nodup ?_
  rw [List.zipIdx_map_snd]
  exact List.nodup_range' 1 Nat.one_pos

theorem spInfos_without (dist : List (Option Int)) (p q : List (List (List Nat))) :
    spInfos dist p false = (spInfos dist q true).map (fun p => (p.1, ({ p.2 with paths := [] } : SPInfo))) := by
  unfold spInfos
  rw [List.map_filterMap]
  congr 1
  funext x
  cases x.1 <;> rfl

end Graphrs
