/-
  The arithmetic of the two G(n,p) loops.  Both generators are one loop (`skipLoop`): consume a skip (saturating
  additions `skipTo`, and the diagonal test `bump` in the directed case), run the row loop, emit the pair reached unless
  the table has been left.  `landRun` is the process on slot numbers that this loop implements as soon as one round lands
  on slot `land (current slot + 1 + skip)` (`skipLoop_refines`); `skipLoop_sorted` is what holds of the emitted pairs
  without any bound on the table size.
-/
import GraphrsModel.Model.Generators
import Mathlib.Tactic.Ring
namespace Graphrs

theorem satAdd_le (a b : Int) : satAdd a b ≤ i64Max := by
  unfold satAdd; split
  · exact Int.le_refl _
  · exact Int.not_lt.mp ‹_›
theorem satAdd_eq (a b : Int) (h : a + b ≤ i64Max) : satAdd a b = a + b := if_neg (Int.not_lt.mpr h)
theorem le_satAdd (a b : Int) (ha : a ≤ i64Max) (hb : 0 ≤ b) : a ≤ satAdd a b := by
  unfold satAdd; split
  · exact ha
  · exact Int.le_add_of_nonneg_right hb

/-- `w.saturating_add(1).saturating_add(sk)`: the position both generators skip to -/
def skipTo (w sk : Int) : Int := satAdd (satAdd w 1) sk

theorem skipTo_le (w sk : Int) : skipTo w sk ≤ i64Max := satAdd_le _ _
theorem lt_skipTo (w sk : Int) (hw : w < i64Max) (hsk : 0 ≤ sk) : w < skipTo w sk := by
  unfold skipTo
  rw [satAdd_eq w 1 hw]
  exact le_satAdd (w + 1) sk hw hsk
theorem skipTo_eq (w sk : Int) (hsk : 0 ≤ sk) (h : w + 1 + sk ≤ i64Max) : skipTo w sk = w + 1 + sk := by
  unfold skipTo
  rw [satAdd_eq w 1 (Int.le_trans (Int.le_add_of_nonneg_right hsk) h), satAdd_eq _ _ h]

theorem le_skipTo {w sk B : Int} (hw : w < i64Max) (hB : B ≤ i64Max) (h : B ≤ w + 1 + sk) : B ≤ skipTo w sk := by
  unfold skipTo
  rw [satAdd_eq w 1 hw]
  unfold satAdd
  split
  · exact hB
  · exact h

theorem sq_le_i64Max {n : Int} (hn : 0 ≤ n) (hsmall : n ≤ 2147483647) : n * n ≤ i64Max :=
  (Int.mul_le_mul hsmall hsmall hn (by decide)).trans (by decide)

theorem lt_i64Max_of_small {w n : Int} (hw : w < n) (hsmall : n ≤ 2147483647) : w < i64Max :=
  Int.lt_of_lt_of_le hw (hsmall.trans (by decide))

/-- the slot of `(v, 0)`: rows `1 .. v-1` of the lower triangle lie before it -/
def tri (v : Int) : Int := v * (v - 1) / 2

theorem tri_succ (v : Int) : tri (v + 1) = tri v + v := by
  unfold tri
  rw [show (v + 1) * (v + 1 - 1) = v * (v - 1) + v * 2 by ring, Int.add_mul_ediv_right _ _ (by decide)]
theorem tri_zero : tri 0 = 0 := by decide

theorem tri_mono {a b : Int} (ha : 0 ≤ a) (hab : a ≤ b) : tri a ≤ tri b := by
  induction b, hab using Int.leInduction with
  | base => exact Int.le_refl _
  | succ b hab ih => rw [tri_succ]; exact Int.le_trans ih (Int.le_add_of_nonneg_right (Int.le_trans ha hab))

theorem tri_nonneg {a : Int} (ha : 0 ≤ a) : 0 ≤ tri a := tri_zero ▸ tri_mono (Int.le_refl 0) ha

theorem tri_add_lt {v w v' w' : Int} (hv : 0 ≤ v) (hw : w < v) (hvv : v < v') (hw' : 0 ≤ w') :
    tri v + w < tri v' + w' := by
  have := tri_mono (Int.le_add_one hv) hvv
  rw [tri_succ] at this
  exact Int.lt_of_lt_of_le (Int.add_lt_add_left hw _) (Int.le_trans this (Int.le_add_of_nonneg_right hw'))

theorem tri_le_sq (n : Int) (hn : 0 ≤ n) : tri n ≤ n * n := by
  have h2 := Int.mul_nonneg hn hn
  unfold tri
  rw [show n * (n - 1) = n * n - n by ring]
  omega

theorem undRow_succ (n : Int) (fuel : Nat) (v w : Int) :
    gnpUndRow n (fuel + 1) v w = if v ≤ w ∧ v < n then gnpUndRow n fuel (v + 1) (w - v) else (v, w) := by
  rw [gnpUndRow]
  simp only [Bool.and_eq_true, decide_eq_true_eq, ge_iff_le]

theorem dirRow_succ (n : Int) (fuel : Nat) (v w : Int) :
    gnpDirRow n (fuel + 1) v w =
      if v < n ∧ n ≤ w then gnpDirRow n fuel (v + 1) (if v + 1 = w - n then w - n + 1 else w - n) else (v, w) := by
  rw [gnpDirRow]
  simp only [Bool.and_eq_true, decide_eq_true_eq, beq_iff_eq]

/-- the undirected row loop keeps the slot `tri v + w`, never passes row `w + 1`, and with enough fuel ends outside
    its guard -/
theorem undRow_spec (n : Int) : ∀ (fuel : Nat) (v w v' w' : Int),
    gnpUndRow n fuel v w = (v', w') → 1 ≤ v →
    v ≤ v' ∧ tri v' + w' = tri v + w ∧ (0 ≤ w → 0 ≤ w') ∧ (v ≤ n → v' ≤ n) ∧ (v' = v ∨ v' ≤ w + 1) ∧
    (n ≤ v + fuel → ¬ (v' ≤ w' ∧ v' < n)) := by
  intro fuel
  induction fuel with
  | zero =>
    intro v w v' w' h hv
    obtain ⟨rfl, rfl⟩ := Prod.mk.inj h
    refine ⟨Int.le_refl _, rfl, id, id, Or.inl rfl, fun h hc => ?_⟩
    rw [Nat.cast_zero, Int.add_zero] at h
    exact Int.not_lt.mpr h hc.2
  | succ fuel ih =>
    intro v w v' w' h hv
    rw [undRow_succ] at h
    by_cases hc : v ≤ w ∧ v < n
    · rw [if_pos hc] at h
      obtain ⟨h1, h2, h3, h4, h5, h6⟩ := ih (v + 1) (w - v) v' w' h (Int.le_add_one hv)
      refine ⟨Int.le_of_lt h1, ?_, fun _ => h3 (Int.sub_nonneg_of_le hc.1), fun _ => h4 hc.2, Or.inr ?_, fun hf => h6 ?_⟩
      · rw [h2, tri_succ, Int.add_assoc, add_sub_cancel]
      · exact h5.elim (fun e => e ▸ Int.add_le_add_right hc.1 1) fun h =>
          Int.le_trans h (Int.add_le_add_right (Int.sub_le_self w (Int.le_trans (by decide) hv)) 1)
      · rwa [Int.add_right_comm, Int.add_assoc]
    · rw [if_neg hc] at h
      obtain ⟨rfl, rfl⟩ := Prod.mk.inj h
      exact ⟨Int.le_refl _, rfl, id, id, Or.inl rfl, fun _ => hc⟩

theorem dirRow_of_lt (n : Int) (fuel : Nat) (v w : Int) (h : w < n) : gnpDirRow n fuel v w = (v, w) := by
  cases fuel with
  | zero => rfl
  | succ fuel => rw [dirRow_succ, if_neg fun hc => Int.not_le.mpr h hc.2]

/-- from position `pos` a skip `k` lands on slot `land (pos + k)`; at or past `N` the run ends, otherwise the slot is
    emitted and the run continues behind it -/
def landRun (land : Int → Int) (N : Int) : List Int → Int → List Int → Option (List Int)
  | [], _, _ => none
  | k :: rest, pos, acc =>
    if N ≤ land (pos + k) then some acc
    else landRun land N rest (land (pos + k) + 1) (acc ++ [land (pos + k)])

theorem landRun_acc (land : Int → Int) (N : Int) : ∀ (ks : List Int) (pos : Int) (acc : List Int),
    landRun land N ks pos acc = (landRun land N ks pos []).map (acc ++ ·) := by
  intro ks
  induction ks with
  | nil => intro pos acc; rfl
  | cons k rest ih =>
    intro pos acc
    rw [landRun, landRun]
    split
    · rw [Option.map_some, List.append_nil]
    · rw [ih _ (acc ++ _), ih _ ([] ++ _), Option.map_map]
      congr 1; funext x; simp only [Function.comp, List.append_assoc, List.nil_append]

theorem landRun_cons_nil {land : Int → Int} {N k pos : Int} {ks : List Int} :
    landRun land N (k :: ks) pos [] = some [] ↔ N ≤ land (pos + k) := by
  rw [landRun]
  split
  · simpa
  · rw [landRun_acc, Option.map_eq_some_iff]
    constructor
    · rintro ⟨T, _, h⟩; cases h
    · intro h; contradiction

theorem landRun_cons_cons {land : Int → Int} {N k pos s : Int} {ks T : List Int} :
    landRun land N (k :: ks) pos [] = some (s :: T) ↔
      land (pos + k) < N ∧ land (pos + k) = s ∧ landRun land N ks (s + 1) [] = some T := by
  rw [landRun]
  split
  · constructor
    · intro h; cases h
    · intro h; omega
  · rw [landRun_acc, Option.map_eq_some_iff]
    constructor
    · rintro ⟨T', hT', h⟩
      obtain ⟨rfl, rfl⟩ := List.cons.inj h
      exact ⟨by omega, rfl, hT'⟩
    · rintro ⟨_, rfl, hT⟩
      exact ⟨T, hT, rfl⟩

/-- every strictly increasing list of slots in `[pos, N)` is the output of the plain process on some skip sequence:
    the gaps, then a skip to the end -/
theorem landRun_id_onto (N : Int) : ∀ (S : List Int) (pos : Int), pos ≤ N → S.Pairwise (· < ·) →
    (∀ k ∈ S, pos ≤ k ∧ k < N) → ∃ ks, (∀ k ∈ ks, 0 ≤ k) ∧ landRun id N ks pos [] = some S := by
  intro S
  induction S with
  | nil =>
    intro pos hpos _ _
    refine ⟨[N - pos], fun k hk => ?_, landRun_cons_nil.2 ?_⟩
    · rw [List.mem_singleton.mp hk]; exact Int.sub_nonneg_of_le hpos
    · show N ≤ pos + (N - pos); omega
  | cons s t ih =>
    intro pos _ hpw hr
    obtain ⟨hfst, hpw⟩ := List.pairwise_cons.mp hpw
    obtain ⟨hs1, hs2⟩ := hr s List.mem_cons_self
    obtain ⟨ks, hks, hrun⟩ := ih (s + 1) hs2 hpw fun k hk => ⟨hfst k hk, (hr k (List.mem_cons_of_mem _ hk)).2⟩
    have e : id (pos + (s - pos)) = s := by show pos + (s - pos) = s; omega
    refine ⟨(s - pos) :: ks, fun k hk => ?_, landRun_cons_cons.2 ⟨by rw [e]; exact hs2, e, hrun⟩⟩
    rcases List.mem_cons.mp hk with rfl | hk
    · exact Int.sub_nonneg_of_le hs1
    · exact hks k hk

/-- the diagonal test of the directed generator: `if v == w { w = w.saturating_add(1) }` -/
def bump (v w : Int) : Int := if v == w then satAdd w 1 else w

theorem bump_le {v w : Int} (h : w ≤ i64Max) : bump v w ≤ i64Max := by
  unfold bump; split
  · exact satAdd_le _ _
  · exact h

theorem bump_spec {v w : Int} (h : v < i64Max) : w ≤ bump v w ∧ v ≠ bump v w := by
  unfold bump
  by_cases hd : v = w
  · subst hd
    rw [if_pos (beq_self_eq_true v), satAdd_eq v 1 h]
    exact ⟨Int.le_add_one (Int.le_refl v), Int.ne_of_lt (Int.lt_succ v)⟩
  · rw [if_neg (by simpa using hd)]
    exact ⟨Int.le_refl w, hd⟩


/-- the bump is only taken at `w = v`, far below `i64Max` -/
theorem bump_eq {v : Int} (w : Int) (h : v < i64Max) : bump v w = if v = w then w + 1 else w := by
  unfold bump
  by_cases hd : v = w
  · subst hd; rw [if_pos (beq_self_eq_true v), if_pos rfl, satAdd_eq v 1 h]
  · rw [if_neg (by simpa using hd), if_neg hd]

/-- the state after one round: the skip (and, directed, the diagonal test), then the row loop -/
def undNext (n v w sk : Int) : Int × Int := gnpUndRow n (n.toNat + 1) v (skipTo w sk)
def dirNext (n v w sk : Int) : Int × Int := gnpDirRow n (n.toNat + 1) v (bump v (skipTo w sk))

/-- the outer loop of both generators: one skip per round; the state reached is emitted while it is inside the table,
    and the run ends (with a verdict) at the first state outside -/
def skipLoop (n : Int) (next : Int → Int → Int → Int × Int) :
    Nat → List Int → Int → Int → List (Int × Int) → Option (List (Int × Int))
  | 0, _, _, _, _ => none
  | fuel + 1, skips, v, w, acc =>
    if v < n then
      match skips with
      | [] => none
      | sk :: rest =>
        skipLoop n next fuel rest (next v w sk).1 (next v w sk).2
          (if (next v w sk).1 < n then acc ++ [next v w sk] else acc)
    else some acc

theorem gnpUndirected_eq (n : Int) : ∀ (fuel : Nat) (skips : List Int) (v w : Int) (acc : List (Int × Int)),
    gnpUndirected n fuel skips v w acc = skipLoop n (undNext n) fuel skips v w acc := by
  intro fuel
  induction fuel with
  | zero => intros; rfl
  | succ fuel ih =>
    intro skips v w acc
    cases skips with
    | nil => rfl
    | cons sk rest => exact if_congr Iff.rfl (ih rest _ _ _) rfl

theorem gnpDirected_eq (n : Int) : ∀ (fuel : Nat) (skips : List Int) (v w : Int) (acc : List (Int × Int)),
    gnpDirected n fuel skips v w acc = skipLoop n (dirNext n) fuel skips v w acc := by
  intro fuel
  induction fuel with
  | zero => intros; rfl
  | succ fuel ih =>
    intro skips v w acc
    cases skips with
    | nil => rfl
    | cons sk rest => exact if_congr Iff.rfl (ih rest _ _ _) rfl

section
variable {n : Int} {next : Int → Int → Int → Int × Int}

theorem skipLoop_cons {v w v' w' : Int} (fuel : Nat) (sk : Int) (rest : List Int) (acc : List (Int × Int))
    (hv : v < n) (hr : next v w sk = (v', w')) :
    skipLoop n next (fuel + 1) (sk :: rest) v w acc =
      skipLoop n next fuel rest v' w' (if v' < n then acc ++ [(v', w')] else acc) := by
  rw [skipLoop, if_pos hv]
  simp only [hr]

theorem skipLoop_done {v : Int} (fuel : Nat) (skips : List Int) (w : Int) (acc : List (Int × Int)) (hv : ¬ v < n) :
    skipLoop n next (fuel + 1) skips v w acc = some acc := by
  cases skips <;> rw [skipLoop, if_neg hv]

/-- if every round from a state with `Inv` keeps `Inv` and, when it stays inside the table, raises the slot and lands on
    a valid pair, then the loop only appends valid pairs, with slots above the current one, in increasing slot order -/
theorem skipLoop_sorted {Inv : Int → Int → Prop} {Valid : Int × Int → Prop} {slot : Int × Int → Int}
    (hnext : ∀ v w sk v' w', Inv v w → v < n → 0 ≤ sk → next v w sk = (v', w') →
      Inv v' w' ∧ (v' < n → slot (v, w) < slot (v', w') ∧ Valid (v', w'))) :
    ∀ (fuel : Nat) (skips : List Int) (v w : Int) (acc es : List (Int × Int)),
      (∀ k ∈ skips, 0 ≤ k) → Inv v w → skipLoop n next fuel skips v w acc = some es →
      ∃ new, es = acc ++ new ∧ (∀ p ∈ new, Valid p ∧ slot (v, w) < slot p) ∧
        new.Pairwise fun a b => slot a < slot b := by
  intro fuel
  induction fuel with
  | zero => intro _ _ _ _ _ _ _ h; rw [skipLoop] at h; cases h
  | succ fuel ih =>
    intro skips v w acc es hs hinv h
    by_cases hv : v < n
    · cases skips with
      | nil => rw [skipLoop, if_pos hv] at h; cases h
      | cons sk rest =>
        generalize hr : next v w sk = r at h
        obtain ⟨v', w'⟩ := r
        rw [skipLoop_cons _ _ _ _ hv hr] at h
        obtain ⟨hinv', hin⟩ := hnext v w sk v' w' hinv hv (hs sk List.mem_cons_self) hr
        by_cases hr : v' < n
        · obtain ⟨hlt, hval⟩ := hin hr
          rw [if_pos hr] at h
          obtain ⟨new, rfl, hnew, hpw⟩ :=
            ih rest v' w' _ es (fun k hk => hs k (List.mem_cons_of_mem _ hk)) hinv' h
          rw [List.append_assoc]
          refine ⟨(v', w') :: new, rfl, ?_, List.pairwise_cons.mpr ⟨fun p hp => (hnew p hp).2, hpw⟩⟩
          intro p hp
          rcases List.mem_cons.mp hp with rfl | hp
          · exact ⟨hval, hlt⟩
          · exact ⟨(hnew p hp).1, Int.lt_trans hlt (hnew p hp).2⟩
        · -- outside the table the loop ends: nothing is appended
          rw [if_neg hr] at h
          cases fuel with
          | zero => rw [skipLoop] at h; cases h
          | succ fuel =>
            rw [skipLoop_done _ _ _ _ hr] at h
            obtain rfl := Option.some.inj h
            exact ⟨[], (List.append_nil _).symm, fun _ h => (List.not_mem_nil h).elim, List.Pairwise.nil⟩
    · rw [skipLoop_done _ _ _ _ hv] at h
      obtain rfl := Option.some.inj h
      exact ⟨[], (List.append_nil _).symm, fun _ h => (List.not_mem_nil h).elim, List.Pairwise.nil⟩

theorem skipLoop_none {Inv : Int → Int → Prop}
    (hnext : ∀ v w sk, Inv v w → Inv (next v w sk).1 (next v w sk).2) (hin : ∀ v w, Inv v w → v < n) :
    ∀ (fuel : Nat) (skips : List Int) (v w : Int) (acc : List (Int × Int)), Inv v w →
      skipLoop n next fuel skips v w acc = none := by
  intro fuel
  induction fuel with
  | zero => intros; rfl
  | succ fuel ih =>
    intro skips v w acc hinv
    cases skips with
    | nil => rw [skipLoop, if_pos (hin v w hinv)]
    | cons sk rest =>
      rw [skipLoop, if_pos (hin v w hinv)]
      exact ih rest _ _ _ (hnext v w sk hinv)

end

/-- the fuel both generators give their row loop is enough -/
theorem fuel_enough {n v : Int} (hv : 0 ≤ v) : n ≤ v + ((n.toNat + 1 : Nat) : Int) := by omega

/-- one round of the undirected generator from a state in normal form (`w < v`, inside the table) ends in normal
    form, on the slot skipped to -/
theorem und_next {n v w sk v' w' : Int} (hn : n ≤ i64Max + 1) (hv : 1 ≤ v) (hvn : v < n) (hw : -1 ≤ w) (hwv : w < v)
    (hsk : 0 ≤ sk) (hr : undNext n v w sk = (v', w')) :
    1 ≤ v' ∧ v' ≤ n ∧ 0 ≤ w' ∧ (v' < n → w' < v') ∧ tri v' + w' = tri v + skipTo w sk := by
  have hlt := lt_skipTo w sk (Int.lt_of_lt_of_le hwv (Int.lt_add_one_iff.mp (Int.lt_of_lt_of_le hvn hn))) hsk
  have hw1 : (0 : Int) ≤ w + 1 := Int.add_le_add_right hw 1
  obtain ⟨h1, h2, h3, h4, -, h6⟩ := undRow_spec n _ v _ v' w' hr hv
  have hexit := h6 (fuel_enough (Int.le_trans (by decide) hv))
  exact ⟨Int.le_trans hv h1, h4 (Int.le_of_lt hvn), h3 (Int.le_trans hw1 hlt),
    fun hv' => Int.not_le.mp fun hle => hexit ⟨hle, hv'⟩, h2⟩

theorem und_inside_iff {n v w : Int} (hv : 1 ≤ v) (hvn : v ≤ n) (hw : 0 ≤ w) (hwv : v < n → w < v) :
    v < n ↔ tri v + w < tri n := by
  constructor
  · intro h
    have := tri_add_lt (Int.le_trans (by decide) hv) (hwv h) h (Int.le_refl 0)
    rwa [Int.add_zero] at this
  · intro h
    refine Int.not_le.mp fun hc => Int.not_lt.mpr ?_ h
    rw [Int.le_antisymm hvn hc]
    exact Int.le_add_of_nonneg_right hw

theorem slotDir_lt_sq {n v w : Int} (hv0 : 0 ≤ v) (hv : v < n) (hw : w < n) : v * n + w < n * n := by
  have := Int.mul_le_mul_of_nonneg_right hv (Int.le_trans hv0 (Int.le_of_lt hv))
  rw [add_one_mul] at this
  exact Int.lt_of_lt_of_le (Int.add_lt_add_left hw _) this

/-- **simulation**: if from every state satisfying `Inv` the step leaves the table exactly when slot
    `land (slot + 1 + sk)` is at or past `N`, and otherwise lands on the pair with that slot number, then the pairs the loop
    emits are, slot for slot, what `landRun` emits from the next slot on -/
theorem skipLoop_refines {n N : Int} {step : Int → Int → Int → Int × Int} {land : Int → Int}
    {slot : Int × Int → Int} {Inv : Int → Int → Prop}
    (hstep : ∀ v w sk, Inv v w → v < n → 0 ≤ sk →
      (N ≤ land (slot (v, w) + 1 + sk) → ¬ (step v w sk).1 < n) ∧
      (land (slot (v, w) + 1 + sk) < N → (step v w sk).1 < n ∧ Inv (step v w sk).1 (step v w sk).2 ∧
        slot (step v w sk) = land (slot (v, w) + 1 + sk))) :
    ∀ (fuel : Nat) (skips : List Int) (v w : Int) (acc : List (Int × Int)),
      skips.length < fuel → (∀ k ∈ skips, 0 ≤ k) → Inv v w → v < n →
      (skipLoop n step fuel skips v w acc).map (List.map slot) =
        landRun land N skips (slot (v, w) + 1) (acc.map slot) := by
  intro fuel
  induction fuel with
  | zero => intro skips v w acc h; omega
  | succ fuel ih =>
    intro skips v w acc hlen hs hinv hv
    cases skips with
    | nil => rw [skipLoop, if_pos hv]; rfl
    | cons sk rest =>
      obtain ⟨hover, hland⟩ := hstep v w sk hinv hv (hs sk List.mem_cons_self)
      rw [List.length_cons] at hlen
      rw [skipLoop, if_pos hv, landRun]
      by_cases h : N ≤ land (slot (v, w) + 1 + sk)
      · -- the run is over; the loop notices it one round later, for which fuel is left
        obtain ⟨fuel, rfl⟩ : ∃ f, fuel = f + 1 := ⟨fuel - 1, by omega⟩
        rw [if_pos h, if_neg (hover h), skipLoop_done _ _ _ _ (hover h)]; rfl
      · obtain ⟨h1, h2, h3⟩ := hland (by omega)
        rw [if_neg h, if_pos h1, ih rest _ _ _ (by omega) (fun k hk => hs k (List.mem_cons_of_mem _ hk)) h2 h1,
          List.map_append, List.map_cons, List.map_nil, h3]

end Graphrs
