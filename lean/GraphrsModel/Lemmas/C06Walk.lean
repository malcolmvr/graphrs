/-
  Walks and distances as far as the closeness files share them: both only read the arc list as a set, and a
  labelling whose labels are walk costs and bound every walk from below is the distance function.  Also used by the
  betweenness files (Lemmas/BcGraph.lean, BcBfs.lean, BcBridge.lean).  Namespace `C06T`: closeness, transfer between arc lists.
-/
import GraphrsModel.Spec.Walk
namespace Graphrs
namespace C06T

theorem Walk.mono {A B : Arcs} (h : ∀ a ∈ A, a ∈ B) {s t : Nat} {c : Int} (hw : Walk A s t c) : Walk B s t c := by
  induction hw with
  | nil => exact Walk.nil _
  | snoc _ ha ih => exact Walk.snoc ih (h _ ha)

/-- Distances carry over between two arc lists (and two pairs of end points) whose walks dominate each other. -/
theorem isDist_of_walks {A B : Arcs} {s t s' t' : Nat}
    (h1 : ∀ c, Walk A s t c → ∃ c', c' ≤ c ∧ Walk B s' t' c')
    (h2 : ∀ c, Walk B s' t' c → ∃ c', c' ≤ c ∧ Walk A s t c') {d : Int} (hd : IsDist A s t d) :
    IsDist B s' t' d := by
  obtain ⟨hw, hmin⟩ := hd
  obtain ⟨d1, hle1, hw1⟩ := h1 d hw
  obtain ⟨d2, hle2, hw2⟩ := h2 d1 hw1
  have e : d1 = d := Int.le_antisymm hle1 (Int.le_trans (hmin d2 hw2) hle2)
  subst e
  refine ⟨hw1, fun c hc => ?_⟩
  obtain ⟨d3, hle3, hw3⟩ := h2 c hc
  exact Int.le_trans (hmin d3 hw3) hle3

theorem IsDist.congr {A B : Arcs} (h : ∀ a, a ∈ A ↔ a ∈ B) (s t : Nat) (d : Int) : IsDist A s t d ↔ IsDist B s t d :=
  ⟨isDist_of_walks (fun c hw => ⟨c, Int.le_refl c, Walk.mono (fun a ha => (h a).1 ha) hw⟩)
      (fun c hw => ⟨c, Int.le_refl c, Walk.mono (fun a ha => (h a).2 ha) hw⟩),
   isDist_of_walks (fun c hw => ⟨c, Int.le_refl c, Walk.mono (fun a ha => (h a).2 ha) hw⟩)
      (fun c hw => ⟨c, Int.le_refl c, Walk.mono (fun a ha => (h a).1 ha) hw⟩)⟩

theorem isDist_iff_of_lower {A : Arcs} {s : Nat} {lab : Nat → Int → Prop}
    (huniq : ∀ t a b, lab t a → lab t b → a = b) (hwalk : ∀ t d, lab t d → Walk A s t d)
    (hlow : ∀ t c, Walk A s t c → ∃ x, lab t x ∧ x ≤ c) (t : Nat) (d : Int) : lab t d ↔ IsDist A s t d := by
  constructor
  · intro h
    refine ⟨hwalk t d h, fun c hw => ?_⟩
    obtain ⟨x, hx, hle⟩ := hlow t c hw
    exact huniq t x d hx h ▸ hle
  · rintro ⟨hw, hmin⟩
    obtain ⟨x, hx, hle⟩ := hlow t d hw
    exact Int.le_antisymm hle (hmin x (hwalk t x hx)) ▸ hx

end C06T
end Graphrs
