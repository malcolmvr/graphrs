/-
  Set-valued maps (the four adjacency indexes are such maps) and what `add_node` and `add_edge`
  do to them: a fresh key with the empty set, and the arcs of a new edge.
-/
import GraphrsModel.Spec.Inv
import GraphrsModel.Lemmas.AList
namespace Graphrs
namespace C02
open Store

theorem mem_setOf {κ : Type} [DecidableEq κ] {m : List (κ × List Nat)} {k : κ} {y : Nat} (h : y ∈ setOf m k) :
    ∃ l, (k, l) ∈ m ∧ y ∈ l := by
  unfold setOf at h
  cases hl : alookup m k with
  | none => rw [hl] at h; cases h
  | some l => rw [hl] at h; exact ⟨l, AL.lookup_mem hl, h⟩

theorem setOf_nodup {κ : Type} [DecidableEq κ] (m : List (κ × List Nat)) (k : κ)
    (h : ∀ kv ∈ m, kv.2.Nodup) : (setOf m k).Nodup := by
  unfold setOf
  cases hl : alookup m k with
  | none => exact List.nodup_nil
  | some l => exact h _ (AL.lookup_mem hl)

/-- a set-valued map with distinct keys whose keys and members all satisfy `Q` -/
def SetMapOk (Q : Nat → Prop) (m : List (Nat × List Nat)) : Prop :=
  (m.map (·.1)).Nodup ∧ ∀ kv ∈ m, kv.2.Nodup ∧ Q kv.1 ∧ ∀ y ∈ kv.2, Q y

theorem SetMapOk.mem {Q : Nat → Prop} {m : List (Nat × List Nat)} (h : SetMapOk Q m) {x y : Nat}
    (hy : y ∈ setOf m x) : Q x ∧ Q y := by
  obtain ⟨l, hl, hyl⟩ := mem_setOf hy
  exact ⟨(h.2 _ hl).2.1, (h.2 _ hl).2.2 y hyl⟩

theorem SetMapOk.ne_of_mem {Q : Nat → Prop} {m : List (Nat × List Nat)} (h : SetMapOk Q m) {k x y : Nat}
    (hk : ¬ Q k) (hy : y ∈ setOf m x) : x ≠ k ∧ y ≠ k :=
  ⟨fun e => hk (e ▸ (h.mem hy).1), fun e => hk (e ▸ (h.mem hy).2)⟩

theorem SetMapOk.nodup {Q : Nat → Prop} {m : List (Nat × List Nat)} (h : SetMapOk Q m) (x : Nat) :
    (setOf m x).Nodup := setOf_nodup m x fun kv hkv => (h.2 kv hkv).1

theorem setOf_eq_nil_of_not_key (Q : Nat → Prop) (m : List (Nat × List Nat)) (h : SetMapOk Q m) (x : Nat)
    (hx : ¬ Q x) : setOf m x = [] :=
  List.eq_nil_iff_forall_not_mem.2 fun _ hy => hx (h.mem hy).1

theorem SetMapOk.mono {Q Q' : Nat → Prop} {m : List (Nat × List Nat)} (h : SetMapOk Q m)
    (hq : ∀ a, Q a → Q' a) : SetMapOk Q' m :=
  ⟨h.1, fun kv hkv => ⟨(h.2 kv hkv).1, hq _ (h.2 kv hkv).2.1, fun y hy => hq _ ((h.2 kv hkv).2.2 y hy)⟩⟩

theorem SetMapOk.ainsert_nil {Q : Nat → Prop} {m : List (Nat × List Nat)} (h : SetMapOk Q m) (k : Nat)
    (hk : Q k) : SetMapOk Q (ainsert m k []) := by
  refine ⟨AL.nodup_insert h.1 _ _, fun kv hkv => ?_⟩
  rcases AL.mem_insert hkv with h' | rfl
  · exact h.2 kv h'
  · exact ⟨List.nodup_nil, hk, fun _ hy => absurd hy List.not_mem_nil⟩

/-- a fresh key with the empty set changes no set of the map: the key had none before -/
theorem SetMapOk.setOf_ainsert_nil {Q : Nat → Prop} {m : List (Nat × List Nat)} (h : SetMapOk Q m) {k : Nat}
    (hk : ¬ Q k) (x : Nat) : setOf (ainsert m k []) x = setOf m x := by
  unfold setOf
  rw [AL.lookup_insert]
  split
  · rename_i e
    exact e ▸ (setOf_eq_nil_of_not_key Q m h k hk).symm
  · rfl

theorem SetMapOk.amodify {Q : Nat → Prop} {m : List (Nat × List Nat)} (h : SetMapOk Q m) (k v : Nat)
    (hk : Q k) (hv : Q v) : SetMapOk Q (amodify m k [] (sinsert · v)) := by
  refine ⟨AL.nodup_modify h.1 _ _ _, fun kv hkv => ?_⟩
  rcases AL.mem_insert hkv with h' | rfl
  · exact h.2 kv h'
  · exact ⟨nodup_sinsert _ _ (h.nodup k), hk, fun y hy =>
      ((mem_sinsert _ _ _).1 hy).elim (fun hy => (h.mem (x := k) hy).2) (· ▸ hv)⟩

theorem mem_setOf_amodify (m : List (Nat × List Nat)) (k v x y : Nat) :
    y ∈ setOf (amodify m k [] (sinsert · v)) x ↔ (y ∈ setOf m x ∨ (x, y) = (k, v)) := by
  unfold setOf
  rw [AL.lookup_modify, Prod.mk.injEq]
  by_cases hk : k = x
  · subst hk
    rw [if_pos rfl, Option.getD_some, mem_sinsert, eq_self, true_and]
  · rw [if_neg hk, or_iff_left fun h => hk h.1.symm]

theorem acontains_amodify {ν : Type} (m : List (Nat × ν)) (k : Nat) (d : ν) (f : ν → ν) (i : Nat)
    (h : acontains m i = true) : acontains (amodify m k d f) i = true := by
  unfold acontains at h ⊢
  rw [AL.lookup_modify]
  split
  · rfl
  · exact h

/-- the arcs a new edge from `u` to `v` contributes to the successor sets -/
def arcs (d : Bool) (u v : Nat) : List (Nat × Nat) := if d then [(u, v)] else [(u, v), (v, u)]

/-- ... and to the predecessor sets, which only a directed graph keeps -/
def parcs (d : Bool) (u v : Nat) : List (Nat × Nat) := if d then [(v, u)] else []

def addArcs (m : List (Nat × List Nat)) (ps : List (Nat × Nat)) : List (Nat × List Nat) :=
  ps.foldl (fun m p => amodify m p.1 [] (sinsert · p.2)) m

theorem SetMapOk.addArcs {Q : Nat → Prop} {m : List (Nat × List Nat)} (h : SetMapOk Q m) (ps : List (Nat × Nat))
    (hps : ∀ p ∈ ps, Q p.1 ∧ Q p.2) : SetMapOk Q (addArcs m ps) := by
  induction ps generalizing m with
  | nil => exact h
  | cons p ps ih =>
    exact ih (h.amodify p.1 p.2 (hps p List.mem_cons_self).1 (hps p List.mem_cons_self).2)
      fun q hq => hps q (List.mem_cons_of_mem _ hq)

theorem mem_setOf_addArcs (m : List (Nat × List Nat)) (ps : List (Nat × Nat)) (x y : Nat) :
    y ∈ setOf (addArcs m ps) x ↔ (y ∈ setOf m x ∨ (x, y) ∈ ps) := by
  induction ps generalizing m with
  | nil => exact (or_iff_left List.not_mem_nil).symm
  | cons p ps ih =>
    have : addArcs m (p :: ps) = addArcs (amodify m p.1 [] (sinsert · p.2)) ps := rfl
    rw [this, ih, mem_setOf_amodify, List.mem_cons, or_assoc]

theorem acontains_addArcs (m : List (Nat × List Nat)) (ps : List (Nat × Nat)) (i : Nat)
    (h : acontains m i = true) : acontains (addArcs m ps) i = true := by
  induction ps generalizing m with
  | nil => exact h
  | cons p ps ih => exact ih _ (acontains_amodify m _ _ _ i h)

theorem mem_arcs (d : Bool) (u v x y : Nat) :
    (x, y) ∈ arcs d u v ↔ ((x = u ∧ y = v) ∨ (d = false ∧ x = v ∧ y = u)) := by
  cases d
  · simp only [arcs, Bool.false_eq_true, if_false, List.mem_cons, Prod.mk.injEq, List.not_mem_nil, or_false,
      true_and]
  · simp only [arcs, if_true, List.mem_singleton, Prod.mk.injEq, Bool.true_eq_false, false_and, or_false]

theorem mem_parcs (d : Bool) (u v x y : Nat) : (x, y) ∈ parcs d u v ↔ (d = true ∧ (y, x) ∈ arcs d u v) := by
  cases d
  · simp only [parcs, Bool.false_eq_true, if_false, List.not_mem_nil, false_and]
  · simp only [parcs, arcs, if_true, List.mem_singleton, Prod.mk.injEq, true_and, and_comm]

theorem forall_arcs {Q : Nat → Prop} {u v : Nat} (hu : Q u) (hv : Q v) (d : Bool) :
    (∀ p ∈ arcs d u v, Q p.1 ∧ Q p.2) ∧ (∀ p ∈ parcs d u v, Q p.1 ∧ Q p.2) := by
  have h : ∀ p ∈ arcs d u v, Q p.1 ∧ Q p.2 := fun p hp => by
    rcases (mem_arcs d u v p.1 p.2).1 hp with ⟨a, b⟩ | ⟨_, a, b⟩
    · exact ⟨a.symm ▸ hu, b.symm ▸ hv⟩
    · exact ⟨a.symm ▸ hv, b.symm ▸ hu⟩
  exact ⟨h, fun p hp => (h (p.2, p.1) ((mem_parcs d u v p.1 p.2).1 hp).2).symm⟩

theorem getElem?_inj_iff {α : Type} {l : List α} (hnd : l.Nodup) {i j : Nat} {x y : α} (h1 : l[i]? = some x)
    (h2 : l[j]? = some y) : i = j ↔ x = y :=
  ⟨fun e => Option.some.inj (h1.symm.trans (e ▸ h2)),
   fun e => (List.getElem?_inj (List.getElem?_eq_some_iff.1 h1).1 hnd).1 (h1.trans (e ▸ h2.symm))⟩

theorem arcs_idx {l : List Nat} (hnd : l.Nodup) (d : Bool) {u v ui vi x y i j : Nat} (hu : l[ui]? = some u)
    (hv : l[vi]? = some v) (hx : l[i]? = some x) (hy : l[j]? = some y) :
    ((i, j) ∈ arcs d ui vi ↔ (x, y) ∈ arcs d u v) ∧ ((i, j) ∈ parcs d ui vi ↔ (x, y) ∈ parcs d u v) := by
  rw [mem_parcs, mem_parcs, mem_arcs, mem_arcs, mem_arcs, mem_arcs, getElem?_inj_iff hnd hx hu,
    getElem?_inj_iff hnd hy hv, getElem?_inj_iff hnd hx hv, getElem?_inj_iff hnd hy hu]
  exact ⟨Iff.rfl, Iff.rfl⟩

end C02
end Graphrs
