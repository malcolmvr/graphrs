/-
  `closeness_centrality` against `ccSpec`: the closed form both sides share (`ccForm`), the value of one node
  (`centrality_eq_ccVal`: the search result is, up to order, the list of incoming distances `ccSpec` sums), the fold
  after the collect, and `closeness_generic`: model = definition given exactness of the per-source search on the graph
  it runs on.  `Store.closeness` is read through its decomposition `closeness_shape` of Props/C07Model (prologue
  `closenessPre`, items `ccItem`, fold `ccFold`).  The namespace `C06C` stands for "C06, closeness".
-/
import GraphrsModel.Lemmas.ListSet
import GraphrsModel.Props.C06
import GraphrsModel.Props.C08
import GraphrsModel.Props.C07Model
import GraphrsModel.Lemmas.C06BellmanFord
import GraphrsModel.Lemmas.C06Levels
import GraphrsModel.Lemmas.C06Transfer
import GraphrsModel.Lemmas.C09ModelAux
import Mathlib.Algebra.BigOperators.Group.List.Basic
import Mathlib.Data.List.Nodup
namespace Graphrs
namespace C06C

def ccDs (nodes : List Nat) (arcs : Arcs) (u : Nat) : List Int :=
  nodes.filterMap fun s => alookup (Arcs.distFrom arcs nodes.length s) u

/-- the closeness value as a function of the number `r` of nodes that reach the node, their total distance `tot` and the
    number `n` of nodes: what `ccSpec` writes out per node -/
def ccForm (r : Nat) (tot : Int) (n : Nat) (wf : Bool) : Rat :=
  if r ≤ 1 || tot == 0 then 0
  else
    if wf then (((r - 1 : Nat) : Rat) / ((tot : Int) : Rat)) * (((r - 1 : Nat) : Rat) / ((n - 1 : Nat) : Rat))
    else ((r - 1 : Nat) : Rat) / ((tot : Int) : Rat)

def ccVal (nodes : List Nat) (arcs : Arcs) (wf : Bool) (u : Nat) : Rat :=
  ccForm (ccDs nodes arcs u).length (sumInt (ccDs nodes arcs u)) nodes.length wf

theorem ccSpec_eq (nodes : List Nat) (arcs : Arcs) (wf : Bool) :
    ccSpec nodes arcs wf = nodes.map fun u => (u, ccVal nodes arcs wf u) := by
  unfold ccSpec
  refine List.map_congr_left fun u _ => ?_
  rw [List.filterMap_map]
  exact (apply_ite (Prod.mk u) _ _ _).symm

theorem alookup_ccSpec (nodes : List Nat) (arcs : Arcs) (wf : Bool) (u : Nat) :
    alookup (ccSpec nodes arcs wf) u = if u ∈ nodes then some (ccVal nodes arcs wf u) else none := by
  rw [ccSpec_eq]
  exact C09M.alookup_map_self nodes _ u

theorem sumInt_perm {l1 l2 : List Int} (h : l1.Perm l2) : sumInt l1 = sumInt l2 := by
  rw [sumInt_eq_sum, sumInt_eq_sum]; exact h.sum_eq

theorem sumInt_nonneg (l : List Int) (h : ∀ d ∈ l, 0 ≤ d) : 0 ≤ sumInt l := by
  rw [sumInt_eq_sum]
  induction l with
  | nil => simp
  | cons a l ih =>
    rw [List.sum_cons]
    exact Int.add_nonneg (h a (List.mem_cons_self ..)) (ih fun d hd => h d (List.mem_cons_of_mem _ hd))

/-- `get_node_centrality` tests `tot > 0 && n > 1`, the definition `r ≤ 1 || tot == 0`: the same test when the total is
    not negative, vanishes with a single reached node, and no more than `n` nodes are reached -/
theorem nodeCentrality_eq (sp : List (Nat × Int)) (n : Nat) (wf : Bool) (h0 : 0 ≤ sumInt (sp.map (·.2)))
    (h1 : sp.length ≤ 1 → sumInt (sp.map (·.2)) = 0) (hn : sp.length ≤ n) :
    nodeCentrality sp n wf = ccForm sp.length (sumInt (sp.map (·.2))) n wf := by
  unfold nodeCentrality ccForm
  simp only [Bool.and_eq_true, Bool.or_eq_true, decide_eq_true_eq, beq_iff_eq]
  by_cases hc : sp.length ≤ 1 ∨ sumInt (sp.map (·.2)) = 0
  · rw [if_pos hc, if_neg]
    rintro ⟨ht, _⟩
    rcases hc with h | h
    · rw [h1 h] at ht; exact Int.lt_irrefl 0 ht
    · rw [h] at ht; exact Int.lt_irrefl 0 ht
  · rw [if_neg hc, if_pos]
    exact ⟨lt_of_le_of_ne h0 fun e => hc (Or.inr e.symm),
      Nat.lt_of_lt_of_le (Nat.lt_of_not_le fun h => hc (Or.inl h)) hn⟩

theorem filterMap_eq_range {α β : Type} (l : List α) (G : α → Option β) :
    l.filterMap G = (List.range l.length).filterMap (fun j => l[j]?.bind G) := by
  induction l with
  | nil => simp
  | cons a l ih =>
    rw [List.length_cons, List.range_succ_eq_map, List.filterMap_cons, List.filterMap_cons, List.filterMap_map]
    simp only [List.getElem?_cons_zero, Option.bind_some, Function.comp_def, List.getElem?_cons_succ]
    rw [← ih]

/-- The search result and the list `ccSpec` sums are the second projections of two duplicate-free lists of pairs
    (index, distance) with the same members: `(j, d)` with `d` the distance from `i` to `j`, that is, from node
    `names[j]` to `u` in the abstract graph. -/
theorem dist_perm {names : List Nat} {IA NA : Arcs} {i u : Nat} {sp : List (Nat × Int)} (G : Nat → Option Int)
    (hsp_nd : (sp.map (·.1)).Nodup) (hsp : ∀ j d, (j, d) ∈ sp ↔ IsDist IA i j d)
    (hsim : ∀ j y d, names[j]? = some y → (IsDist IA i j d ↔ IsDist NA y u d))
    (hrange : ∀ j d, IsDist IA i j d → j < names.length)
    (hexact : ∀ src ∈ names, ∀ d, G src = some d ↔ IsDist NA src u d) :
    (sp.map (·.2)).Perm (names.filterMap G) := by
  rw [filterMap_eq_range]
  have hmap : (List.range names.length).filterMap (fun j => names[j]?.bind G) =
      ((List.range names.length).filterMap (fun j => (names[j]?.bind G).map (fun d => (j, d)))).map (·.2) := by
    rw [List.map_filterMap]
    congr 1
    funext j
    cases names[j]?.bind G <;> rfl
  rw [hmap]
  apply List.Perm.map
  have hLnd : ((List.range names.length).filterMap
      (fun j => (names[j]?.bind G).map (fun d => (j, d)))).Nodup := by
    apply List.Nodup.filterMap _ List.nodup_range
    intro a a' b hb hb'
    simp only [Option.mem_def, Option.map_eq_some_iff] at hb hb'
    obtain ⟨_, _, e⟩ := hb
    obtain ⟨_, _, e'⟩ := hb'
    rw [← e'] at e
    exact (Prod.mk.inj e).1
  rw [List.perm_ext_iff_of_nodup (List.Nodup.of_map _ hsp_nd) hLnd]
  · intro p
    obtain ⟨j, d⟩ := p
    rw [hsp, List.mem_filterMap]
    constructor
    · intro hd
      have hj := hrange j d hd
      refine ⟨j, List.mem_range.2 hj, ?_⟩
      have hy : names[j]? = some names[j] := List.getElem?_eq_getElem hj
      rw [hy]
      simp only [Option.bind_some, Option.map_eq_some_iff, Prod.mk.injEq, true_and, exists_eq_right]
      exact (hexact _ (List.getElem_mem hj) d).2 ((hsim j _ d hy).1 hd)
    · rintro ⟨j', hj', he⟩
      rw [List.mem_range] at hj'
      have hy : names[j']? = some names[j'] := List.getElem?_eq_getElem hj'
      rw [hy] at he
      simp only [Option.bind_some, Option.map_eq_some_iff, Prod.mk.injEq] at he
      obtain ⟨d', hd', e1, e2⟩ := he
      subst e1 e2
      exact (hsim j' _ d' hy).2 ((hexact _ (List.getElem_mem hj') d').1 hd')

theorem alookup_fold_not_mem (key : Nat → Nat) (val : Nat → Rat) (l : List Nat) :
    ∀ (acc : List (Nat × Rat)) (x : Nat), (∀ i ∈ l, key i ≠ x) →
    alookup (l.foldl (fun acc i => ainsert acc (key i) (val i)) acc) x = alookup acc x := by
  induction l with
  | nil => intro acc x _; rfl
  | cons j l ih =>
    intro acc x hx
    rw [List.foldl_cons, ih _ x (fun i hi => hx i (List.mem_cons_of_mem _ hi)), AL.lookup_insert]
    simp [hx j (List.mem_cons_self ..)]

theorem alookup_fold_mem (key : Nat → Nat) (val : Nat → Rat) (l : List Nat) :
    ∀ (acc : List (Nat × Rat)), (l.map key).Nodup → ∀ i ∈ l,
    alookup (l.foldl (fun acc i => ainsert acc (key i) (val i)) acc) (key i) = some (val i) := by
  induction l with
  | nil => intro acc _ i hi; simp at hi
  | cons j l ih =>
    intro acc hnd i hi
    rw [List.map_cons, List.nodup_cons] at hnd
    rw [List.foldl_cons]
    rw [List.mem_cons] at hi
    rcases hi with rfl | hi
    · rw [alookup_fold_not_mem key val l _ _ (fun k hk e => hnd.1 (by rw [← e]; exact List.mem_map_of_mem hk)),
        AL.lookup_insert]
      simp
    · exact ih _ hnd.2 i hi

/-- the per-source search of closeness.rs: the `shortest_paths` of the work item `Store.ccItem` -/
def spOf (g : Store) (weighted : Bool) (src : Nat) : List (Nat × Int) :=
  if weighted then ccWeighted (fun v => g.succVec[v]?.getD []) g.numberOfNodes g.totalAdj src
  else ccLevels (fun v => g.succVec[v]?.getD []) g.numberOfNodes (g.numberOfNodes + 1) [src] [] 0 []

theorem getNodeByIndex_name (g : Store) (hg : g.wf = true) (i : Nat) :
    (g.getNodeByIndex i).map (·.name) = g.names[i]? := by
  rw [C02_getNodeByIndex g hg i]
  exact List.getElem?_map.symm

theorem map_range_getD {α} (l : List α) (d : α) : (List.range l.length).map (fun i => l[i]?.getD d) = l := by
  apply List.ext_getElem (by rw [List.length_map, List.length_range])
  intro i h1 h2
  rw [List.getElem_map, List.getElem_range, List.getElem?_eq_getElem h2]
  rfl

theorem closenessOn_ok (g : Store) (hg : g.wf = true) (weighted wf : Bool) :
    ccFold ((List.range g.numberOfNodes).map (g.ccItem weighted wf)) =
      .ok ((List.range g.numberOfNodes).foldl (fun acc i =>
        ainsert acc (((g.getNodeByIndex i).map (·.name)).getD 0)
          (nodeCentrality (spOf g weighted i) g.numberOfNodes wf)) []) := by
  unfold ccFold seqFold
  rw [List.foldl_map]
  refine Outcome.foldl_ok_pure _ _ _ (fun acc i hi => ?_) []
  obtain ⟨nd, h⟩ : ∃ nd, g.getNodeByIndex i = some nd :=
    ⟨_, (C02_getNodeByIndex g hg i).trans (List.getElem?_eq_getElem (List.mem_range.1 hi))⟩
  unfold Store.ccItem
  rw [h]
  rfl

theorem centrality_eq_ccVal {names : List Nat} {IA NA : Arcs} {i u : Nat} {sp : List (Nat × Int)} (wf : Bool)
    (hn : names.Nodup) (hi : names[i]? = some u)
    (hsp_nd : (sp.map (·.1)).Nodup) (hsp : ∀ j d, (j, d) ∈ sp ↔ IsDist IA i j d)
    (hsim : ∀ j y d, names[j]? = some y → (IsDist IA i j d ↔ IsDist NA y u d))
    (hrange : ∀ j d, IsDist IA i j d → j < names.length)
    (hend : ∀ a ∈ NA, a.1 ∈ names ∧ a.2.1 ∈ names) (hnn : ∀ a ∈ NA, 0 ≤ a.2.2) :
    nodeCentrality sp names.length wf = ccVal names NA wf u := by
  have hexact := fun src hsrc d => C06B.distFrom_exact names NA src hn hsrc hend hnn u d
  have hperm : (sp.map (·.2)).Perm (ccDs names NA u) := dist_perm _ hsp_nd hsp hsim hrange hexact
  have hlen : sp.length = (ccDs names NA u).length := by
    rw [← hperm.length_eq, List.length_map]
  have hsum := sumInt_perm hperm
  have htot : 0 ≤ sumInt (ccDs names NA u) := by
    apply sumInt_nonneg
    intro d hd
    obtain ⟨src, hsrc, hd⟩ := List.mem_filterMap.1 hd
    exact Walk.nonneg hnn ((hexact src hsrc d).1 hd).1
  have hself : (i, (0 : Int)) ∈ sp :=
    (hsp i 0).2 ((hsim i u 0 hi).2 ⟨Walk.nil _, fun c hw => Walk.nonneg hnn hw⟩)
  have hone : sp.length ≤ 1 → sumInt (sp.map (·.2)) = 0 := by
    intro h
    match sp, h, hself with
    | [p], _, hp => rw [← List.mem_singleton.1 hp]; rfl
  have hle : sp.length ≤ names.length := by
    rw [← List.length_map (f := (·.1))]
    refine C06L.nodup_lt_length_le hsp_nd fun v hv => ?_
    obtain ⟨⟨v', d⟩, hm, rfl⟩ := List.mem_map.1 hv
    exact hrange v' d ((hsp v' d).1 hm)
  rw [nodeCentrality_eq sp _ wf (hsum ▸ htot) hone hle, hlen, hsum]
  rfl

theorem closenessOn_spec (g : Store) (hg : g.wf = true) (weighted wfFlag : Bool) (IA NA : Arcs)
    (hsp : ∀ i, i < g.nodesVec.length →
      ((spOf g weighted i).map (·.1)).Nodup ∧ ∀ j d, (j, d) ∈ spOf g weighted i ↔ IsDist IA i j d)
    (hsim : ∀ i j x y d, g.names[i]? = some x → g.names[j]? = some y → (IsDist IA i j d ↔ IsDist NA y x d))
    (hrange : ∀ i j d, i < g.nodesVec.length → IsDist IA i j d → j < g.nodesVec.length)
    (hend : ∀ a ∈ NA, a.1 ∈ g.names ∧ a.2.1 ∈ g.names) (hnn : ∀ a ∈ NA, 0 ≤ a.2.2) :
    ∃ m, ccFold ((List.range g.numberOfNodes).map (g.ccItem weighted wfFlag)) = .ok m ∧
      ∀ u, alookup m u = alookup (ccSpec g.names NA wfFlag) u := by
  have hn : g.names.Nodup := g.names_nodup hg
  have hlenN : g.names.length = g.nodesVec.length := C03.names_length g
  refine ⟨_, closenessOn_ok g hg weighted wfFlag, fun u => ?_⟩
  simp only [getNodeByIndex_name g hg]
  rw [alookup_ccSpec, ← show g.names.length = g.numberOfNodes from hlenN]
  by_cases hu : u ∈ g.names
  · rw [if_pos hu]
    obtain ⟨i, hi⟩ := List.mem_iff_getElem?.1 hu
    have hin : i < g.names.length := Store.getElem?_lt hi
    have hlook := alookup_fold_mem (fun i => g.names[i]?.getD 0)
      (fun i => nodeCentrality (spOf g weighted i) g.names.length wfFlag) (List.range g.names.length) []
      (by rw [map_range_getD]; exact hn) i (List.mem_range.2 hin)
    rw [hi] at hlook
    rw [show alookup _ u = _ from hlook]
    obtain ⟨hsp_nd, hsp_mem⟩ := hsp i (hlenN ▸ hin)
    exact congrArg some (centrality_eq_ccVal wfFlag hn hi hsp_nd hsp_mem (fun j y d hy => hsim i j u y d hi hy)
      (fun j d hd => hlenN ▸ hrange i j d (hlenN ▸ hin) hd) hend hnn)
  · rw [if_neg hu, alookup_fold_not_mem]
    · rfl
    · intro i hi e
      have hin : i < g.names.length := List.mem_range.1 hi
      rw [List.getElem?_eq_getElem hin] at e
      exact hu (e ▸ List.getElem_mem hin)

/-- the model never fails on a well-formed store: the `reverse().unwrap()` and `get_node_by_index().unwrap()` sites are
    not reached -/
theorem closeness_ok (s : Store) (h : s.wf = true) (weighted wfFlag : Bool) :
    ∃ m, s.closeness weighted wfFlag = .ok m := by
  rw [closeness_shape, Store.closenessPre]
  by_cases hd : s.specs.directed = true
  · obtain ⟨t, hrev, ht, _, _⟩ := Core_reverse s h hd
    rw [if_pos hd, hrev]
    exact ⟨_, closenessOn_ok t ht weighted wfFlag⟩
  · rw [if_neg hd]
    exact ⟨_, closenessOn_ok s h weighted wfFlag⟩

theorem arcs_endpoints (s : Store) (h : s.wf = true) (dir weighted : Bool) :
    ∀ a ∈ s.abs.arcs dir weighted, a.1 ∈ s.names ∧ a.2.1 ∈ s.names := by
  intro a ha
  obtain ⟨x, y, c⟩ := a
  rw [C06T.mem_abs_arcs] at ha
  obtain ⟨e, he, _, hk⟩ := ha
  have hends := C06T.edge_endpoints s h e he
  rcases hk with ⟨e1, e2⟩ | ⟨_, e1, e2⟩
  · simp only; rw [← e1, ← e2]; exact hends
  · simp only; rw [← e1, ← e2]; exact ⟨hends.2, hends.1⟩

theorem isDist_reverse (a b : Abs) (hab : AbsEq b a.reverse) (weighted : Bool) (x y : Nat) (d : Int) :
    IsDist (b.arcs true weighted) x y d ↔ IsDist (a.arcs true weighted) y x d := by
  rw [← C06_reverse_dist (a.arcs true weighted) y x d, ← C06_abs_reverse_arcs]
  apply C06T.IsDist.congr
  intro p
  obtain ⟨u, v, c⟩ := p
  rw [C06T.mem_abs_arcs, C06T.mem_abs_arcs]
  have hp := hab.edges_perm
  constructor
  · rintro ⟨e, he, h⟩; exact ⟨e, hp.mem_iff.1 he, h⟩
  · rintro ⟨e, he, h⟩; exact ⟨e, hp.mem_iff.2 he, h⟩

/-- **model = definition, given exactness of the per-source search on the graph it runs on**: `IAof g` are the index
    arcs the search of `g` traverses, `Good g` what the two instances (hop counts, weights) need to know of `g`; the
    graph is `s` itself when undirected and `reverse()` of `s` when directed. -/
theorem closeness_generic (s : Store) (h : s.wf = true) (weighted wfFlag : Bool) (m : List (Nat × Rat))
    (hm : s.closeness weighted wfFlag = .ok m)
    (IAof : Store → Arcs) (Good : Store → Prop)
    (hgood_s : s.specs.directed = false → Good s)
    (hgood_t : s.specs.directed = true → ∀ t, s.reverse = .ok t → t.wf = true → Good t)
    (hSim : ∀ g, g.wf = true → Good g → C06T.ArcSim g.names (IAof g) (g.abs.arcs g.specs.directed weighted))
    (hSp : ∀ g, g.wf = true → Good g → C06T.ArcSim g.names (IAof g) (g.abs.arcs g.specs.directed weighted) →
      ∀ i, i < g.nodesVec.length →
      ((spOf g weighted i).map (·.1)).Nodup ∧ ∀ j d, (j, d) ∈ spOf g weighted i ↔ IsDist (IAof g) i j d)
    (hnn : ∀ a ∈ s.abs.arcs s.specs.directed weighted, 0 ≤ a.2.2) :
    ∀ u, alookup m u = alookup (ccSpec s.getAllNodeNames (s.abs.arcs s.specs.directed weighted) wfFlag) u := by
  rw [closeness_shape, Store.closenessPre] at hm
  -- the search runs on a store `g` with the same names whose outgoing distances are the incoming distances of `s`
  have key : ∀ g : Store, g.wf = true → Good g → g.names = s.names →
      (∀ x y d, IsDist (g.abs.arcs g.specs.directed weighted) x y d ↔
        IsDist (s.abs.arcs s.specs.directed weighted) y x d) →
      ccFold ((List.range g.numberOfNodes).map (g.ccItem weighted wfFlag)) = .ok m →
      ∀ u, alookup m u = alookup (ccSpec s.getAllNodeNames (s.abs.arcs s.specs.directed weighted) wfFlag) u := by
    intro g hg hgood hnames hdist hm u
    have S := hSim g hg hgood
    obtain ⟨m', hm', hspec⟩ := closenessOn_spec g hg weighted wfFlag (IAof g) (s.abs.arcs s.specs.directed weighted)
      (hSp g hg hgood S)
      (fun i j x y d hx hy => (S.isDist (g.names_nodup hg) hx hy d).trans (hdist x y d))
      (fun i j d hi hd => by
        obtain ⟨x, hx⟩ := C06T.getElem?_of_lt_names g i hi
        obtain ⟨y, hy⟩ := S.target hx hd.1
        exact C06T.lt_of_names g hy)
      (hnames ▸ arcs_endpoints s h _ _) hnn
    cases hm'.symm.trans hm
    rw [hspec u, hnames]
    rfl
  by_cases hd : s.specs.directed = true
  · obtain ⟨t, hrev, ht, hspecs, hAbs⟩ := Core_reverse s h hd
    rw [if_pos hd, hrev] at hm
    refine key t ht (hgood_t hd t hrev ht) (congrArg (List.map Node.name) hAbs.1) (fun x y d => ?_) hm
    rw [hspecs, hd]
    exact isDist_reverse s.abs t.abs hAbs weighted x y d
  · rw [if_neg hd] at hm
    rw [Bool.not_eq_true] at hd
    refine key s h (hgood_s hd) rfl (fun x y d => ?_) hm
    rw [hd]
    exact C08_symmetric _ (C08_undirected_arcs_symmetric s.abs weighted) x y d

end C06C
end Graphrs
