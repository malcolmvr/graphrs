/-
  Entry-level invariant of the traversal lists (`Store.rowsNodup`, `Store.entriesStored`): Prop-level form,
  the effect of one `add_to_adjacency_vec` call on it, and its preservation by `add_node` / `add_edge`.

  Vocabulary.  `Nd d vec` is the clause `rowsNodup` for one vector (`d = false`: the row's own index may be listed
  twice, the doubled entry of an undirected self-loop); `St names vec wb` is the clause `entriesStored` for one vector
  against the weight lists `wb`; `EntC` / `EntP` put the four together for a store.  `wk E k` are the weights stored
  under the key `k`, so `wbC E dir x y = wk E (nameKey dir x y)` by definition.  `Nd.step`, `St.step` follow one
  `add_to_adjacency_vec` call, `*.step_pair` the two calls of an undirected edge.
-/
import GraphrsModel.Lemmas.C03Final
namespace Graphrs
namespace C03E
open Store C03

/-- every row names each neighbour at most once (own index excepted on undirected graphs) -/
def Nd (dir : Bool) (vec : AVec) : Prop :=
  ∀ (i : Nat) (row : List Adj), vec[i]? = some row → ((row.map (·.1)).filter (fun j => dir || j != i)).Nodup

/-- every entry carries one of the weights `wb` lists for the pair of names -/
def St (names : List Nat) (vec : AVec) (wb : Nat → Nat → List W) : Prop :=
  ∀ (i : Nat) (row : List Adj), vec[i]? = some row → ∀ a ∈ row, ∀ x y, names[i]? = some x → names[a.1]? = some y →
    a.2 ∈ wb x y

structure EntC (names : List Nat) (E : EMap) (dir : Bool) (sv pv : AVec) : Prop where
  nS : Nd dir sv
  nP : Nd dir pv
  sS : St names sv (wbC E dir)
  sP : St names pv (fun x y => wbC E dir y x)

def EntP (s : Store) : Prop := EntC s.names s.edges s.specs.directed s.succVec s.predVec

theorem filter_fst (row : List Adj) (dir : Bool) (i : Nat) :
    (row.filter (fun a => dir || a.1 != i)).map (·.1) = (row.map (·.1)).filter (fun j => dir || j != i) := by
  rw [List.filter_map]; rfl

theorem ndB_iff (dir : Bool) (vec : AVec) :
    (vec.zipIdx.all fun r => decide ((r.1.filter (fun a => dir || a.1 != r.2)).map (·.1)).Nodup) = true ↔
      Nd dir vec := by
  simp only [List.all_eq_true, decide_eq_true_eq]
  constructor
  · intro h i row hrow
    have := h (row, i) (List.mem_zipIdx_iff_getElem?.2 hrow)
    rw [← filter_fst]; exact this
  · intro h r hr
    obtain ⟨row, i⟩ := r
    have := h i row (List.mem_zipIdx_iff_getElem?.1 hr)
    rw [filter_fst] at *; exact this

theorem rowsNodup_iff (s : Store) :
    s.rowsNodup = true ↔ Nd s.specs.directed s.succVec ∧ Nd s.specs.directed s.predVec := by
  unfold Store.rowsNodup
  simp only [Bool.and_eq_true]
  rw [ndB_iff, ndB_iff]

def stB (names : List Nat) (vec : AVec) (wb : Nat → Nat → List W) : Bool :=
  vec.zipIdx.all fun r => r.1.all fun a =>
    match names[r.2]?, names[a.1]? with
    | some x, some y => (wb x y).contains a.2
    | _, _ => false

theorem entriesStored_eq (s : Store) :
    s.entriesStored = (stB s.names s.succVec (fun x y => s.weightsBetween x y) &&
      stB s.names s.predVec (fun x y => s.weightsBetween y x)) := rfl

theorem stB_iff (names : List Nat) (vec : AVec) (wb : Nat → Nat → List W) :
    stB names vec wb = true ↔ ∀ (i : Nat) (row : List Adj), vec[i]? = some row → ∀ a ∈ row,
      ∃ x y, names[i]? = some x ∧ names[a.1]? = some y ∧ a.2 ∈ wb x y := by
  simp only [stB, List.all_eq_true]
  constructor
  · intro h i row hrow a ha
    have := h (row, i) (List.mem_zipIdx_iff_getElem?.2 hrow) a ha
    simp only at this
    split at this
    · rename_i x y hx hy
      exact ⟨x, y, hx, hy, List.contains_iff_mem.1 this⟩
    · cases this
  · intro h r hr a ha
    obtain ⟨row, i⟩ := r
    obtain ⟨x, y, hx, hy, hm⟩ := h i row (List.mem_zipIdx_iff_getElem?.1 hr) a ha
    simp only [hx, hy]
    exact List.contains_iff_mem.2 hm

theorem St_of_stB {names : List Nat} {vec : AVec} {wb : Nat → Nat → List W} (h : stB names vec wb = true) :
    St names vec wb := by
  rw [stB_iff] at h
  intro i row hrow a ha x y hx hy
  obtain ⟨x', y', hx', hy', hm⟩ := h i row hrow a ha
  rw [hx] at hx'; rw [hy] at hy'; cases hx'; cases hy'
  exact hm

theorem stB_of_St {names : List Nat} {vec : AVec} {wb : Nat → Nat → List W} (h : St names vec wb)
    (hlen : vec.length = names.length)
    (hbnd : ∀ (i : Nat) (row : List Adj), vec[i]? = some row → ∀ a ∈ row, a.1 < names.length) :
    stB names vec wb = true := by
  rw [stB_iff]
  intro i row hrow a ha
  have hi : i < names.length := by rw [← hlen]; exact Store.getElem?_lt hrow
  have hj := hbnd i row hrow a ha
  exact ⟨names[i], names[a.1], List.getElem?_eq_getElem hi, List.getElem?_eq_getElem hj,
    h i row hrow a ha _ _ (List.getElem?_eq_getElem hi) (List.getElem?_eq_getElem hj)⟩

theorem entOk_parts (s : Store) :
    (s.rowsNodup && s.entriesStored) = true ↔ s.rowsNodup = true ∧ s.entriesStored = true :=
  Bool.and_eq_true_iff

theorem entP_of_bool (s : Store) (h1 : s.rowsNodup = true) (h2 : s.entriesStored = true) : EntP s := by
  rw [rowsNodup_iff] at h1
  rw [entriesStored_eq, Bool.and_eq_true] at h2
  exact ⟨h1.1, h1.2, St_of_stB h2.1, St_of_stB h2.2⟩

/-- and back, given the index bounds that `vecOk` provides -/
theorem bool_of_entP (s : Store) (hv : PreV s) (h : EntP s) : s.rowsNodup = true ∧ s.entriesStored = true := by
  obtain ⟨vS, _, vP, _⟩ := hv
  refine ⟨(rowsNodup_iff s).2 ⟨h.nS, h.nP⟩, ?_⟩
  rw [entriesStored_eq, Bool.and_eq_true]
  exact ⟨stB_of_St h.sS vS.len vS.bnd, stB_of_St h.sP vP.len vP.bnd⟩

theorem Nd.update {dir : Bool} {vec : AVec} (h : Nd dir vec) {u : Nat} {row : List Adj}
    (hrow : vec[u]? = some row) (v : Nat) (w : W) (upd : AdjUpd)
    (hp : upd = .push → (dir = true ∨ v ≠ u) → ∀ a ∈ row, a.1 ≠ v) :
    Nd dir (vec.set u (updRow row v w upd)) := by
  intro i r hr
  by_cases hiu : u = i
  · subst hiu
    rw [List.getElem?_set_self (Store.getElem?_lt hrow)] at hr
    cases hr
    rw [map_fst_updRow]
    have hold := h u row hrow
    by_cases hpush : upd = .push
    · rw [if_pos hpush, List.filter_append]
      by_cases hc : (dir || v != u) = true
      · rw [List.filter_cons_of_pos (p := fun j => dir || j != u) hc, List.filter_nil, List.nodup_append]
        refine ⟨hold, List.nodup_cons.2 ⟨List.not_mem_nil, List.nodup_nil⟩, ?_⟩
        intro a ha b hb
        rw [List.mem_singleton.1 hb]
        rintro rfl
        obtain ⟨c, hc1, hc2⟩ := List.mem_map.1 (List.mem_filter.1 ha).1
        exact hp hpush ((Bool.or_eq_true_iff.1 hc).imp id (fun h' => bne_iff_ne.1 h')) c hc1 hc2
      · rw [List.filter_cons_of_neg (p := fun j => dir || j != u) hc, List.filter_nil, List.append_nil]
        exact hold
    · rw [if_neg hpush]; exact hold
  · rw [List.getElem?_set_ne hiu] at hr
    exact h i r hr

theorem St.update {names : List Nat} {vec : AVec} {wb wb1 : Nat → Nat → List W} (h : St names vec wb)
    (hn : names.Nodup) {u v x0 y0 : Nat} (hu : names[u]? = some x0) (hv : names[v]? = some y0)
    {row : List Adj} (hrow : vec[u]? = some row) (w : W) (upd : AdjUpd)
    (h1 : ∀ x y, ¬ (x = x0 ∧ y = y0) → ∀ c ∈ wb x y, c ∈ wb1 x y)
    (h2 : upd ≠ .untouched → w ∈ wb1 x0 y0)
    (h3 : upd ≠ .overwrite → ∀ c ∈ wb x0 y0, c ∈ wb1 x0 y0) :
    St names (vec.set u (updRow row v w upd)) wb1 := by
  intro i r hr a ha x y hx hy
  by_cases hiu : u = i
  · subst hiu
    rw [List.getElem?_set_self (Store.getElem?_lt hrow)] at hr
    cases hr
    cases hu.symm.trans hx
    rcases mem_updRow row v w upd a ha with ⟨hm, hov⟩ | ⟨rfl, hnu⟩
    · have hold := h u row hrow a hm x0 y hu hy
      by_cases hy0 : y = y0
      · subst hy0
        exact h3 (fun e => hov e (names_inj hn hy hv)) _ hold
      · exact h1 x0 y (fun e => hy0 e.2) _ hold
    · cases hv.symm.trans hy
      exact h2 hnu
  · rw [List.getElem?_set_ne hiu] at hr
    exact h1 x y (fun e => hiu (names_inj hn hu (e.1 ▸ hx))) _ (h i r hr a ha x y hx hy)

theorem no_entry {names : List Nat} {vec : AVec} {f : Nat → Nat → Option W} (h : VecInv names vec f)
    {u v x0 y0 : Nat} (hu : names[u]? = some x0) (hv : names[v]? = some y0) (hf : f x0 y0 = none)
    {row : List Adj} (hrow : vec[u]? = some row) : ∀ a ∈ row, a.1 ≠ v := by
  intro a ha hav
  have h1 := h.val u v x0 y0 hu hv
  rw [hf] at h1
  rw [rowMin_of_row hrow, minW_eq_none] at h1
  exact (wts_ne_nil_iff row v).2 ⟨a, ha, hav⟩ h1

theorem Nd.step {d : Bool} {names : List Nat} {vec vec' : AVec} {f : Nat → Nat → Option W} (h : Nd d vec)
    (hV : VecInv names vec f) {u v x0 y0 : Nat} (hu : names[u]? = some x0) (hv : names[v]? = some y0)
    {w : W} {upd : AdjUpd} (hp : upd = .push → f x0 y0 = none) (h1 : adjUpdate vec u v w upd = some vec') :
    Nd d vec' := by
  obtain ⟨row, hrow, rfl⟩ := adjUpdate_some h1
  exact h.update hrow v w upd (fun hpu _ => no_entry hV hu hv (hp hpu) hrow)

/-- the two updates of an undirected edge: a self-loop pushes its own position twice, which is what `Nd false` allows -/
theorem Nd.step_pair {names : List Nat} {vec v1 v2 : AVec} {f : Nat → Nat → Option W} (h : Nd false vec)
    (hV : VecInv names vec f) {u v x0 y0 : Nat} (hu : names[u]? = some x0) (hv : names[v]? = some y0)
    {w : W} {upd : AdjUpd} (hp : upd = .push → f x0 y0 = none ∧ f y0 x0 = none)
    (h1 : adjUpdate vec u v w upd = some v1) (h2 : adjUpdate v1 v u w upd = some v2) : Nd false v2 := by
  obtain ⟨row1, hrow1, rfl⟩ := adjUpdate_some h1
  obtain ⟨row2, hrow2, rfl⟩ := adjUpdate_some h2
  refine (h.update hrow1 v w upd (fun hpu _ => no_entry hV hu hv (hp hpu).1 hrow1)).update hrow2 u w upd ?_
  intro hpu hor
  rw [List.getElem?_set_ne (hor.resolve_left (by decide))] at hrow2
  exact no_entry hV hv hu (hp hpu).2 hrow2

def wk (E : EMap) (k : Nat × Nat) : List W := ((alookup E k).getD []).map (·.w)

theorem wk_new_ne (sp : Specs) (E : EMap) (o : Edge) {key k : Nat × Nat} (hk : k ≠ key) :
    wk (newEdges sp E o key) k = wk E k := by
  unfold wk; rw [alookup_newEdges_ne _ _ _ _ _ hk]

theorem wk_new_w (sp : Specs) (E : EMap) (o : Edge) (key : Nat × Nat)
    (hu : updOf (alookup E key).isSome sp ≠ .untouched) : o.w ∈ wk (newEdges sp E o key) key := by
  unfold wk
  rw [alookup_newEdges_self]
  cases hl : alookup E key with
  | none => exact List.mem_singleton.2 rfl
  | some l =>
    rw [hl] at hu
    cases hm : sp.multi with
    | true =>
      show o.w ∈ (l ++ [o]).map (·.w)
      rw [List.map_append]
      exact List.mem_append_right _ (List.mem_singleton.2 rfl)
    | false =>
      rw [Option.isSome_some, updOf_true_single _ hm] at hu
      cases hkl : (sp.dedupe == Dedupe.keepLast) with
      | true => exact List.mem_singleton.2 rfl
      | false => rw [hkl] at hu; exact absurd rfl hu

theorem wk_new_sub (sp : Specs) (E : EMap) (o : Edge) (key : Nat × Nat)
    (hu : updOf (alookup E key).isSome sp ≠ .overwrite) : ∀ c ∈ wk E key, c ∈ wk (newEdges sp E o key) key := by
  intro c hc
  unfold wk at hc ⊢
  rw [alookup_newEdges_self]
  cases hl : alookup E key with
  | none => rw [hl] at hc; cases hc
  | some l =>
    rw [hl] at hc hu
    cases hm : sp.multi with
    | true =>
      show c ∈ (l ++ [o]).map (·.w)
      rw [List.map_append]
      exact List.mem_append_left _ hc
    | false =>
      rw [Option.isSome_some, updOf_true_single _ hm] at hu
      cases hkl : (sp.dedupe == Dedupe.keepLast) with
      | true => rw [hkl] at hu; exact absurd rfl hu
      | false => exact hc

theorem St.step {names : List Nat} {vec vec' : AVec} {E : EMap} {k : Nat → Nat → Nat × Nat}
    (h : St names vec (fun x y => wk E (k x y))) (hn : names.Nodup) {u v x0 y0 : Nat}
    (hu : names[u]? = some x0) (hv : names[v]? = some y0) {sp : Specs} {o : Edge} {key : Nat × Nat}
    (hk : ∀ x y, k x y = key ↔ x = x0 ∧ y = y0) {w : W} (how : o.w = w)
    (h1 : adjUpdate vec u v w (updOf (alookup E key).isSome sp) = some vec') :
    St names vec' (fun x y => wk (newEdges sp E o key) (k x y)) := by
  obtain ⟨row, hrow, rfl⟩ := adjUpdate_some h1
  subst how
  have hk0 := (hk x0 y0).2 ⟨rfl, rfl⟩
  refine h.update hn hu hv hrow o.w _ (fun x y hxy c hc => ?_) (fun hupd => ?_) (fun hupd => ?_)
  · show c ∈ wk _ _
    rw [wk_new_ne _ _ _ (fun e => hxy ((hk x y).1 e))]
    exact hc
  · show o.w ∈ wk _ _
    rw [hk0]
    exact wk_new_w sp E o key hupd
  · show ∀ c ∈ wk _ _, c ∈ wk _ _
    rw [hk0]
    exact wk_new_sub sp E o key hupd

theorem St.step_pair {names : List Nat} {vec v1 v2 : AVec} {E : EMap} {k : Nat → Nat → Nat × Nat}
    (h : St names vec (fun x y => wk E (k x y))) (hn : names.Nodup) {u v x0 y0 : Nat}
    (hu : names[u]? = some x0) (hv : names[v]? = some y0) {sp : Specs} {o : Edge} {key : Nat × Nat}
    (hk : ∀ x y, k x y = key ↔ (x = x0 ∧ y = y0) ∨ (x = y0 ∧ y = x0)) {w : W} (how : o.w = w)
    (h1 : adjUpdate vec u v w (updOf (alookup E key).isSome sp) = some v1)
    (h2 : adjUpdate v1 v u w (updOf (alookup E key).isSome sp) = some v2) :
    St names v2 (fun x y => wk (newEdges sp E o key) (k x y)) := by
  obtain ⟨row1, hrow1, rfl⟩ := adjUpdate_some h1
  obtain ⟨row2, hrow2, rfl⟩ := adjUpdate_some h2
  subst how
  have hk1 := (hk x0 y0).2 (Or.inl ⟨rfl, rfl⟩)
  have hk2 := (hk y0 x0).2 (Or.inr ⟨rfl, rfl⟩)
  -- after the first update the pair `(x0, y0)` is read against the new store, every other pair against the old one
  have hS1 : St names (vec.set u (updRow row1 v o.w (updOf (alookup E key).isSome sp)))
      (fun x y => if x = x0 ∧ y = y0 then wk (newEdges sp E o key) (k x y) else wk E (k x y)) := by
    refine h.update hn hu hv hrow1 o.w _ (fun x y hc c hcm => ?_) (fun hupd => ?_) (fun hupd => ?_)
    · rw [if_neg hc]; exact hcm
    · rw [if_pos ⟨rfl, rfl⟩, hk1]
      exact wk_new_w sp E o key hupd
    · rw [if_pos ⟨rfl, rfl⟩, hk1]
      exact wk_new_sub sp E o key hupd
  refine hS1.update hn hv hu hrow2 o.w _ (fun x y hc c hcm => ?_) (fun hupd => ?_) (fun hupd c hcm => ?_)
  · show c ∈ wk _ _
    by_cases hc1 : x = x0 ∧ y = y0
    · rw [if_pos hc1] at hcm; exact hcm
    · rw [if_neg hc1] at hcm
      rw [wk_new_ne _ _ _ (fun e => ((hk x y).1 e).elim hc1 hc)]
      exact hcm
  · show o.w ∈ wk _ _
    rw [hk2]
    exact wk_new_w sp E o key hupd
  · show c ∈ wk _ _
    by_cases hc1 : y0 = x0 ∧ x0 = y0
    · rw [if_pos hc1] at hcm; exact hcm
    · rw [if_neg hc1] at hcm
      rw [hk2] at hcm ⊢
      exact wk_new_sub sp E o key hupd c hcm

theorem Nd.addNode {dir : Bool} {vec : AVec} (h : Nd dir vec) : Nd dir (vec ++ [[]]) := by
  intro i row hrow
  rcases (getElem?_concat_eq_some _ _ _ _).1 hrow with hr | ⟨_, rfl⟩
  · exact h i row hr
  · exact List.nodup_nil

theorem St.addNode {names : List Nat} {vec : AVec} {wb : Nat → Nat → List W} (h : St names vec wb)
    (hlen : vec.length = names.length)
    (hbnd : ∀ (i : Nat) (row : List Adj), vec[i]? = some row → ∀ a ∈ row, a.1 < names.length) (name : Nat) :
    St (names ++ [name]) (vec ++ [[]]) wb := by
  intro i row hrow a ha x y hx hy
  rcases (getElem?_concat_eq_some _ _ _ _).1 hrow with hr | ⟨_, rfl⟩
  · rw [List.getElem?_append_left (hlen ▸ Store.getElem?_lt hr)] at hx
    rw [List.getElem?_append_left (hbnd i row hr a ha)] at hy
    exact h i row hr a ha x y hx hy
  · cases ha

theorem stS_addNode (wb : EMap → Bool → Nat → Nat → List W) (t : Store) (n : Node) (hp : Pre t)
    (h : St t.names t.succVec (wb t.edges t.specs.directed)) :
    St (t.addNode n).names (t.addNode n).succVec (wb (t.addNode n).edges (t.addNode n).specs.directed) := by
  refine addNode_ind (P := fun r => St r.names r.succVec (wb r.edges r.specs.directed)) t n hp
    (fun i _ hn => ?_) (fun _ => ?_)
  · show St (List.map _ _) _ _
    rw [hn]; exact h
  · show St (List.map _ (t.nodesVec ++ [n])) _ _
    rw [List.map_append]
    exact h.addNode hp.vS.len hp.vS.bnd _

theorem stP_addNode (wb : EMap → Bool → Nat → Nat → List W) (t : Store) (n : Node) (hp : Pre t)
    (h : St t.names t.predVec (wb t.edges t.specs.directed)) :
    St (t.addNode n).names (t.addNode n).predVec (wb (t.addNode n).edges (t.addNode n).specs.directed) := by
  refine addNode_ind (P := fun r => St r.names r.predVec (wb r.edges r.specs.directed)) t n hp
    (fun i _ hn => ?_) (fun _ => ?_)
  · show St (List.map _ _) _ _
    rw [hn]; exact h
  · show St (List.map _ (t.nodesVec ++ [n])) _ _
    rw [List.map_append]
    exact h.addNode hp.vP.len hp.vP.bnd _

theorem ndS_addNode {d : Bool} (t : Store) (n : Node) (hp : Pre t) (h : Nd d t.succVec) :
    Nd d (t.addNode n).succVec :=
  addNode_ind (P := fun r => Nd d r.succVec) t n hp (fun _ _ _ => h) (fun _ => h.addNode)

theorem ndP_addNode {d : Bool} (t : Store) (n : Node) (hp : Pre t) (h : Nd d t.predVec) :
    Nd d (t.addNode n).predVec :=
  addNode_ind (P := fun r => Nd d r.predVec) t n hp (fun _ _ _ => h) (fun _ => h.addNode)

theorem entP_addNode (s : Store) (node : Node) (hp : Pre s) (h : EntP s) : EntP (s.addNode node) := by
  have h3 := stS_addNode wbC s node hp h.sS
  have h4 := stP_addNode (fun E dir x y => wbC E dir y x) s node hp h.sP
  unfold EntP
  rw [addNode_specs] at h3 h4 ⊢
  exact ⟨ndS_addNode s node hp h.nS, ndP_addNode s node hp h.nP, h3, h4⟩

theorem undir_keys {dir : Bool} (hd : dir = false) {x0 y0 u v : Nat}
    (hxy : (x0 = u ∧ y0 = v) ∨ (x0 = v ∧ y0 = u)) :
    nameKey dir x0 y0 = nameKey dir u v ∧ nameKey dir y0 x0 = nameKey dir u v := by
  subst hd
  rcases hxy with ⟨rfl, rfl⟩ | ⟨rfl, rfl⟩
  · exact ⟨rfl, nameKey_symm _ _⟩
  · exact ⟨nameKey_symm _ _, rfl⟩

/-- `successors_vec` names each neighbour once; `d` may be `false` on a directed graph too -/
theorem ndS_addEdge (d : Bool) (s : Store) (e : Edge) (hp : Pre s) (hd : d = true → s.specs.directed = true)
    (h : Nd d s.succVec) : Nd d (s.addEdge e).1.succVec := by
  refine addEdge_ind (P := fun t => Nd d t.succVec) s e hp h
    ndS_addNode
    (fun t ui vi sv1 pv1 hpt ht _ _ hxu hxv h1 _ _ => ht.step hpt.vS hxu hxv fS_none_of_push h1)
    (fun t ui vi ou ov x0 y0 sv1 sv2 hpt ht hst hdt _ _ hou hov hxy h1 h2 _ => ?_)
  obtain ⟨k1, k2⟩ := undir_keys hdt hxy
  have hdf : d = false := by
    cases d
    · rfl
    · rw [hst, hd rfl] at hdt; cases hdt
  subst hdf
  exact ht.step_pair hpt.vS hou hov
    (fun hpu => ⟨fS_none_of_push (by rw [k1]; exact hpu), fS_none_of_push (by rw [k2]; exact hpu)⟩) h1 h2

theorem ndP_addEdge (d : Bool) (s : Store) (e : Edge) (hp : Pre s) (h : Nd d s.predVec) :
    Nd d (s.addEdge e).1.predVec := by
  refine addEdge_ind (P := fun t => Nd d t.predVec) s e hp h
    ndP_addNode
    (fun t ui vi sv1 pv1 hpt ht _ hdt hxu hxv _ h2 _ => ht.step hpt.vP hxv hxu (fun hpu => ?_) h2)
    (fun _ _ _ _ _ _ _ _ _ _ ht _ _ _ _ _ _ _ _ _ _ => ht)
  unfold fP
  rw [if_pos hdt]
  exact fS_none_of_push hpu

theorem stS_addEdge (s : Store) (e : Edge) (hp : Pre s) (h : St s.names s.succVec (wbC s.edges s.specs.directed)) :
    St (s.addEdge e).1.names (s.addEdge e).1.succVec (wbC (s.addEdge e).1.edges (s.addEdge e).1.specs.directed) := by
  refine addEdge_ind (P := fun t => St t.names t.succVec (wbC t.edges t.specs.directed)) s e hp h
    (stS_addNode wbC)
    (fun t ui vi sv1 pv1 hpt ht _ hdt hxu hxv h1 _ _ => ?_)
    (fun t ui vi ou ov x0 y0 sv1 sv2 hpt ht _ hdt _ _ hou hov hxy h1 h2 _ => ?_)
  · refine St.step (k := nameKey t.specs.directed) ht hpt.nodup hxu hxv (fun x y => ?_) (canon_w _ e) h1
    rw [nameKey_eq_iff, hdt]
    exact ⟨fun hc => hc.resolve_right (fun hc' => by cases hc'.1), Or.inl⟩
  · obtain ⟨k1, -⟩ := undir_keys hdt hxy
    refine St.step_pair (k := nameKey t.specs.directed) ht hpt.nodup hou hov (fun x y => ?_) (canon_w _ e) h1 h2
    rw [← k1, nameKey_eq_iff, hdt]
    exact ⟨fun hc => hc.imp id (fun hc' => hc'.2), fun hc => hc.imp id (fun hc' => ⟨rfl, hc'⟩)⟩

theorem stP_addEdge (s : Store) (e : Edge) (hp : Pre s)
    (h : St s.names s.predVec (fun x y => wbC s.edges s.specs.directed y x)) :
    St (s.addEdge e).1.names (s.addEdge e).1.predVec
      (fun x y => wbC (s.addEdge e).1.edges (s.addEdge e).1.specs.directed y x) := by
  refine addEdge_ind (P := fun t => St t.names t.predVec (fun x y => wbC t.edges t.specs.directed y x)) s e hp h
    (stP_addNode (fun E dir x y => wbC E dir y x))
    (fun t ui vi sv1 pv1 hpt ht _ hdt hxu hxv _ h2 _ => ?_)
    (fun t ui vi ou ov x0 y0 sv1 sv2 hpt ht _ hdt _ _ _ _ _ _ _ _ => ?_)
  · refine St.step (k := fun x y => nameKey t.specs.directed y x) ht hpt.nodup hxv hxu (fun x y => ?_)
      (canon_w _ e) h2
    rw [nameKey_eq_iff, hdt]
    exact ⟨fun hc => (hc.resolve_right (fun hc' => by cases hc'.1)).symm, fun hc => Or.inl hc.symm⟩
  · -- the predecessor rows of an undirected graph are empty
    intro i row hrow a ha x y hx hy
    refine absurd rfl (no_entry hpt.vP hx hy ?_ hrow a ha)
    unfold fP
    rw [hdt]; rfl

theorem entP_addEdge (s : Store) (e : Edge) (hp : Pre s) (he : EntP s) : EntP (s.addEdge e).1 := by
  have h3 := stS_addEdge s e hp he.sS
  have h4 := stP_addEdge s e hp he.sP
  unfold EntP
  rw [Store.addEdge_specs s e] at h3 h4 ⊢
  exact ⟨ndS_addEdge _ s e hp id he.nS, ndP_addEdge _ s e hp he.nP, h3, h4⟩

end C03E
end Graphrs
