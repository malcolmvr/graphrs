/-
  Weights for Props/C11Weighted.lean: the model's `maxWeightG` (the `max_weight` that `get_weighted_triangles_and_degrees`
  and `get_directed_weighted_triangles_and_degrees` compute inline) and `normWG` (`get_normalized_edge_weight`), at the real
  instance, against `Abs.maxWG` / `Abs.weightOfG` of Spec/Cluster.lean, and the bounds `0 ≤ ŵ ≤ 1` of the normalised weights.
  Imports Props/C18Model.lean for `getEdge_between` (what `get_edge` returns on a single-edge store).
-/
import GraphrsModel.Lemmas.C11WReal
import GraphrsModel.Props.C18Model
namespace Graphrs
namespace C11W
open C02

/-- every edge carries a (strictly) positive weight; `Store.positiveWeights s` (Props/C11Weighted.lean) is `PosW s.abs` by
    definition (`s.abs.edges` is `s.allEdges`) -/
def PosW (a : Abs) : Prop := ∀ e ∈ a.edges, ∃ c : Int, e.w = some c ∧ 0 < c

/-- the normalised weight `ŵ_uv` of the definition, as a real number -/
noncomputable def wR (a : Abs) (dir : Bool) (u v : Nat) : ℝ := a.weightOfG R dir u v / a.maxWG R

theorem map_wToG (l : List Edge) (hl : ∀ e ∈ l, ∃ c : Int, e.w = some c) :
    l.map (fun e => Store.wToG R e.w) = (l.filterMap fun e => e.w).map fun z : Int => (z : ℝ) := by
  induction l with
  | nil => rfl
  | cons e l ih =>
    obtain ⟨c, hc⟩ := hl e List.mem_cons_self
    rw [List.map_cons, List.filterMap_cons, hc, ih fun e he => hl e (List.mem_cons_of_mem _ he)]
    rfl

theorem maxWeight_eq (s : Store) (hw : PosW s.abs) : s.maxWeightG R = s.abs.maxWG R := by
  unfold Store.maxWeightG Abs.maxWG
  rw [map_wToG s.allEdges (fun e he => let ⟨c, hc, _⟩ := hw e he; ⟨c, hc⟩)]
  show _ = match s.allEdges.filterMap (fun e => e.w) with
    | [] => (1 : ℝ)
    | w :: ws => ((ws.foldl max w : Int) : ℝ)
  cases s.allEdges.filterMap (fun e => e.w) with
  | nil => rfl
  | cons w ws => exact foldl_max_cast ws w

theorem mem_weights (a : Abs) (hw : PosW a) (c : Int) (hc : c ∈ a.edges.filterMap fun e => e.w) : 0 < c := by
  obtain ⟨e, he, hec⟩ := List.mem_filterMap.1 hc
  obtain ⟨c', h1, h2⟩ := hw e he
  rw [h1] at hec
  cases hec
  exact h2

theorem maxW_spec (a : Abs) (hw : PosW a) :
    0 < a.maxWG R ∧ ∀ c : Int, c ∈ a.edges.filterMap (fun e => e.w) → (c : ℝ) ≤ a.maxWG R := by
  have hm := mem_weights a hw
  unfold Abs.maxWG
  generalize a.edges.filterMap (fun e => e.w) = l at hm ⊢
  cases l with
  | nil => exact ⟨one_pos, fun c hc => absurd hc List.not_mem_nil⟩
  | cons w ws =>
    have hmax := le_foldl_max ws w
    refine ⟨Int.cast_pos.2 (lt_of_lt_of_le (hm w List.mem_cons_self) hmax.1), fun c hc => Int.cast_le.2 ?_⟩
    rcases List.mem_cons.1 hc with rfl | hc
    · exact hmax.1
    · exact hmax.2 c hc

theorem maxW_pos (a : Abs) (hw : PosW a) : 0 < a.maxWG R := (maxW_spec a hw).1

theorem weight_le_max (a : Abs) (hw : PosW a) (e : Edge) (he : e ∈ a.edges) (c : Int) (hc : e.w = some c) :
    (0 : ℝ) < (c : ℝ) ∧ (c : ℝ) ≤ a.maxWG R :=
  have hmem : c ∈ a.edges.filterMap fun e => e.w := List.mem_filterMap.2 ⟨e, he, hc⟩
  ⟨Int.cast_pos.2 (mem_weights a hw c hmem), (maxW_spec a hw).2 c hmem⟩

theorem weightOfG_of_find (a : Abs) (dir : Bool) (u v : Nat) (e : Edge) (c : Int)
    (hf : a.edges.find? (fun e => Abs.sameKey dir e u v) = some e) (hc : e.w = some c) :
    a.weightOfG R dir u v = (c : ℝ) := by
  unfold Abs.weightOfG
  rw [hf]
  obtain ⟨eu, ev, ew, ea⟩ := e
  simp only at hc
  subst hc
  rfl

theorem weightOfG_none (a : Abs) (dir : Bool) (u v : Nat)
    (hf : a.edges.find? (fun e => Abs.sameKey dir e u v) = none) : a.weightOfG R dir u v = 0 := by
  unfold Abs.weightOfG
  rw [hf]
  rfl

theorem wR_bounds (a : Abs) (hw : PosW a) (dir : Bool) (u v : Nat) : 0 ≤ wR a dir u v ∧ wR a dir u v ≤ 1 := by
  have hM := maxW_pos a hw
  unfold wR
  cases hf : a.edges.find? (fun e => Abs.sameKey dir e u v) with
  | none =>
    rw [weightOfG_none a dir u v hf, zero_div]
    exact ⟨le_rfl, zero_le_one⟩
  | some e =>
    have he : e ∈ a.edges := List.mem_of_find?_eq_some hf
    obtain ⟨c, hc, _⟩ := hw e he
    rw [weightOfG_of_find a dir u v e c hf hc]
    have := weight_le_max a hw e he c hc
    exact ⟨div_nonneg this.1.le hM.le, (div_le_one hM).2 this.2⟩

theorem sameKey_false_symm (e : Edge) (u v : Nat) : Abs.sameKey false e u v = Abs.sameKey false e v u := by
  simp only [Abs.sameKey, Bool.not_false, Bool.true_and]
  exact Bool.or_comm _ _

theorem wR_symm (a : Abs) (u v : Nat) : wR a false u v = wR a false v u := by
  unfold wR Abs.weightOfG
  simp only [sameKey_false_symm]

theorem normW_eq (s : Store) (h : s.wf = true) (hm : s.specs.multi = false) (hw : PosW s.abs) (u v : Nat)
    (e' : Edge) (he' : e' ∈ s.abs.edges) (hk : Abs.sameKey s.specs.directed e' u v = true) :
    s.normWG R (s.maxWeightG R) u v = wR s.abs s.specs.directed u v := by
  rcases getEdge_between s h hm u v with ⟨_, e, hge, hbe⟩ | ⟨_, hnil⟩
  · have hf : s.abs.edges.find? (fun e => Abs.sameKey s.specs.directed e u v) = some e := by
      have : (s.abs.edges.filter fun e => Abs.sameKey s.specs.directed e u v).head? = some e := by
        -- `Abs.between` is this filter
        rw [show s.abs.edges.filter (fun e => Abs.sameKey s.specs.directed e u v) = [e] from hbe]; rfl
      rwa [List.head?_filter] at this
    obtain ⟨c, hc, _⟩ := hw e (List.mem_of_find?_eq_some hf)
    unfold Store.normWG wR
    rw [hge, weightOfG_of_find s.abs _ u v e c hf hc, maxWeight_eq s hw]
    show Store.wToG R e.w / _ = _
    rw [hc]
    rfl
  · exact absurd (hnil ▸ List.mem_filter.2 ⟨he', hk⟩ : e' ∈ ([] : List Edge)) List.not_mem_nil

end C11W
end Graphrs
