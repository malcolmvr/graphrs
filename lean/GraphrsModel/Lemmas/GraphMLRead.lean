/-
  What the element handlers of the GraphML reader and one iteration of its loop (`Xml.readStep`, Model/GraphML.lean)
  do to the reader state, read off a successful return.
-/
import GraphrsModel.Model.GraphML
namespace Graphrs
namespace Xml

theorem setLastWeight_append (l : List Edge) (e : Edge) (w : W) :
    setLastWeight (l ++ [e]) w = l ++ [{ e with w := w }] := by
  simp [setLastWeight]

theorem setLastWeight_ends (l : List Edge) (w : W) :
    (setLastWeight l w).map (fun e => (e.u, e.v)) = l.map (fun e => (e.u, e.v)) := by
  rcases List.eq_nil_or_concat l with h | ⟨l', e, h⟩
  · subst h; rfl
  · subst h
    rw [List.concat_eq_append, setLastWeight_append]
    simp

theorem addNode_ok {st st' : RState} {attrs : Attrs} (h : addNode st attrs = .ok st') :
    ∃ a i, attrs = some a ∧ attrGet a sId = some i ∧ st' = { st with nodes := st.nodes ++ [⟨i, none⟩] } := by
  cases attrs with
  | none => cases h
  | some a =>
    simp only [addNode] at h
    split at h
    · cases h
    · next i hi => exact ⟨a, i, rfl, hi, by cases h; rfl⟩

theorem addEdge_ok {st st' : RState} {attrs : Attrs} (h : addEdge st attrs = .ok st') :
    ∃ a u v, attrs = some a ∧ attrGet a sSource = some u ∧ attrGet a sTarget = some v ∧
      st' = { st with edges := st.edges ++ [⟨u, v, none, none⟩] } := by
  cases attrs with
  | none => cases h
  | some a =>
    simp only [addEdge] at h
    split at h
    · next u v hu hv => exact ⟨a, u, v, rfl, hu, hv, by cases h; rfl⟩
    · cases h

theorem graphElem_ok {st st' : RState} {attrs : Attrs} (h : graphElem st attrs = .ok st') :
    ∃ a d, attrs = some a ∧ attrGet a sEdgeDefault = some (if d then sDirected else sUndirected) ∧
      st' = { st with directed := d } := by
  cases attrs with
  | none => cases h
  | some a =>
    simp only [graphElem] at h
    split at h
    · cases h
    · next v hv =>
      split at h
      · next h1 => exact ⟨a, true, rfl, by rw [hv, eq_of_beq h1]; rfl, by cases h; rfl⟩
      · split at h
        · next h2 => exact ⟨a, false, rfl, by rw [hv, eq_of_beq h2]; rfl, by cases h; rfl⟩
        · cases h

theorem keyElem_ok {st st' : RState} {attrs : Attrs} (h : keyElem st attrs = .ok st') :
    ∃ k, st' = { st with weightKey := k } := by
  cases attrs with
  | none => cases h
  | some a =>
    simp only [keyElem] at h
    split at h
    · split at h
      · next i _ => exact ⟨i, by cases h; rfl⟩
      · exact ⟨st.weightKey, by cases h; rfl⟩
    · exact ⟨st.weightKey, by cases h; rfl⟩

/-- the `?` behind a handler call inside `readStep` -/
def cont (r : Except ErrKind RState) : Except ErrKind (Option RState) :=
  match r with | .ok s => .ok (some s) | .error e => .error e

theorem cont_ok {r : Except ErrKind RState} {o : Option RState} (h : cont r = .ok o) : ∃ s, r = .ok s ∧ o = some s := by
  cases r with
  | ok s => exact ⟨s, rfl, by cases h; rfl⟩
  | error e => cases h

variable (st0 : RState) (name : Nat) (attrs : Attrs)

theorem readStep_start_eq :
    readStep st0 (.start name attrs) =
      if name == sGraph then cont (graphElem { st0 with expecting := false } attrs)
      else if name == sNode then cont (addNode { st0 with expecting := false, lastElem := sNode } attrs)
      else if name == sEdge then cont (addEdge { st0 with expecting := false, lastElem := sEdge } attrs)
      else if name == sKey then cont (keyElem { st0 with expecting := false } attrs)
      else if name == sData then
        match attrs with
        | none => .error .ReadError
        | some a => .ok (some (if attrGet a sKey == some st0.weightKey then { st0 with expecting := true }
                               else { st0 with expecting := false }))
      else .ok (some { st0 with expecting := false }) := rfl

theorem readStep_empty_eq :
    readStep st0 (.empty name attrs) =
      if name == sNode then cont (addNode { st0 with expecting := false } attrs)
      else if name == sEdge then cont (addEdge { st0 with expecting := false } attrs)
      else if name == sKey then cont (keyElem { st0 with expecting := false } attrs)
      else if name == sGraph then cont (graphElem { st0 with expecting := false } attrs)
      else .ok (some { st0 with expecting := false }) := rfl

variable {st0 name attrs}

theorem readStep_elem {o : Option RState}
    (h : readStep st0 (.start name attrs) = .ok o ∨ readStep st0 (.empty name attrs) = .ok o) :
    ∃ st', o = some st' ∧
      ((name = sNode ∧ ∃ le, addNode { st0 with expecting := false, lastElem := le } attrs = .ok st') ∨
       (name = sEdge ∧ ∃ le, addEdge { st0 with expecting := false, lastElem := le } attrs = .ok st') ∨
       (name = sGraph ∧ graphElem { st0 with expecting := false } attrs = .ok st') ∨
       (name ≠ sNode ∧ name ≠ sEdge ∧ name ≠ sGraph ∧
        st'.nodes = st0.nodes ∧ st'.edges = st0.edges ∧ st'.directed = st0.directed)) := by
  rw [readStep_start_eq, readStep_empty_eq] at h
  by_cases hname : name ∈ [sNode, sEdge, sKey, sGraph, sData]
  · -- a name the reader knows: the tests on it evaluate
    simp only [List.mem_cons, List.not_mem_nil, or_false] at hname
    rcases hname with rfl | rfl | rfl | rfl | rfl
    · rcases h with h | h <;> obtain ⟨s, hs, rfl⟩ := cont_ok (r := addNode _ attrs) h <;>
        exact ⟨s, rfl, .inl ⟨rfl, _, hs⟩⟩
    · rcases h with h | h <;> obtain ⟨s, hs, rfl⟩ := cont_ok (r := addEdge _ attrs) h <;>
        exact ⟨s, rfl, .inr (.inl ⟨rfl, _, hs⟩)⟩
    · obtain ⟨s, hs, rfl⟩ := cont_ok (r := keyElem _ attrs) (h.elim id id)
      obtain ⟨k, rfl⟩ := keyElem_ok hs
      exact ⟨_, rfl, .inr (.inr (.inr ⟨by decide, by decide, by decide, rfl, rfl, rfl⟩))⟩
    · obtain ⟨s, hs, rfl⟩ := cont_ok (r := graphElem _ attrs) (h.elim id id)
      exact ⟨s, rfl, .inr (.inr (.inl ⟨rfl, hs⟩))⟩
    · -- `<data>` touches `expecting` only
      obtain ⟨st', rfl, hst'⟩ : ∃ st', o = some st' ∧
          st'.nodes = st0.nodes ∧ st'.edges = st0.edges ∧ st'.directed = st0.directed := by
        rcases h with h | h
        · cases attrs with
          | none => cases h
          | some a => cases h; exact ⟨_, rfl, by split <;> exact ⟨rfl, rfl, rfl⟩⟩
        · cases h; exact ⟨_, rfl, rfl, rfl, rfl⟩
      exact ⟨st', rfl, .inr (.inr (.inr ⟨by decide, by decide, by decide, hst'⟩))⟩
  · simp only [List.mem_cons, List.not_mem_nil, or_false, not_or] at hname
    simp only [beq_iff_eq, hname, if_false, or_self] at h
    cases h
    exact ⟨_, rfl, .inr (.inr (.inr ⟨hname.1, hname.2.1, hname.2.2.2.1, rfl, rfl, rfl⟩))⟩

theorem readStep_text_eq (st0 : RState) (v : Option W) :
    readStep st0 (.text v) =
      if st0.expecting then
        if st0.lastElem == sEdge && !st0.edges.isEmpty then
          match v with
          | none => .error .ReadError
          | some w => .ok (some { st0 with expecting := false, edges := setLastWeight st0.edges w })
        else .ok (some { st0 with expecting := false })
      else .ok (some { st0 with expecting := false }) := rfl

theorem readStep_text {v : Option W} {o : Option RState} (h : readStep st0 (.text v) = .ok o) :
    ∃ st', o = some st' ∧ st'.nodes = st0.nodes ∧ st'.directed = st0.directed ∧
      (st'.edges = st0.edges ∨ ∃ w, st'.edges = setLastWeight st0.edges w) := by
  rw [readStep_text_eq] at h
  by_cases h1 : st0.expecting = true ∧ (st0.lastElem == sEdge && !st0.edges.isEmpty) = true
  · rw [if_pos h1.1, if_pos h1.2] at h
    cases v with
    | none => cases h
    | some w => cases h; exact ⟨_, rfl, rfl, rfl, .inr ⟨w, rfl⟩⟩
  · have : o = some { st0 with expecting := false } := by
      by_cases h2 : st0.expecting = true
      · rw [if_pos h2, if_neg fun h3 => h1 ⟨h2, h3⟩] at h; cases h; rfl
      · rw [if_neg h2] at h; cases h; rfl
    exact ⟨_, this, rfl, rfl, .inl rfl⟩

theorem readLoop_cons {st st' : RState} {ev : Event} (h : readStep st ev = .ok (some st')) (rest : List Event) :
    readLoop st (ev :: rest) = readLoop st' rest := by
  rw [readLoop, h]

end Xml
end Graphrs
