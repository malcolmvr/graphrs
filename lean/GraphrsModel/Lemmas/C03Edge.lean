/-
  The generic update lemmas for the traversal rows and the position-keyed neighbour sets: what one
  `add_to_adjacency_vec` call, and the two calls of an undirected edge, do to `VecInv`; what one set insertion does
  to `SetInv`.
-/
import GraphrsModel.Lemmas.C03Node
import GraphrsModel.Lemmas.AddEdgeShape
namespace Graphrs
namespace C03
open Store

theorem VecInv.congr {names : List Nat} {vec : AVec} {f f' : Nat → Nat → Option W}
    (h : VecInv names vec f) (hf : ∀ x y, f' x y = f x y) : VecInv names vec f' := by
  have : f' = f := by funext x y; exact hf x y
  rw [this]; exact h

theorem SetInv.congr {names : List Nat} {sets : SMap} {g g' : Nat → Nat → Bool}
    (h : SetInv names sets g) (hg : ∀ x y, g' x y = g x y) : SetInv names sets g' := by
  have : g' = g := by funext x y; exact hg x y
  rw [this]; exact h

theorem VecInv.update {names : List Nat} {vec : AVec} {f : Nat → Nat → Option W}
    (h : VecInv names vec f) (hn : names.Nodup) {u v x0 y0 : Nat}
    (hu : names[u]? = some x0) (hv : names[v]? = some y0) (w : W) (upd : AdjUpd)
    (hk : upd = .keepMin → (f x0 y0).isSome = true) (f' : Nat → Nat → Option W)
    (hf' : ∀ x y, f' x y = if x = x0 ∧ y = y0 then eff upd w (f x y) else f x y) :
    ∃ vec', adjUpdate vec u v w upd = some vec' ∧ VecInv names vec' f' := by
  have hul : u < vec.length := by rw [h.len]; exact Store.getElem?_lt hu
  have hrow : vec[u]? = some vec[u] := List.getElem?_eq_getElem hul
  have hk' : upd = .keepMin → ∃ a ∈ vec[u], a.1 = v := by
    intro hupd
    have h1 := hk hupd
    rw [← h.val u v x0 y0 hu hv, rowMin_of_row hrow, minW_isSome] at h1
    apply (wts_ne_nil_iff _ _).1
    intro e; rw [e] at h1; cases h1
  refine ⟨_, adjUpdate_spec vec u v w upd _ hrow hk', ?_, ?_, ?_⟩
  · rw [List.length_set]; exact h.len
  · intro i row hr a ha
    by_cases hiu : u = i
    · subst hiu
      rw [List.getElem?_set_self hul] at hr
      cases hr
      rcases mem_updRow _ _ _ _ _ ha with ⟨hm, _⟩ | ⟨rfl, _⟩
      · exact h.bnd u _ hrow a hm
      · exact Store.getElem?_lt hv
    · rw [List.getElem?_set_ne hiu] at hr
      exact h.bnd i row hr a ha
  · intro i j x y hx hy
    rw [rowMin_set_updRow hrow, hf' x y, h.val i j x y hx hy]
    simp only [C02.getElem?_inj_iff hn hx hu, C02.getElem?_inj_iff hn hy hv]

/-- two updates, of the pairs `(u, v)` and `(v, u)` (what an undirected edge does: one row twice for a self-loop),
    against an expectation that is symmetric at the pair -/
theorem VecInv.update_pair {names : List Nat} {vec : AVec} {f : Nat → Nat → Option W}
    (h : VecInv names vec f) (hn : names.Nodup) {u v x0 y0 : Nat}
    (hu : names[u]? = some x0) (hv : names[v]? = some y0) (w : W) (upd : AdjUpd)
    (hsym : f y0 x0 = f x0 y0) (hk : upd = .keepMin → (f x0 y0).isSome = true)
    (hp : upd = .push → f x0 y0 = none) (f' : Nat → Nat → Option W)
    (hf' : ∀ x y, f' x y =
      if (x = x0 ∧ y = y0) ∨ (x = y0 ∧ y = x0) then eff upd w (f x y) else f x y) :
    ∃ v1 v2, adjUpdate vec u v w upd = some v1 ∧ adjUpdate v1 v u w upd = some v2 ∧
      VecInv names v2 f' := by
  obtain ⟨f1, hf1⟩ : ∃ f1 : Nat → Nat → Option W,
      ∀ x y, f1 x y = if x = x0 ∧ y = y0 then eff upd w (f x y) else f x y := ⟨_, fun _ _ => rfl⟩
  obtain ⟨v1, h1, hV1⟩ := h.update hn hu hv w upd hk f1 hf1
  have hk2 : upd = .keepMin → (f1 y0 x0).isSome = true := by
    intro hupd
    rw [hf1]
    split
    · rw [eff_isSome, hsym, hk hupd]; rfl
    · rw [hsym]; exact hk hupd
  have hf2 : ∀ x y, f' x y = if x = y0 ∧ y = x0 then eff upd w (f1 x y) else f1 x y := by
    intro x y
    rw [hf' x y, hf1 x y]
    by_cases c1 : x = x0 ∧ y = y0 <;> by_cases c2 : x = y0 ∧ y = x0
    · -- the self-loop: the second update of the same entry changes nothing
      rw [if_pos (Or.inl c1), if_pos c2, if_pos c1, eff_idem]
      intro hpu
      rw [c1.1, c1.2]
      exact hp hpu
    · rw [if_pos (Or.inl c1), if_neg c2, if_pos c1]
    · rw [if_pos (Or.inr c2), if_pos c2, if_neg c1]
    · rw [if_neg (fun hc => hc.elim c1 c2), if_neg c2, if_neg c1]
  obtain ⟨v2, h2, hV2⟩ := hV1.update hn hv hu w upd hk2 f' hf2
  exact ⟨v1, v2, h1, h2, hV2⟩

theorem contains_sinsert {α} [DecidableEq α] (s : List α) (x y : α) :
    (sinsert s x).contains y = (s.contains y || decide (y = x)) := by
  rw [Bool.eq_iff_iff]
  simp [mem_sinsert]

theorem setOf_amodify (sets : SMap) (u v i : Nat) :
    setOf (amodify sets u [] (sinsert · v)) i =
      if u = i then sinsert (setOf sets u) v else setOf sets i := by
  unfold setOf
  rw [AL.lookup_modify]
  split <;> rfl

theorem SetInv.update {names : List Nat} {sets : SMap} {g : Nat → Nat → Bool}
    (h : SetInv names sets g) (hn : names.Nodup) {u v x0 y0 : Nat}
    (hu : names[u]? = some x0) (hv : names[v]? = some y0) (g' : Nat → Nat → Bool)
    (hg' : ∀ x y, g' x y = (g x y || (x == x0 && y == y0))) :
    SetInv names (amodify sets u [] (sinsert · v)) g' := by
  refine ⟨?_, ?_⟩
  · intro i l hl j hj
    rw [AL.lookup_modify] at hl
    split at hl
    · cases hl
      rcases (mem_sinsert _ _ _).1 hj with hj | hj
      · cases hs : alookup sets u with
        | none => rw [hs] at hj; cases hj
        | some l' => rw [hs] at hj; exact h.bnd u l' hs j hj
      · subst hj; exact Store.getElem?_lt hv
    · exact h.bnd i l hl j hj
  · intro i j x y hx hy
    rw [setOf_amodify, hg' x y, ← h.mem i j x y hx hy]
    by_cases hiu : u = i
    · subst hiu
      rw [if_pos rfl, contains_sinsert, (C02.getElem?_inj_iff hn hx hu).1 rfl, beq_self_eq_true, Bool.true_and]
      congr 1
      rw [Bool.eq_iff_iff, decide_eq_true_eq, beq_iff_eq]
      exact C02.getElem?_inj_iff hn hy hv
    · have : (x == x0) = false := beq_eq_false_iff_ne.2 fun e => hiu ((C02.getElem?_inj_iff hn hx hu).2 e).symm
      rw [if_neg hiu, this, Bool.false_and, Bool.or_false]

end C03
end Graphrs
