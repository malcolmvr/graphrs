/-
  Model-side neighbourhoods for Props/C11Model.lean (namespace `C11M`): the list the undirected cluster models read
  (`get_neighbor_nodes`) against `Abs.N`, and the checks the public functions start with.  `requestedU`, which the
  statements of Props/C11Model.lean, C11GenDeg.lean and C11Weighted.lean mention, is defined here because the closed forms
  of Lemmas/C11ModelTri.lean are stated with it.
-/
import GraphrsModel.Lemmas.C11ModelAux
namespace Graphrs

/-- names requested by `node_names`: `None` or an empty slice mean all nodes (undirected functions) -/
def requestedU (s : Store) (names : Option (List Nat)) : List Nat :=
  match names with
  | none => s.getAllNodeNames
  | some l => if l.isEmpty then s.getAllNodeNames else l

namespace C11M
open C02 C11aux

theorem abs_edges (s : Store) : s.abs.edges = s.allEdges := rfl
theorem abs_nodeNames (s : Store) : s.abs.nodeNames = s.names := rfl
theorem getAllNodeNames_eq (s : Store) : s.getAllNodeNames = s.names := rfl

theorem requestedU_none (s : Store) (h : s.wf = true) : ∀ x ∈ requestedU s none, s.hasNode x = true :=
  fun x hx => (s.hasNode_names h x).2 hx

theorem requestedU_forall (s : Store) (names : Option (List Nat)) (P : Nat → Prop) (hall : ∀ x ∈ s.getAllNodeNames, P x)
    (hn : ∀ l, names = some l → ∀ x ∈ l, P x) : ∀ x ∈ requestedU s names, P x := by
  cases names with
  | none => exact hall
  | some l =>
    by_cases hl : l.isEmpty = true
    · simp only [requestedU, if_pos hl]; exact hall
    · simp only [requestedU, if_neg hl]; exact hn l rfl

theorem requestedU_some (s : Store) {S : List Nat} (hS : S ≠ []) : requestedU s (some S) = S := by
  cases S with
  | nil => exact absurd rfl hS
  | cons a l => rfl

theorem ensureHasNodes_pass (s : Store) (names : Option (List Nat))
    (hn : ∀ l, names = some l → ∀ x ∈ l, s.hasNode x = true) : s.ensureHasNodes names = .ok () := by
  cases names with
  | none => rfl
  | some l => exact if_pos (List.all_eq_true.2 (hn l rfl))

theorem ensureHasNodes_requestedU (s : Store) (names : Option (List Nat))
    (hn : ∀ x ∈ requestedU s names, s.hasNode x = true) : s.ensureHasNodes names = .ok () := by
  apply ensureHasNodes_pass
  rintro l rfl x hx
  apply hn
  rw [requestedU_some s (List.ne_nil_of_mem hx)]
  exact hx

theorem ensureUndirected_pass (s : Store) (hd : s.specs.directed = false) : s.ensureUndirected = .ok () := by
  rw [Store.ensureUndirected, hd]; rfl

theorem ensureNotMulti_pass (s : Store) (hm : s.specs.multi = false) : s.ensureNotMulti = .ok () := by
  rw [Store.ensureNotMulti, hm]; rfl

theorem abs_nbrs_iff_bothOf (a : Abs) (x y : Nat) : y ∈ a.nbrs false x ↔ y ∈ a.bothOf x := by
  simp only [Abs.nbrs, Abs.succ, Abs.pred, Abs.bothOf, Abs.succOf, Abs.predOf, mem_dedup, List.mem_append,
    Bool.false_eq_true, if_false, List.not_mem_nil, or_false]

theorem bothOf_names (s : Store) (h : s.wf = true) (x y : Nat) (hy : y ∈ s.abs.bothOf x) : y ∈ s.names := by
  have he := edgesP_of s (s.wf_parts h).2.1
  rcases (C11_mem_bothOf _ _ _).1 hy with ⟨e, hmem, _, h2⟩ | ⟨e, hmem, _, h2⟩
  · exact h2 ▸ (he.edge_names hmem).2
  · exact h2 ▸ (he.edge_names hmem).1

/-- names of the list `get_neighbor_nodes` returns (`[]` if it fails) -/
def nm (s : Store) (x : Nat) : List Nat :=
  match s.getNeighborNodes x with
  | .ok l => l.map (·.name)
  | _ => []

def mN (s : Store) (x : Nat) : List Nat := (nm s x).filter (· != x)

section
variable (s : Store) (h : s.wf = true) (hd : s.specs.directed = false) (x : Nat) (hx : s.hasNode x = true)
include h hd hx

theorem nbr_ok : ∃ l, s.getNeighborNodes x = .ok l ∧ l.map (·.name) = nm s x ∧ (nm s x).Nodup ∧
    ∀ y, y ∈ nm s x ↔ y ∈ s.abs.bothOf x := by
  have ⟨l, hl, hmem, hnd⟩ := C02_neighborNodes s h x hx
  have e : nm s x = l.map (·.name) := by rw [nm, hl]
  refine ⟨l, hl, e.symm, e ▸ hnd, fun y => ?_⟩
  rw [e, hmem, hd, abs_nbrs_iff_bothOf]

theorem namesOf_nbr : Store.namesOf (s.getNeighborNodes x) = .ok (nm s x) := by
  have ⟨l, hl, e, _⟩ := nbr_ok s h hd x hx
  rw [hl, ← e]; rfl

theorem dedup_nm : dedup (nm s x) = nm s x :=
  have ⟨_, _, _, hnd, _⟩ := nbr_ok s h hd x hx
  dedup_of_nodup _ hnd

theorem mN_nodup : (mN s x).Nodup :=
  have ⟨_, _, _, hnd, _⟩ := nbr_ok s h hd x hx
  hnd.filter _

theorem mem_mN (y : Nat) : y ∈ mN s x ↔ y ∈ s.abs.N x := by
  have ⟨_, _, _, _, hm⟩ := nbr_ok s h hd x hx
  rw [mN, List.mem_filter, hm, C11_mem_N, bne_iff_ne]

theorem mN_perm : (mN s x).Perm (s.abs.N x) :=
  (List.perm_ext_iff_of_nodup (mN_nodup s h hd x hx) (C11_N_nodup _ _)).2 (mem_mN s h hd x hx)

theorem mN_hasNode (y : Nat) (hy : y ∈ mN s x) : s.hasNode y = true :=
  (s.hasNode_names h y).2 (bothOf_names s h x y ((C11_mem_N _ _ _).1 ((mem_mN s h hd x hx y).1 hy)).1)

theorem mN_length : (mN s x).length = (s.abs.N x).length := (mN_perm s h hd x hx).length_eq

end

end C11M
end Graphrs
