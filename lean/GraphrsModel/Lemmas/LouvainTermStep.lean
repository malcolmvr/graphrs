/-
  One `visit` of the local-moving loop: the state it leaves (which community is chosen, how the `stot*` vectors
  change), the bookkeeping invariant `TInv`, and the step lemma - a visit that moves its node makes the assignment
  strictly better (larger potential, or equal potential and smaller ids).
-/
import GraphrsModel.Lemmas.LouvainTermNbr
namespace Graphrs
open LouvainFull
namespace LT

/-! ### the state after one visit -/

theorem getR_setR (l : List Rat) (i j : Nat) (v : Rat) :
    getR (setR l i v) j = if i = j ∧ i < l.length then v else getR l j :=
  LF.getD_set l i j v 0

/-- a `stot*` vector after `subtract_degree_from_best_com` -/
def subR (S : List Rat) (cur : Nat) (d : Rat) : List Rat := setR S cur (getR S cur - d)

/-- what a visit that chose `best` does to the assignment and the move counter -/
def Reassigned (st st' : LState) (u cur best : Nat) : Prop :=
  (best ≠ cur ∧ st'.node2com = ainsert st.node2com u best ∧ st'.moves = st.moves + 1) ∨
  (best = cur ∧ st'.node2com = st.node2com ∧ st'.moves = st.moves)

/-- a successful visit in the terms of `LF.visitWith_eq_ok`: the degrees `t` of `u`, the community chosen, the
    `stot*` bookkeeping and the assignment afterwards -/
theorem visit_inv {lv : Level} {m res : Rat} {st st' : LState} {u : Nat} (hv : visit lv m res st u = .ok st') :
    ∃ cur w2c t, alookup st.node2com u = some cur ∧ neighborWeights lv.g u st.node2com = .ok w2c ∧
      LF.visitDegs lv.g.specs.directed st.di u = some t ∧ LF.StotIdx lv.g.specs.directed st.di cur ∧
      LF.StotIdx lv.g.specs.directed st.di (LF.visitBest lv.g.specs.directed m res st.di cur w2c t) ∧
      st'.di = LF.addStot lv.g.specs.directed (LF.subStot lv.g.specs.directed st.di cur t)
        (LF.visitBest lv.g.specs.directed m res st.di cur w2c t) t ∧
      Reassigned st st' u cur (LF.visitBest lv.g.specs.directed m res st.di cur w2c t) := by
  obtain ⟨cur, hcur, w2c, hw, hv⟩ := LF.visit_eq_ok.1 hv
  obtain ⟨t, ht, h1, -, h3, -, rfl⟩ := LF.visitWith_eq_ok.1 hv
  refine ⟨cur, w2c, t, hcur, hw, ht, h1, h3, LF.visited_di_eq lv m res st u cur w2c t, ?_⟩
  rcases LF.visited_cases lv m res st u cur w2c t with ⟨hne, e⟩ | ⟨he, e⟩
  · exact Or.inl ⟨hne, congrArg (·.node2com) e, congrArg (·.moves) e⟩
  · exact Or.inr ⟨he, congrArg (·.node2com) e, congrArg (·.moves) e⟩

/-! ### the bookkeeping invariant and the potential of a level -/

/-- the assignment a state describes -/
def asg (st : LState) : Nat → Nat := fun x => (alookup st.node2com x).getD 0

/-- a degree map as a function -/
def dgOf (l : List (Nat × Rat)) : Nat → Rat := fun x => (alookup l x).getD 0

/-- the degree maps never change, and the `stot*` vectors hold the degree sums of the communities -/
structure TInv (lv : Level) (k : Nat) (deg0 in0 out0 : List (Nat × Rat)) (st : LState) : Prop where
  deg_eq : st.di.deg = deg0
  in_eq : st.di.inDeg = in0
  out_eq : st.di.outDeg = out0
  stotU : lv.g.specs.directed = false → ∀ c, c < k → getR st.di.stot c = csum k (asg st) (dgOf deg0) c
  stotD : lv.g.specs.directed = true → ∀ c, c < k →
    getR st.di.stotIn c = csum k (asg st) (dgOf in0) c ∧ getR st.di.stotOut c = csum k (asg st) (dgOf out0) c

/-- starting a pass (`nb_moves = 0`) keeps the invariant -/
theorem TInv.moves0 {lv : Level} {k : Nat} {deg0 in0 out0 : List (Nat × Rat)} {st : LState}
    (h : TInv lv k deg0 in0 out0 st) : TInv lv k deg0 in0 out0 { st with moves := 0 } :=
  ⟨h.deg_eq, h.in_eq, h.out_eq, h.stotU, h.stotD⟩

/-- the potential of the level: the modularity-like sum the moves increase -/
def Phi (lv : Level) (k : Nat) (m res : Rat) (deg0 in0 out0 : List (Nat × Rat)) : (Nat → Nat) → Rat :=
  if lv.g.specs.directed = true then potD lv.g.allEdges k m res (dgOf out0) (dgOf in0)
  else potU lv.g.allEdges k m res (dgOf deg0)

theorem Phi_undir {lv : Level} (hd : lv.g.specs.directed = false) (k : Nat) (m res : Rat) (deg0 in0 out0 : List (Nat × Rat)) :
    Phi lv k m res deg0 in0 out0 = potU lv.g.allEdges k m res (dgOf deg0) := by
  rw [Phi, hd, if_neg Bool.false_ne_true]

theorem Phi_dir {lv : Level} (hd : lv.g.specs.directed = true) (k : Nat) (m res : Rat) (deg0 in0 out0 : List (Nat × Rat)) :
    Phi lv k m res deg0 in0 out0 = potD lv.g.allEdges k m res (dgOf out0) (dgOf in0) := by
  rw [Phi, if_pos hd]

/-- taking `u`'s degree out of its community's slot: the vector holds the sums without `u` -/
theorem getR_subR {k : Nat} {a : Nat → Nat} {p : Nat → Rat} {u cur : Nat} {d : Rat} {S : List Rat}
    (hS : ∀ c, c < k → getR S c = csum k a p c) (hau : a u = cur) (hdu : p u = d) (hcl : cur < S.length)
    (c : Nat) (hc : c < k) : getR (subR S cur d) c = csum1 k a p u c := by
  rw [subR, getR_setR, csum1, hau, hdu, hS c hc]
  by_cases hcc : cur = c
  · rw [if_pos ⟨hcc, hcl⟩, if_pos hcc, hcc, hS c hc]
  · rw [if_neg (fun hh => hcc hh.1), if_neg hcc, sub_zero]

/-- adding it to the slot of `best`: the vector holds the sums of the assignment with `u` moved to `best` -/
theorem getR_addR {k : Nat} {a : Nat → Nat} {p : Nat → Rat} {u best : Nat} {d : Rat} {S1 : List Rat}
    (hS1 : ∀ c, c < k → getR S1 c = csum1 k a p u c) (hdu : p u = d) (hu : u < k) (hbl : best < S1.length)
    (c : Nat) (hc : c < k) : getR (setR S1 best (getR S1 best + d)) c = csum k (Function.update a u best) p c := by
  rw [getR_setR, csum_update k a p c u best hu, hdu, hS1 c hc]
  by_cases hbc : best = c
  · rw [if_pos ⟨hbc, hbl⟩, if_pos hbc, hbc, hS1 c hc]
  · rw [if_neg (fun hh => hbc hh.1), if_neg hbc, add_zero]

/-! ### progress -/

/-- progress between two states of one pass -/
def Progress (Φ : (Nat → Nat) → Rat) (k : Nat) (st st' : LState) : Prop :=
  (st'.moves = st.moves ∧ asg st' = asg st) ∨ (st.moves < st'.moves ∧ Better Φ k (asg st') (asg st))

theorem Progress.refl (Φ : (Nat → Nat) → Rat) (k : Nat) (st : LState) : Progress Φ k st st := Or.inl ⟨rfl, rfl⟩

theorem Progress.trans {Φ : (Nat → Nat) → Rat} {k : Nat} {a b c : LState} (h1 : Progress Φ k a b) (h2 : Progress Φ k b c) : Progress Φ k a c := by
  unfold Progress at *
  rcases h1 with ⟨h1, h1'⟩ | ⟨h1, h1'⟩ <;> rcases h2 with ⟨h2, h2'⟩ | ⟨h2, h2'⟩
  · left; exact ⟨h2.trans h1, h2'.trans h1'⟩
  · right; rw [← h1, ← h1']; exact ⟨h2, h2'⟩
  · right; rw [h2, h2']; exact ⟨h1, h1'⟩
  · right; exact ⟨lt_trans h1 h2, h2'.trans h1'⟩

/-- the decision made by the scan, abstractly: `G c wt` is the gain of community `c` at weight `wt`, `W c` the weight
    from `u` to `c`; staying has gain `G cur (W cur)` (at most 0 when there is no edge to `cur`), and the change of the
    potential is a positive multiple of the gain difference -/
theorem better_of_scan (Φ : (Nat → Nat) → Rat) (G : Nat → Rat → Rat) (w2c : List (Nat × Rat))
    (hnd : (w2c.map (·.1)).Nodup) (cur u k : Nat) (a : Nat → Nat)
    (hne : (Louvain.updateBest G w2c (cur, 0)).1 ≠ cur)
    (W : Nat → Rat) (hW : ∀ c, (alookup w2c c).getD 0 = W c)
    (hstay : G cur 0 ≤ 0) (D : Rat) (hD : 0 < D)
    (hdelta : Φ (Function.update a u (Louvain.updateBest G w2c (cur, 0)).1) - Φ a
      = (G (Louvain.updateBest G w2c (cur, 0)).1 (W (Louvain.updateBest G w2c (cur, 0)).1) - G cur (W cur)) / D)
    (hau : a u = cur) (hu : u < k) :
    Better Φ k (Function.update a u (Louvain.updateBest G w2c (cur, 0)).1) a := by
  rcases updateBest_spec G w2c hnd cur with h | ⟨wt, hmem, hpos, hall⟩
  · exact absurd h hne
  · generalize (Louvain.updateBest G w2c (cur, 0)).1 = best at hne hdelta hmem hpos hall ⊢
    have hwt : W best = wt := by rw [← hW best, AL.mem_lookup hnd hmem]; rfl
    rw [hwt] at hdelta
    -- if `cur` is a candidate, the scan's maximality and smallest-id choice apply to it; if not, `W cur = 0` and
    -- staying has gain `≤ 0 <` the gain of `best`
    have key : G cur (W cur) < G best wt ∨ (G cur (W cur) = G best wt ∧ best < cur) := by
      cases hlk : alookup w2c cur with
      | none =>
        left
        rw [← hW cur, hlk]
        exact lt_of_le_of_lt hstay hpos
      | some wc =>
        rw [← hW cur, hlk]
        have := hall (cur, wc) (AL.lookup_mem hlk)
        by_cases hlt : cur < best
        · left; exact this.2 hlt
        · rcases lt_or_eq_of_le this.1 with h | h
          · left; exact h
          · right; exact ⟨h, lt_of_le_of_ne (not_lt.1 hlt) (fun e => hne e)⟩
    rcases key with h | ⟨h, hlt⟩
    · left
      rw [← sub_pos, hdelta]
      exact div_pos (sub_pos.2 h) hD
    · right
      refine ⟨?_, idsum_update_lt k a u best hu (by rw [hau]; exact hlt)⟩
      rw [h, sub_self, zero_div, sub_eq_zero] at hdelta
      exact hdelta.symm

theorem asg_insert (st : LState) (u b : Nat) :
    (fun x => (alookup (ainsert st.node2com u b) x).getD 0) = Function.update (asg st) u b := by
  funext x
  rw [AL.lookup_insert]
  by_cases h : u = x
  · subst h; simp
  · rw [if_neg h, Function.update_of_ne (fun e => h e.symm)]
    rfl

/-- what a visit does to the assignment, given the gain function `G` of its scan and how the gains relate to the
    potential: the chosen community is a community id, the node is reassigned to it, and a move is an improvement -/
theorem step_core {lv : Level} {k : Nat} {st st' : LState} {u cur : Nat} {w2c : List (Nat × Rat)}
    (hs : LF.SInv lv k st) (hcur : alookup st.node2com u = some cur)
    (hw : neighborWeights lv.g u st.node2com = .ok w2c) (G : Nat → Rat → Rat)
    (hcase : Reassigned st st' u cur (Louvain.updateBest G w2c (cur, 0)).1)
    (Φ : (Nat → Nat) → Rat) (W : Nat → Rat) (hW : ∀ c, (alookup w2c c).getD 0 = W c)
    (hstay : G cur 0 ≤ 0) (D : Rat) (hD : 0 < D)
    (hdelta : ∀ b, b < k → Φ (Function.update (asg st) u b) - Φ (asg st) = (G b (W b) - G cur (W cur)) / D) :
    (Louvain.updateBest G w2c (cur, 0)).1 < k ∧
    asg st' = Function.update (asg st) u (Louvain.updateBest G w2c (cur, 0)).1 ∧ Progress Φ k st st' := by
  obtain ⟨huk, hck⟩ := hs.n2c_lt u cur hcur
  have hau : asg st u = cur := by rw [asg, hcur]; rfl
  have hbk : (Louvain.updateBest G w2c (cur, 0)).1 < k := by
    rcases LF.updateBest_fst G w2c (cur, 0) with h1 | h1
    · rw [h1]; exact hck
    · obtain ⟨v, hv2⟩ := LF.neighborWeights_keys hw _ h1
      exact (hs.n2c_lt v _ hv2).2
  have hasg' : asg st' = Function.update (asg st) u (Louvain.updateBest G w2c (cur, 0)).1 := by
    rcases hcase with ⟨_, h2, _⟩ | ⟨h1, h2, _⟩
    · unfold asg; rw [h2]; exact asg_insert st u _
    · rw [h1, ← hau, Function.update_eq_self]
      unfold asg; rw [h2]
  refine ⟨hbk, hasg', ?_⟩
  rcases hcase with ⟨hne, _, hmv⟩ | ⟨_, h2, hmv⟩
  · right
    rw [hasg']
    exact ⟨by rw [hmv]; exact Nat.lt_succ_self _, better_of_scan Φ G w2c (LF.neighborWeights_keys_nodup hw) cur u k
      (asg st) hne W hW hstay D hD (hdelta _ hbk) hau huk⟩
  · left
    refine ⟨hmv, ?_⟩
    unfold asg; rw [h2]

/-- **one visit**: the invariant is kept, and a move makes the assignment strictly better -/
theorem visit_step {lv : Level} {n k : Nat} (hg : LF.GoodLevel lv n k) (hwf : lv.g.wf = true)
    (hmulti : lv.g.specs.multi = false) {m res : Rat} (hm : 0 < m) (hres : 0 ≤ res)
    {deg0 in0 out0 : List (Nat × Rat)}
    (hnn : ∀ x, 0 ≤ dgOf deg0 x ∧ 0 ≤ dgOf in0 x ∧ 0 ≤ dgOf out0 x)
    {st st' : LState} {u : Nat} (hs : LF.SInv lv k st) (ht : TInv lv k deg0 in0 out0 st)
    (hv : visit lv m res st u = .ok st') :
    TInv lv k deg0 in0 out0 st' ∧ Progress (Phi lv k m res deg0 in0 out0) k st st' := by
  have htot : LF.TotalOn st.node2com lv.g.names := fun x hx => hs.n2c_total x ((hg.names_iff x).1 hx)
  cases hd : lv.g.specs.directed
  · obtain ⟨cur, w2c, t, hcur, hw, ht0, hcl, hbl, hdi, hcase⟩ := visit_inv hv
    rw [hd] at ht0 hcl hbl hdi hcase
    obtain ⟨d, hdeg, rfl⟩ : ∃ d, alookup st.di.deg u = some d ∧ t = (0, 0, d) := by
      cases hl : alookup st.di.deg u with
      | none => rw [LF.visitDegs, if_neg Bool.false_ne_true, hl] at ht0; cases ht0
      | some d => rw [LF.visitDegs, if_neg Bool.false_ne_true, hl] at ht0; exact ⟨d, rfl, (Option.some.inj ht0).symm⟩
    have hcl : cur < st.di.stot.length := hcl
    have hbl : _ < st.di.stot.length := hbl
    have hstot : st'.di.stot = setR (subR st.di.stot cur d) _ (getR (subR st.di.stot cur d) _ + d) := congrArg (·.stot) hdi
    have hdegEq : st'.di.deg = st.di.deg := congrArg (·.deg) hdi
    have hinEq : st'.di.inDeg = st.di.inDeg := congrArg (·.inDeg) hdi
    have houtEq : st'.di.outDeg = st.di.outDeg := congrArg (·.outDeg) hdi
    obtain ⟨huk, hck⟩ := hs.n2c_lt u cur hcur
    have hau : asg st u = cur := by rw [asg, hcur]; rfl
    have hdu : dgOf deg0 u = d := by rw [← ht.deg_eq, dgOf, hdeg]; rfl
    have hs1 := getR_subR (ht.stotU hd) hau hdu hcl
    obtain ⟨hbk, hasg', hq⟩ := step_core hs hcur hw
      (fun c wt => Louvain.gainUndirected m res wt (getR (subR st.di.stot cur d) c) d) hcase (Phi lv k m res deg0 in0 out0)
      (wto lv.g.allEdges (asg st) u) (neighborWeights_wto lv.g hwf hmulti u st.node2com htot hw)
      (by rw [hs1 cur hck]
          exact gainUndirected_zero_le m res _ d hm hres (csum1_nonneg (fun x => (hnn x).1) u cur huk) (hdu ▸ (hnn u).1))
      (2 * m) (mul_pos two_pos hm)
      (fun b hb => by
        rw [Phi_undir hd, potU_update lv.g.allEdges k m res (dgOf deg0) (asg st) u b huk hb (hau ▸ hck),
          hs1 b hb, hs1 cur hck, hau, hdu])
    refine ⟨⟨hdegEq.trans ht.deg_eq, hinEq.trans ht.in_eq, houtEq.trans ht.out_eq, fun _ c hc => ?_,
      fun hd' => absurd (hd.symm.trans hd') Bool.false_ne_true⟩, hq⟩
    rw [hstot, hasg']
    exact getR_addR hs1 hdu huk (by rw [subR, setR, List.length_set]; exact hbl) c hc
  · obtain ⟨cur, w2c, t, hcur, hw, ht0, hcl, hbl, hdi, hcase⟩ := visit_inv hv
    rw [hd] at ht0 hcl hbl hdi hcase
    obtain ⟨i, o, hin, hout, rfl⟩ : ∃ i o, alookup st.di.inDeg u = some i ∧ alookup st.di.outDeg u = some o ∧ t = (i, o, 0) := by
      rw [LF.visitDegs, if_pos rfl] at ht0
      cases hi : alookup st.di.inDeg u with
      | none => rw [hi] at ht0; cases ht0
      | some i =>
        cases ho : alookup st.di.outDeg u with
        | none => rw [hi, ho] at ht0; cases ht0
        | some o => rw [hi, ho] at ht0; exact ⟨i, o, rfl, rfl, (Option.some.inj ht0).symm⟩
    obtain ⟨hcl1, hcl2⟩ : cur < st.di.stotIn.length ∧ cur < st.di.stotOut.length := hcl
    obtain ⟨hbl1, hbl2⟩ : _ < st.di.stotIn.length ∧ _ < st.di.stotOut.length := hbl
    have hstotIn : st'.di.stotIn = setR (subR st.di.stotIn cur i) _ (getR (subR st.di.stotIn cur i) _ + i) :=
      congrArg (·.stotIn) hdi
    have hstotOut : st'.di.stotOut = setR (subR st.di.stotOut cur o) _ (getR (subR st.di.stotOut cur o) _ + o) :=
      congrArg (·.stotOut) hdi
    have hdegEq : st'.di.deg = st.di.deg := congrArg (·.deg) hdi
    have hinEq : st'.di.inDeg = st.di.inDeg := congrArg (·.inDeg) hdi
    have houtEq : st'.di.outDeg = st.di.outDeg := congrArg (·.outDeg) hdi
    obtain ⟨huk, hck⟩ := hs.n2c_lt u cur hcur
    have hau : asg st u = cur := by rw [asg, hcur]; rfl
    have hiu : dgOf in0 u = i := by rw [← ht.in_eq, dgOf, hin]; rfl
    have hou : dgOf out0 u = o := by rw [← ht.out_eq, dgOf, hout]; rfl
    have hs1 := getR_subR (fun c hc => (ht.stotD hd c hc).1) hau hiu hcl1
    have hs2 := getR_subR (fun c hc => (ht.stotD hd c hc).2) hau hou hcl2
    obtain ⟨hbk, hasg', hq⟩ := step_core hs hcur hw
      (fun c wt => Louvain.gainDirected m res wt o i (getR (subR st.di.stotIn cur i) c) (getR (subR st.di.stotOut cur o) c)) hcase (Phi lv k m res deg0 in0 out0)
      (wto lv.g.allEdges (asg st) u) (neighborWeights_wto lv.g hwf hmulti u st.node2com htot hw)
      (by rw [hs1 cur hck, hs2 cur hck]
          exact gainDirected_zero_le m res o i _ _ hm hres (hou ▸ (hnn u).2.2) (hiu ▸ (hnn u).2.1)
            (csum1_nonneg (fun x => (hnn x).2.1) u cur huk) (csum1_nonneg (fun x => (hnn x).2.2) u cur huk))
      m hm
      (fun b hb => by
        rw [Phi_dir hd, potD_update lv.g.allEdges k m res (dgOf out0) (dgOf in0) (asg st) u b huk hb (hau ▸ hck),
          hs1 b hb, hs1 cur hck, hs2 b hb, hs2 cur hck, hau, hiu, hou])
    refine ⟨⟨hdegEq.trans ht.deg_eq, hinEq.trans ht.in_eq, houtEq.trans ht.out_eq,
      fun hd' => absurd (hd.symm.trans hd') Bool.noConfusion, fun _ c hc => ⟨?_, ?_⟩⟩, hq⟩
    · rw [hstotIn, hasg']
      exact getR_addR hs1 hiu huk (by rw [subR, setR, List.length_set]; exact hbl1) c hc
    · rw [hstotOut, hasg']
      exact getR_addR hs2 hou huk (by rw [subR, setR, List.length_set]; exact hbl2) c hc

end LT
end Graphrs
