/-
  C05 (Brandes), namespace `Bc` (betweenness): `SsOut`, what a single-source stage (`bfs` here, `dijkstra` in
  Lemmas/BcDijkstra.lean) delivers to Lemmas/BcBridge.lean, and the loop invariant of the queue BFS `bcBfsLoop` of
  betweenness.rs, over the dequeued list `S`, the queue `Q` and the arrays `D`, `sigma`, `P`; `Dn u a` says that the
  adjacency entry `a` of `u` has been relaxed.
  The loop body has two `if`s: the first maintains the distance part `QInv` of the invariant, the second the predecessor
  lists and path counts (`BInv.count`).
-/
import GraphrsModel.Model.Centrality
import GraphrsModel.Lemmas.BcGraph
import GraphrsModel.Lemmas.C06Levels
import Mathlib.Algebra.Order.Field.Rat
namespace Graphrs
namespace Bc

abbrev BAcc := List Nat × List (Option Int) × List Rat × List (List Nat)

/-- the body of the `for adj in successors` loop of `bfs` -/
def bfsRelax (v : Nat) (dv : Int) (sv : Rat) (acc : BAcc) (adj : Adj) : BAcc :=
  let (queue, D, sigma, P) := acc
  let w := adj.1
  let vw := dv + 1
  let (queue, D) := if (D[w]?.join).isNone then (queue ++ [w], D.set w (some vw)) else (queue, D)
  if D[w]?.join == some vw then (queue, D, sigma.set w (getD0 sigma w + sv), P.set w ((P[w]?.getD []) ++ [v]))
  else (queue, D, sigma, P)

theorem bcBfsLoop_cons (adjOf : Nat → List Adj) (fuel v : Nat) (queue : List Nat) (D : List (Option Int)) (sigma : List Rat)
    (P : List (List Nat)) (S : List Nat) :
    bcBfsLoop adjOf (fuel + 1) (v :: queue) D sigma P S =
      (let r := (adjOf v).foldl (bfsRelax v ((D[v]?.join).getD 0) (getD0 sigma v)) (queue, D, sigma, P)
       bcBfsLoop adjOf fuel r.1 r.2.1 r.2.2.1 r.2.2.2 (S ++ [v])) := by
  rfl

theorem bcBfsLoop_nil (adjOf : Nat → List Adj) (fuel : Nat) (D : List (Option Int)) (sigma : List Rat)
    (P : List (List Nat)) (S : List Nat) :
    bcBfsLoop adjOf fuel [] D sigma P S = (D, sigma, P, S) := by
  cases fuel <;> rfl

def gP (P : List (List Nat)) (w : Nat) : List Nat := P[w]?.getD []

def dOf (D : List (Option Int)) (x : Nat) : Int := (lk D x).getD 0

theorem gP_set_self (P : List (List Nat)) (w : Nat) (x : List Nat) (h : w < P.length) : gP (P.set w x) w = x := by
  unfold gP
  rw [List.getElem?_set_self h]
  rfl

theorem gP_set_ne (P : List (List Nat)) (w w' : Nat) (x : List Nat) (h : w ≠ w') : gP (P.set w x) w' = gP P w' := by
  unfold gP
  rw [List.getElem?_set_ne h]

theorem getD0_set_self (l : List Rat) (w : Nat) (x : Rat) (h : w < l.length) : getD0 (l.set w x) w = x := by
  unfold getD0
  rw [List.getElem?_set_self h]
  rfl

theorem getD0_set_ne (l : List Rat) (w w' : Nat) (x : Rat) (h : w ≠ w') : getD0 (l.set w x) w' = getD0 l w' := by
  unfold getD0
  rw [List.getElem?_set_ne h]

theorem dOf_set_ne (D : List (Option Int)) (w w' : Nat) (x : Option Int) (h : w ≠ w') : dOf (D.set w x) w' = dOf D w' := by
  unfold dOf
  rw [lk_set_ne _ _ _ _ h]

theorem dOf_of_lk {D : List (Option Int)} {x : Nat} {d : Int} (h : lk D x = some d) : dOf D x = d := by
  unfold dOf
  rw [h]
  rfl

/-- arc membership with costs: `A` lists the arcs of the traversal lists, `cost` reads the cost off an entry
    (`fun _ => 1` for hop counts) -/
def ArcsOfC (adjOf : Nat → List Adj) (n : Nat) (cost : Adj → Int) (A : Arcs) : Prop :=
  ∀ u w c, (u, w, c) ∈ A ↔ (u < n ∧ ∃ a ∈ adjOf u, a.1 = w ∧ cost a = c)

theorem ArcsOfC.pos {adjOf : Nat → List Adj} {n : Nat} {A : Arcs} {cost : Adj → Int} (hA : ArcsOfC adjOf n cost A) (hpos : ∀ v, v < n → ∀ a ∈ adjOf v, 0 < cost a) :
    PosArcs A := by
  rintro ⟨u, w, c⟩ ha
  obtain ⟨hu, a, haa, _, hc⟩ := (hA u w c).1 ha
  rw [← hc]; exact hpos u hu a haa

theorem ArcsOfC.unit {adjOf : Nat → List Adj} {n : Nat} {A : Arcs} (hA : ArcsOfC adjOf n (fun _ => 1) A) : UnitArcs A := by
  rintro ⟨u, w, c⟩ ha
  obtain ⟨_, _, _, _, hc⟩ := (hA u w c).1 ha
  exact hc.symm

/-- what a single-source stage (`bfs` or `dijkstra` of betweenness.rs) delivers: `D` is the final distance array (which the
    stage drops), `cost` the cost of an adjacency entry, `κ` the value the stage leaves in `sigma[source]` (1 for `bfs`,
    2 for `dijkstra`) -/
structure SsOut (adjOf : Nat → List Adj) (n source : Nat) (cost : Adj → Int) (κ : Rat) (A : Arcs)
    (D : List (Option Int)) (r : SSR) : Prop where
  arcs : ArcsOfC adjOf n cost A
  posA : PosArcs A
  κpos : 0 < κ
  rsrc : r.source = source
  lenS : r.sigma.length = n
  lenP : r.P.length = n
  nd : r.S.Nodup
  lt : ∀ x ∈ r.S, x < n
  srcIn : source ∈ r.S
  memD : ∀ x, x ∈ r.S ↔ lk D x ≠ none
  dist : ∀ x d, lk D x = some d ↔ IsDist A source x d
  ord : r.S.Pairwise (fun x y => dOf D x ≤ dOf D y)
  pMem : ∀ w u, u ∈ gP r.P w ↔ (u ∈ r.S ∧ ∃ a ∈ adjOf u, a.1 = w ∧ lk D w = some (dOf D u + cost a))
  pNd : ∀ w, (gP r.P w).Nodup
  sig : ∀ w ∈ r.S, getD0 r.sigma w = (if w = source then κ else 0) + ((gP r.P w).map (getD0 r.sigma)).sum
  sPos : ∀ w ∈ r.S, 0 < getD0 r.sigma w

theorem bfsRelax_eq (v : Nat) (dv : Int) (sv : Rat) (Q : List Nat) (D : List (Option Int)) (sigma : List Rat)
    (P : List (List Nat)) (a : Adj) (hlt : a.1 < D.length) :
    bfsRelax v dv sv (Q, D, sigma, P) a =
      match lk D a.1 with
      | none => (Q ++ [a.1], D.set a.1 (some (dv + 1)), sigma.set a.1 (getD0 sigma a.1 + sv), P.set a.1 (gP P a.1 ++ [v]))
      | some d =>
        if d = dv + 1 then (Q, D, sigma.set a.1 (getD0 sigma a.1 + sv), P.set a.1 (gP P a.1 ++ [v])) else (Q, D, sigma, P) := by
  unfold lk gP bfsRelax
  cases h : D[a.1]?.join with
  | none =>
    have : (D.set a.1 (some (dv + 1)))[a.1]?.join = some (dv + 1) := by simp [hlt]
    simp only [h, Option.isNone_none, if_true, this, beq_self_eq_true]
  | some d => simp only [h, Option.isNone_some, Bool.false_eq_true, if_false, beq_iff_eq, Option.some.injEq]

/-- the relaxed adjacency entries while the row of `v` is being scanned: all rows of `S`, and the prefix `pre` of the row of `v` -/
def rowDn (adjOf : Nat → List Adj) (S : List Nat) (v : Nat) (pre : List Adj) (u : Nat) (a : Adj) : Prop :=
  (u ∈ S ∧ a ∈ adjOf u) ∨ (u = v ∧ a ∈ pre)

/-- between two iterations of the outer loop: exactly the rows of `S` have been scanned -/
def mainDn (adjOf : Nat → List Adj) (S : List Nat) (u : Nat) (a : Adj) : Prop := u ∈ S ∧ a ∈ adjOf u

/-- the distance part of the invariant: `S` is the list of dequeued nodes, `Q` the queue; while a row is scanned its node
    still counts as the head of `Q`.  `ord` and `bnd` are the two-level property of a BFS queue. -/
structure QInv (adjOf : Nat → List Adj) (n source : Nat) (A : Arcs) (Dn : Nat → Adj → Prop)
    (S Q : List Nat) (D : List (Option Int)) : Prop where
  lenD : D.length = n
  nd : (S ++ Q).Nodup
  disc : ∀ x, lk D x ≠ none ↔ x ∈ S ++ Q
  src : lk D source = some 0
  wit : ∀ x d, lk D x = some d → Walk A source x d
  /-- closure: the target of a relaxed entry is labelled, at most one above the source of the entry -/
  clo : ∀ u a, Dn u a → ∃ du dw, lk D u = some du ∧ lk D a.1 = some dw ∧ dw ≤ du + 1
  ord : (S ++ Q).Pairwise (fun x y => dOf D x ≤ dOf D y)
  /-- no label exceeds that of the queue head by more than 1 -/
  bnd : ∀ q ∈ Q.head?, ∀ x ∈ S ++ Q, dOf D x ≤ dOf D q + 1

/-- the invariant: the distance part, and the predecessor lists and path counts over the entries relaxed so far -/
structure BInv (adjOf : Nat → List Adj) (n source : Nat) (A : Arcs) (Dn : Nat → Adj → Prop)
    (S Q : List Nat) (D : List (Option Int)) (sigma : List Rat) (P : List (List Nat)) : Prop
    extends QInv adjOf n source A Dn S Q D where
  lenS : sigma.length = n
  lenP : P.length = n
  /-- `P[w]` lists the sources of the relaxed entries that reach `w` one level up -/
  pMem : ∀ w u, u ∈ gP P w ↔ ∃ a, Dn u a ∧ a.1 = w ∧ lk D w = some (dOf D u + 1)
  pNd : ∀ w, (gP P w).Nodup
  /-- the path-count recursion (an undiscovered node has `sigma = 0` and no predecessors) -/
  sig : ∀ w, w < n → getD0 sigma w = (if w = source then 1 else 0) + ((gP P w).map (getD0 sigma)).sum
  sPos : ∀ w ∈ S ++ Q, 0 < getD0 sigma w

variable {adjOf : Nat → List Adj} {n source : Nat} {A : Arcs}

theorem lk_dOf {D : List (Option Int)} {x : Nat} (h : lk D x ≠ none) : lk D x = some (dOf D x) := by
  unfold dOf
  cases hl : lk D x with
  | none => exact absurd hl h
  | some d => rfl

theorem QInv.lk_of_mem {Dn : Nat → Adj → Prop} {S Q : List Nat} {D : List (Option Int)}
    (q : QInv adjOf n source A Dn S Q D) {x : Nat} (hx : x ∈ S ++ Q) : lk D x = some (dOf D x) :=
  lk_dOf ((q.disc x).2 hx)

theorem QInv.lt_n {Dn : Nat → Adj → Prop} {S Q : List Nat} {D : List (Option Int)}
    (q : QInv adjOf n source A Dn S Q D) {x : Nat} (hx : x ∈ S ++ Q) : x < n :=
  q.lenD ▸ lk_lt_of_some (q.lk_of_mem hx)

theorem QInv.mem_of_lk {Dn : Nat → Adj → Prop} {S Q : List Nat} {D : List (Option Int)}
    (q : QInv adjOf n source A Dn S Q D) {x : Nat} {d : Int} (hx : lk D x = some d) : x ∈ S ++ Q :=
  (q.disc x).1 (by rw [hx]; exact Option.some_ne_none _)

section facts
variable {Dn : Nat → Adj → Prop} {S Q : List Nat} {D : List (Option Int)} {sigma : List Rat} {P : List (List Nat)}
  (inv : BInv adjOf n source A Dn S Q D sigma P)
include inv

theorem BInv.undisc {w : Nat} (hw : lk D w = none) (hwn : w < n) : gP P w = [] ∧ getD0 sigma w = 0 ∧ w ≠ source := by
  have hP : gP P w = [] := List.eq_nil_iff_forall_not_mem.2 fun u hu => by
    obtain ⟨a, _, _, hl⟩ := (inv.pMem w u).1 hu
    rw [hw] at hl
    cases hl
  have hne : w ≠ source := fun e => by rw [e, inv.src] at hw; cases hw
  refine ⟨hP, ?_, hne⟩
  rw [inv.sig w hwn, hP, if_neg hne, List.map_nil, List.sum_nil, add_zero]

theorem BInv.congrDn {Dn' : Nat → Adj → Prop} (hiff : ∀ u a, Dn u a ↔ Dn' u a) :
    BInv adjOf n source A Dn' S Q D sigma P := by
  have : Dn = Dn' := funext fun u => funext fun a => propext (hiff u a)
  rw [← this]; exact inv

end facts

theorem rowDn_snoc {S : List Nat} {v : Nat} {pre : List Adj} {a : Adj} {u : Nat} {b : Adj}
    (hdn : rowDn adjOf S v (pre ++ [a]) u b) : rowDn adjOf S v pre u b ∨ (u = v ∧ b = a) := by
  rcases hdn with h1 | ⟨h1, h2⟩
  · exact Or.inl (Or.inl h1)
  · rcases List.mem_append.1 h2 with h3 | h3
    · exact Or.inl (Or.inr ⟨h1, h3⟩)
    · exact Or.inr ⟨h1, List.mem_singleton.1 h3⟩

theorem rowDn_mono {S : List Nat} {v : Nat} {pre : List Adj} {a : Adj} {u : Nat} {b : Adj}
    (hdn : rowDn adjOf S v pre u b) : rowDn adjOf S v (pre ++ [a]) u b :=
  hdn.imp_right fun h => ⟨h.1, List.mem_append_left _ h.2⟩

theorem rowDn_last {S : List Nat} {v : Nat} {pre : List Adj} {a : Adj} : rowDn adjOf S v (pre ++ [a]) v a :=
  Or.inr ⟨rfl, List.mem_append_right _ List.mem_cons_self⟩

theorem rowDn_full {S : List Nat} {v u : Nat} {a : Adj} : rowDn adjOf S v (adjOf v) u a ↔ mainDn adjOf (S ++ [v]) u a := by
  unfold rowDn mainDn
  rw [List.mem_append, List.mem_singleton, or_and_right]
  exact or_congr_right ⟨fun h => ⟨h.1, h.1 ▸ h.2⟩, fun h => ⟨h.1, h.1 ▸ h.2⟩⟩

theorem exists_rowDn_snoc {S : List Nat} {v : Nat} {pre : List Adj} {a : Adj} {u : Nat} {p : Adj → Prop} :
    (∃ b, rowDn adjOf S v (pre ++ [a]) u b ∧ p b) ↔ (∃ b, rowDn adjOf S v pre u b ∧ p b) ∨ (u = v ∧ p a) := by
  constructor
  · rintro ⟨b, hb, hp⟩
    rcases rowDn_snoc hb with h | ⟨h, rfl⟩
    · exact Or.inl ⟨b, h, hp⟩
    · exact Or.inr ⟨h, hp⟩
  · rintro (⟨b, hb, hp⟩ | ⟨rfl, hp⟩)
    · exact ⟨b, rowDn_mono hb, hp⟩
    · exact ⟨a, rowDn_last, hp⟩

theorem mem_head {S Q : List Nat} {v : Nat} : v ∈ S ++ v :: Q := List.mem_append_right _ List.mem_cons_self

section row
variable {S Q : List Nat} {D : List (Option Int)} {v : Nat} {pre : List Adj}
  (q : QInv adjOf n source A (rowDn adjOf S v pre) S (v :: Q) D)
include q

theorem QInv.dn_le {u : Nat} {b : Adj} (hdn : rowDn adjOf S v pre u b) : dOf D u ≤ dOf D v := by
  rcases hdn with ⟨h1, _⟩ | ⟨rfl, _⟩
  · exact (List.pairwise_append.1 q.ord).2.2 u h1 v List.mem_cons_self
  · exact Int.le_refl _

theorem QInv.discover (hA : ArcsOfC adjOf n (fun _ => 1) A) (a : Adj) (ha : a ∈ adjOf v) (han : a.1 < n) (hw : lk D a.1 = none) :
    QInv adjOf n source A (rowDn adjOf S v (pre ++ [a])) S (v :: (Q ++ [a.1])) (D.set a.1 (some (dOf D v + 1))) := by
  -- `w` goes last with label `d(v)+1`; `bnd` for the head `v` says that this bounds every label in `S ++ v :: Q`
  have hvin : v ∈ S ++ v :: Q := mem_head
  have hlkv : lk D v = some (dOf D v) := q.lk_of_mem hvin
  have hwnot : a.1 ∉ S ++ v :: Q := fun hin => (q.disc a.1).2 hin hw
  have hne : ∀ x, x ∈ S ++ v :: Q → a.1 ≠ x := fun x hx e => hwnot (e ▸ hx)
  have hwv : a.1 ≠ v := hne v hvin
  have hlw : lk (D.set a.1 (some (dOf D v + 1))) a.1 = some (dOf D v + 1) := lk_set_self _ _ _ (q.lenD.symm ▸ han)
  have hdw : dOf (D.set a.1 (some (dOf D v + 1))) a.1 = dOf D v + 1 := dOf_of_lk hlw
  have hall : S ++ v :: (Q ++ [a.1]) = (S ++ v :: Q) ++ [a.1] := (List.append_assoc S (v :: Q) [a.1]).symm
  refine
    { lenD := by rw [List.length_set]; exact q.lenD
      nd := hall ▸ nodup_snoc q.nd hwnot
      disc := fun x => ?_
      src := by rw [lk_set_ne _ _ _ _ fun e => by rw [e, q.src] at hw; cases hw]; exact q.src
      wit := fun x d hx => ?_
      clo := fun u b hdn => ?_
      ord := ?_, bnd := ?_ }
  · rw [hall, List.mem_append, List.mem_singleton]
    by_cases e : a.1 = x
    · rw [← e, hlw]
      exact ⟨fun _ => Or.inr rfl, fun _ => Option.some_ne_none _⟩
    · rw [lk_set_ne _ _ _ _ e, q.disc x, or_iff_left (Ne.symm e)]
  · by_cases e : a.1 = x
    · rw [← e, hlw] at hx
      cases hx
      exact e ▸ Walk.snoc (q.wit v _ hlkv) ((hA v a.1 1).2 ⟨q.lt_n hvin, a, ha, rfl, rfl⟩)
    · rw [lk_set_ne _ _ _ _ e] at hx
      exact q.wit x d hx
  · rcases rowDn_snoc hdn with h1 | ⟨rfl, rfl⟩
    · obtain ⟨du, dw, h1, h2, h3⟩ := q.clo u b h1
      exact ⟨du, dw, by rwa [lk_set_ne _ _ _ _ fun e => by rw [← e, hw] at h1; cases h1],
        by rwa [lk_set_ne _ _ _ _ fun e => by rw [← e, hw] at h2; cases h2], h3⟩
    · exact ⟨_, _, by rw [lk_set_ne _ _ _ _ hwv]; exact hlkv, hlw, Int.le_refl _⟩
  · rw [hall, List.pairwise_append]
    refine ⟨q.ord.imp_of_mem fun {x y} hx hy hxy => ?_, List.pairwise_singleton _ _, fun x hx y hy => ?_⟩
    · rwa [dOf_set_ne _ _ _ _ (hne x hx), dOf_set_ne _ _ _ _ (hne y hy)]
    · rw [List.mem_singleton.1 hy, hdw, dOf_set_ne _ _ _ _ (hne x hx)]
      exact q.bnd v rfl x hx
  · intro y hy x hx
    obtain rfl : v = y := Option.some.inj hy
    rw [dOf_set_ne _ _ _ _ hwv]
    rw [hall, List.mem_append, List.mem_singleton] at hx
    rcases hx with hx | rfl
    · rw [dOf_set_ne _ _ _ _ (hne x hx)]
      exact q.bnd v rfl x hx
    · rw [hdw]

theorem QInv.snoc (a : Adj) {dw : Int} (hw : lk D a.1 = some dw) (hle : dw ≤ dOf D v + 1) :
    QInv adjOf n source A (rowDn adjOf S v (pre ++ [a])) S (v :: Q) D := by
  refine { q with clo := fun u b hdn => ?_ }
  rcases rowDn_snoc hdn with h1 | ⟨rfl, rfl⟩
  · exact q.clo u b h1
  · exact ⟨_, dw, q.lk_of_mem mem_head, hw, hle⟩

end row

section step
variable {S Q : List Nat} {D : List (Option Int)} {sigma : List Rat} {P : List (List Nat)} {v : Nat} {pre : List Adj}
  (inv : BInv adjOf n source A (rowDn adjOf S v pre) S (v :: Q) D sigma P)
include inv

/-- `w` is at distance `d(v)+1` (just discovered, or discovered before): `v` joins `P[w]`, `sigma[w] += sigma[v]`.
    `Q'`, `D'` are the queue and the distances after the first `if`. -/
theorem BInv.count {Q' : List Nat} {D' : List (Option Int)} (a : Adj) (hfresh : ∀ b ∈ pre, b.1 ≠ a.1)
    (q' : QInv adjOf n source A (rowDn adjOf S v (pre ++ [a])) S (v :: Q') D')
    (hD : ∀ x, lk D x ≠ none → lk D' x = lk D x) (hw : lk D' a.1 = some (dOf D v + 1))
    (hQ : ∀ x ∈ S ++ v :: Q', x ∈ S ++ v :: Q ∨ x = a.1) (hσ : 0 ≤ getD0 sigma a.1) :
    BInv adjOf n source A (rowDn adjOf S v (pre ++ [a])) S (v :: Q')
      D' (sigma.set a.1 (getD0 sigma a.1 + getD0 sigma v)) (P.set a.1 (gP P a.1 ++ [v])) := by
  have hvin : v ∈ S ++ v :: Q := mem_head
  have han : a.1 < n := q'.lt_n (q'.mem_of_lk hw)
  have hdO : ∀ x, x ∈ S ++ v :: Q → dOf D' x = dOf D x := fun x hx => by
    unfold dOf
    rw [hD x ((inv.disc x).2 hx)]
  -- the sources of relaxed entries are not at the level of `w`
  have hne_dn : ∀ u b, rowDn adjOf S v pre u b → a.1 ≠ u := fun u b hdn e => by
    obtain ⟨du, _, h1, _⟩ := inv.clo u b hdn
    have h2 := inv.dn_le hdn
    rw [← hdO u (inv.mem_of_lk h1), ← e, dOf_of_lk hw] at h2
    omega
  have hlkv : lk D' v = some (dOf D v) := (hD v ((inv.disc v).2 hvin)).trans (inv.lk_of_mem hvin)
  have hwv : a.1 ≠ v := fun e => by rw [e, hlkv] at hw; exact absurd (Option.some.inj hw) (by omega)
  have hvnot : v ∉ gP P a.1 := fun hin => by
    obtain ⟨b, hb, hb1, _⟩ := (inv.pMem a.1 v).1 hin
    rcases hb with ⟨h1, _⟩ | ⟨_, h2⟩
    · exact (List.nodup_append.1 inv.nd).2.2 v h1 v List.mem_cons_self rfl
    · exact hfresh b h2 hb1
  have hPlen : a.1 < P.length := inv.lenP.symm ▸ han
  have hSlen : a.1 < sigma.length := inv.lenS.symm ▸ han
  have hcongr : ∀ w', (gP P w').map (getD0 (sigma.set a.1 (getD0 sigma a.1 + getD0 sigma v))) =
      (gP P w').map (getD0 sigma) := fun w' => List.map_congr_left fun u hu => by
    obtain ⟨b, hb, _⟩ := (inv.pMem w' u).1 hu
    exact getD0_set_ne _ _ _ _ (hne_dn u b hb)
  refine
    { q' with
      lenS := by rw [List.length_set]; exact inv.lenS
      lenP := by rw [List.length_set]; exact inv.lenP
      pMem := fun w u => ?_
      pNd := fun w => ?_
      sig := fun w hwn => ?_
      sPos := fun w hw' => ?_ }
  · -- on the entries relaxed before, `D'` reads as `D`
    have hold : (∃ b, rowDn adjOf S v pre u b ∧ b.1 = w ∧ lk D' w = some (dOf D' u + 1)) ↔ u ∈ gP P w := by
      rw [inv.pMem w u]
      refine exists_congr fun b => and_congr_right fun hb => and_congr_right fun hb1 => ?_
      obtain ⟨du, dw, h1, h2, _⟩ := inv.clo u b hb
      rw [hdO u (inv.mem_of_lk h1), hD w (by rw [← hb1, h2]; exact Option.some_ne_none _)]
    rw [exists_rowDn_snoc, hold]
    by_cases e : a.1 = w
    · subst e
      rw [gP_set_self _ _ _ hPlen, List.mem_append, List.mem_singleton]
      exact or_congr_right ⟨fun h => ⟨h, rfl, by rw [h, hdO v hvin]; exact hw⟩, fun h => h.1⟩
    · rw [gP_set_ne _ _ _ _ e, or_iff_left fun h => e h.2.1]
  · by_cases e : a.1 = w
    · rw [← e, gP_set_self _ _ _ hPlen]
      exact nodup_snoc (inv.pNd a.1) hvnot
    · rw [gP_set_ne _ _ _ _ e]; exact inv.pNd w
  · by_cases e : a.1 = w
    · subst e
      rw [getD0_set_self _ _ _ hSlen, gP_set_self _ _ _ hPlen, List.map_append, List.sum_append, hcongr a.1,
        inv.sig a.1 hwn, List.map_singleton, List.sum_singleton, getD0_set_ne _ _ _ _ hwv, add_assoc]
    · rw [getD0_set_ne _ _ _ _ e, gP_set_ne _ _ _ _ e, hcongr w]
      exact inv.sig w hwn
  · by_cases e : a.1 = w
    · rw [← e, getD0_set_self _ _ _ hSlen]
      exact add_pos_of_nonneg_of_pos hσ (inv.sPos v hvin)
    · rw [getD0_set_ne _ _ _ _ e]
      exact inv.sPos w ((hQ w hw').resolve_right (Ne.symm e))

theorem BInv.skip (a : Adj) {d : Int} (hw : lk D a.1 = some d) (hne : d ≠ dOf D v + 1) :
    BInv adjOf n source A (rowDn adjOf S v (pre ++ [a])) S (v :: Q) D sigma P := by
  refine { inv.toQInv.snoc a hw (dOf_of_lk hw ▸ inv.bnd v rfl a.1 (inv.mem_of_lk hw)) with
    lenS := inv.lenS, lenP := inv.lenP, pNd := inv.pNd, sig := inv.sig, sPos := inv.sPos, pMem := fun w u => ?_ }
  rw [exists_rowDn_snoc, ← inv.pMem w u, or_iff_left]
  rintro ⟨rfl, rfl, h⟩
  exact hne (Option.some.inj (hw.symm.trans h))

theorem BInv.relax (hA : ArcsOfC adjOf n (fun _ => 1) A) (a : Adj) (ha : a ∈ adjOf v) (han : a.1 < n)
    (hfresh : a.1 ≠ v → ∀ b ∈ pre, b.1 ≠ a.1) :
    ∃ Q' D' sigma' P', bfsRelax v (dOf D v) (getD0 sigma v) (Q, D, sigma, P) a = (Q', D', sigma', P') ∧
      BInv adjOf n source A (rowDn adjOf S v (pre ++ [a])) S (v :: Q') D' sigma' P' ∧
      dOf D' v = dOf D v ∧ getD0 sigma' v = getD0 sigma v := by
  have hlkv : lk D v = some (dOf D v) := inv.lk_of_mem mem_head
  have hDlen : a.1 < D.length := inv.lenD.symm ▸ han
  cases hw : lk D a.1 with
  | none =>
    have hwv : a.1 ≠ v := fun e => by rw [e, hlkv] at hw; cases hw
    refine ⟨_, _, _, _, (bfsRelax_eq v _ _ Q D sigma P a hDlen).trans (by rw [hw]),
      inv.count a (hfresh hwv) (inv.toQInv.discover hA a ha han hw) (fun x hx => lk_set_ne _ _ _ _ fun e => hx (e ▸ hw))
        (lk_set_self _ _ _ hDlen) (fun x hx => ?_) (le_of_eq (inv.undisc hw han).2.1.symm),
      dOf_set_ne _ _ _ _ hwv, getD0_set_ne _ _ _ _ hwv⟩
    rwa [← List.mem_singleton, ← List.mem_append, List.append_assoc]
  | some d =>
    by_cases hd : d = dOf D v + 1
    · subst hd
      have hwv : a.1 ≠ v := fun e => by rw [e, hlkv] at hw; exact absurd (Option.some.inj hw) (by omega)
      exact ⟨_, _, _, _, (bfsRelax_eq v _ _ Q D sigma P a hDlen).trans (by rw [hw]; exact if_pos rfl),
        inv.count a (hfresh hwv) (inv.toQInv.snoc a hw (Int.le_refl _)) (fun _ _ => rfl) hw (fun x hx => Or.inl hx)
          (le_of_lt (inv.sPos a.1 (inv.mem_of_lk hw))), rfl, getD0_set_ne _ _ _ _ hwv⟩
    · exact ⟨_, _, _, _, (bfsRelax_eq v _ _ Q D sigma P a hDlen).trans (by rw [hw]; exact if_neg hd), inv.skip a hw hd, rfl, rfl⟩

end step

theorem fresh_of_nodup {v : Nat} {pre rest : List Adj} {a : Adj}
    (hnd : (((pre ++ a :: rest).map (fun a => a.1)).filter (fun j => j != v)).Nodup) (hav : a.1 ≠ v) :
    ∀ b ∈ pre, b.1 ≠ a.1 := by
  intro b hb e
  rw [List.map_append, List.filter_append, List.nodup_append] at hnd
  have hk : (a.1 != v) = true := bne_iff_ne.2 hav
  exact hnd.2.2 a.1 (List.mem_filter.2 ⟨List.mem_map.2 ⟨b, hb, e⟩, hk⟩)
    a.1 (List.mem_filter.2 ⟨List.mem_map.2 ⟨a, List.mem_cons_self, rfl⟩, hk⟩) rfl

theorem BInv.row (hA : ArcsOfC adjOf n (fun _ => 1) A) {S : List Nat} {v : Nat}
    (hidx : ∀ a ∈ adjOf v, a.1 < n)
    (hnd : (((adjOf v).map (fun a => a.1)).filter (fun j => j != v)).Nodup) :
    ∀ (rest pre : List Adj) (Q : List Nat) (D : List (Option Int)) (sigma : List Rat) (P : List (List Nat)),
      adjOf v = pre ++ rest →
      BInv adjOf n source A (rowDn adjOf S v pre) S (v :: Q) D sigma P →
      ∃ Q' D' sigma' P', rest.foldl (bfsRelax v (dOf D v) (getD0 sigma v)) (Q, D, sigma, P) = (Q', D', sigma', P') ∧
        BInv adjOf n source A (rowDn adjOf S v (adjOf v)) S (v :: Q') D' sigma' P' := by
  intro rest
  induction rest with
  | nil =>
    intro pre Q D sigma P hsplit inv
    rw [List.append_nil] at hsplit
    exact ⟨Q, D, sigma, P, rfl, hsplit ▸ inv⟩
  | cons a rest ih =>
    intro pre Q D sigma P hsplit inv
    have ha : a ∈ adjOf v := hsplit ▸ List.mem_append_right _ List.mem_cons_self
    obtain ⟨Q1, D1, s1, P1, e1, inv1, hd1, hs1⟩ :=
      inv.relax hA a ha (hidx a ha) (fun hav => fresh_of_nodup (hsplit ▸ hnd) hav)
    rw [List.foldl_cons, e1, ← hd1, ← hs1]
    exact ih (pre ++ [a]) Q1 D1 s1 P1 (by rw [hsplit, List.append_assoc]; rfl) inv1

theorem BInv.end_row {S Q : List Nat} {v : Nat} {D : List (Option Int)} {sigma : List Rat} {P : List (List Nat)}
    (inv : BInv adjOf n source A (rowDn adjOf S v (adjOf v)) S (v :: Q) D sigma P) :
    BInv adjOf n source A (mainDn adjOf (S ++ [v])) (S ++ [v]) Q D sigma P := by
  have hl : (S ++ [v]) ++ Q = S ++ v :: Q := List.append_assoc S [v] Q
  have hvQ : ∀ q ∈ Q, dOf D v ≤ dOf D q := (List.pairwise_cons.1 (List.pairwise_append.1 inv.ord).2.1).1
  refine { inv.congrDn fun _ _ => rowDn_full with
    nd := hl ▸ inv.nd, disc := hl ▸ inv.disc, ord := hl ▸ inv.ord, sPos := hl ▸ inv.sPos, bnd := fun q hq x hx => ?_ }
  have := inv.bnd v rfl x (hl ▸ hx)
  have := hvQ q (List.mem_of_mem_head? hq)
  omega

/-- **the BFS loop**: with enough fuel it stops with an empty queue, the invariant holding -/
theorem bfsLoop_inv (hA : ArcsOfC adjOf n (fun _ => 1) A)
    (hidx : ∀ v, v < n → ∀ a ∈ adjOf v, a.1 < n)
    (hnd : ∀ v, v < n → (((adjOf v).map (fun a => a.1)).filter (fun j => j != v)).Nodup) :
    ∀ (fuel : Nat) (S Q : List Nat) (D : List (Option Int)) (sigma : List Rat) (P : List (List Nat)),
      BInv adjOf n source A (mainDn adjOf S) S Q D sigma P → n + 1 ≤ fuel + S.length →
      ∃ D' sigma' P' S', bcBfsLoop adjOf fuel Q D sigma P S = (D', sigma', P', S') ∧
        BInv adjOf n source A (mainDn adjOf S') S' [] D' sigma' P' := by
  intro fuel
  induction fuel with
  | zero =>
    -- the measure `fuel + |S|` stays at least `n + 1`, while `|S| ≤ n`
    intro S Q D sigma P inv hf
    have := C06L.nodup_lt_length_le (List.nodup_append.1 inv.nd).1 (fun x hx => inv.lt_n (List.mem_append_left _ hx))
    omega
  | succ fuel ih =>
    intro S Q D sigma P inv hf
    cases Q with
    | nil => exact ⟨D, sigma, P, S, bcBfsLoop_nil .., inv⟩
    | cons v Q =>
      have hvn : v < n := inv.lt_n mem_head
      have inv0 : BInv adjOf n source A (rowDn adjOf S v []) S (v :: Q) D sigma P :=
        inv.congrDn fun u a => ⟨Or.inl, fun h => h.elim id fun h => absurd h.2 List.not_mem_nil⟩
      obtain ⟨Q1, D1, s1, P1, e1, inv1⟩ := inv0.row hA (hidx v hvn) (hnd v hvn) (adjOf v) [] Q D sigma P rfl
      obtain ⟨D', s', P', S', e2, inv3⟩ := ih (S ++ [v]) Q1 D1 s1 P1 inv1.end_row
        (by rw [List.length_append, List.length_singleton]; omega)
      refine ⟨D', s', P', S', ?_, inv3⟩
      rw [bcBfsLoop_cons]
      have e1' : (adjOf v).foldl (bfsRelax v ((D[v]?.join).getD 0) (getD0 sigma v)) (Q, D, sigma, P) = (Q1, D1, s1, P1) := e1
      simp only [e1']
      exact e2

theorem BInv.init (adjOf : Nat → List Adj) (n source : Nat) (A : Arcs) (hsrc : source < n) :
    BInv adjOf n source A (mainDn adjOf []) [] [source] ((List.replicate n (none : Option Int)).set source (some 0))
      ((List.replicate n (0 : Rat)).set source 1) (List.replicate n []) := by
  have hlen : source < (List.replicate n (none : Option Int)).length := by rwa [List.length_replicate]
  have hlenS : source < (List.replicate n (0 : Rat)).length := by rwa [List.length_replicate]
  have hlk : ∀ x, x ≠ source → lk ((List.replicate n (none : Option Int)).set source (some 0)) x = none := fun x e => by
    rw [lk_set_ne _ _ _ _ (Ne.symm e), lk_replicate_none]
  have hlks : lk ((List.replicate n (none : Option Int)).set source (some 0)) source = some 0 := lk_set_self _ _ _ hlen
  have hgP : ∀ w, gP (List.replicate n ([] : List Nat)) w = [] := fun w => by
    unfold gP
    rw [List.getElem?_replicate]
    split <;> rfl
  have hd0 : dOf ((List.replicate n (none : Option Int)).set source (some 0)) source = 0 := dOf_of_lk hlks
  refine
    { lenD := by rw [List.length_set, List.length_replicate]
      lenS := by rw [List.length_set, List.length_replicate]
      lenP := List.length_replicate
      nd := List.pairwise_singleton _ _
      disc := fun x => ?_
      src := hlks
      wit := fun x d hx => ?_
      clo := fun u a h => absurd h.1 List.not_mem_nil
      ord := List.pairwise_singleton _ _
      bnd := fun q hq x hx => ?_
      pMem := fun w u => ?_
      pNd := fun w => by rw [hgP]; exact List.nodup_nil
      sig := fun w hw => ?_
      sPos := fun w hw => ?_ }
  · rw [List.nil_append, List.mem_singleton]
    by_cases e : x = source
    · rw [e, hlks]; exact ⟨fun _ => rfl, fun _ => Option.some_ne_none _⟩
    · rw [hlk x e]; exact ⟨fun h => absurd rfl h, fun h => absurd h e⟩
  · by_cases e : x = source
    · rw [e, hlks] at hx
      cases hx
      exact e ▸ Walk.nil _
    · rw [hlk x e] at hx; cases hx
  · obtain rfl : source = q := Option.some.inj hq
    rw [List.mem_singleton.1 hx]
    omega
  · rw [hgP]
    exact ⟨fun h => absurd h List.not_mem_nil, fun ⟨a, h, _⟩ => absurd h.1 List.not_mem_nil⟩
  · rw [hgP, List.map_nil, List.sum_nil, add_zero]
    by_cases e : w = source
    · rw [e, if_pos rfl, getD0_set_self _ _ _ hlenS]
    · rw [if_neg e, getD0_set_ne _ _ _ _ (Ne.symm e)]
      unfold getD0
      rw [List.getElem?_replicate, if_pos hw]
      rfl
  · rw [List.mem_singleton.1 hw, getD0_set_self _ _ _ hlenS]
    decide

theorem BInv.final (hA : ArcsOfC adjOf n (fun _ => 1) A) {S : List Nat} {D : List (Option Int)} {sigma : List Rat}
    {P : List (List Nat)} (inv : BInv adjOf n source A (mainDn adjOf S) S [] D sigma P) :
    SsOut adjOf n source (fun _ => 1) 1 A D ⟨S, P, sigma, source⟩ := by
  have hSQ : S ++ [] = S := List.append_nil S
  have hdisc : ∀ x, lk D x ≠ none ↔ x ∈ S := hSQ ▸ inv.disc
  -- closure: the labels bound every walk from below
  have hlow : ∀ x c, Walk A source x c → ∃ d, lk D x = some d ∧ d ≤ c := by
    intro x c hw
    induction hw with
    | nil => exact ⟨0, inv.src, Int.le_refl _⟩
    | @snoc u x c' w hw' ha ih =>
      obtain ⟨du, hdu, hle⟩ := ih
      obtain ⟨_, a, haa, rfl, hw⟩ := (hA u x w).1 ha
      obtain rfl : 1 = w := hw
      have huS : u ∈ S := (hdisc u).1 (by rw [hdu]; exact Option.some_ne_none _)
      obtain ⟨du', dw, e1, e2, e3⟩ := inv.clo u a ⟨huS, haa⟩
      rw [hdu] at e1
      cases e1
      exact ⟨dw, e2, by omega⟩
  refine
    { arcs := hA, posA := hA.unit.pos, κpos := one_pos, rsrc := rfl, lenS := inv.lenS, lenP := inv.lenP
      nd := hSQ ▸ inv.nd
      lt := fun x hx => inv.lt_n (hSQ.symm ▸ hx)
      srcIn := (hdisc source).1 (by rw [inv.src]; exact Option.some_ne_none _)
      memD := fun x => (hdisc x).symm
      dist := C06T.isDist_iff_of_lower (lab := fun x d => lk D x = some d)
        (fun _ _ _ ha hb => Option.some.inj (ha.symm.trans hb)) inv.wit hlow
      ord := hSQ ▸ inv.ord
      pMem := fun w u => ?_
      pNd := inv.pNd
      sig := fun w hw => inv.sig w (inv.lt_n (hSQ.symm ▸ hw))
      sPos := hSQ ▸ inv.sPos }
  rw [inv.pMem w u]
  exact ⟨fun ⟨a, ⟨h1, h2⟩, h3, h4⟩ => ⟨h1, a, h2, h3, h4⟩, fun ⟨h1, a, h2, h3, h4⟩ => ⟨a, ⟨h1, h2⟩, h3, h4⟩⟩

theorem bcBfs_out (hA : ArcsOfC adjOf n (fun _ => 1) A) (hsrc : source < n)
    (hidx : ∀ v, v < n → ∀ a ∈ adjOf v, a.1 < n)
    (hnd : ∀ v, v < n → (((adjOf v).map (fun a => a.1)).filter (fun j => j != v)).Nodup) :
    ∃ D, SsOut adjOf n source (fun _ => 1) 1 A D (bcBfs adjOf n source) := by
  obtain ⟨D', s', P', S', e, inv⟩ :=
    bfsLoop_inv hA hidx hnd (n + 1) [] [source] _ _ _ (BInv.init adjOf n source A hsrc) (Nat.le_add_right _ _)
  refine ⟨D', ?_⟩
  have : bcBfs adjOf n source = ⟨S', P', s', source⟩ := by
    unfold bcBfs
    simp only [e]
  rw [this]
  exact inv.final hA

end Bc
end Graphrs
