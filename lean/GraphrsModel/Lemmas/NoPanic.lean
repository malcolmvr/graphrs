/-
  Prop-level consequences of the coupling invariant used by the no-panic theorems (C20).
-/
import GraphrsModel.Lemmas.Refine
import GraphrsModel.Lemmas.C02Nbr
import GraphrsModel.Lemmas.C02Lists
import GraphrsModel.Lemmas.Outcome
import GraphrsModel.Lemmas.NoPanicCalculus
namespace Graphrs

theorem Outcome.isPanic_of_err {α} {x : Outcome α} {k : ErrKind} (h : x = .err k) : x.isPanic = false :=
  C20B.np_of_eq_err h

namespace NP
open Store

theorem vec_lt {s : Store} (hvec : s.vecOk = true) :
    (∀ (i : Nat) (row : List Adj), s.succVec[i]? = some row → ∀ a ∈ row, a.1 < s.nodesVec.length) ∧
    (∀ (i : Nat) (row : List Adj), s.predVec[i]? = some row → ∀ a ∈ row, a.1 < s.nodesVec.length) :=
  have h := (Bool.and_eq_true _ _ ▸ C03.vecOk_eq s ▸ hvec : _ ∧ _)
  ⟨fun i row hr => ((C03.rowsOkB_iff ..).1 h.1 i row hr).1, fun i row hr => ((C03.rowsOkB_iff ..).1 h.2 i row hr).1⟩

theorem nodesByIndexes_ok {s : Store} (hn : NodesInv s) (site : String) (idxs : List Nat)
    (h : ∀ i ∈ idxs, i < s.nodesVec.length) : ∃ l, s.nodesByIndexes site idxs = .ok l :=
  ⟨_, C02.nodesByIndexes_ok s site (C02.nodesP_of s ((nodesOk_iff s).2 hn)) idxs h⟩

theorem forAllNodes_ok {α} (s : Store) (site : String) (f : Nat → Option α)
    (h : ∀ n ∈ s.nodesVec, (f n.name).isSome = true) : ∃ l, s.forAllNodes site f = .ok l := by
  unfold forAllNodes
  refine Outcome.foldl_ok_exists₀ _ s.nodesVec (fun b a ha => ?_) []
  obtain ⟨d, hd⟩ := Option.isSome_iff_exists.mp (h a ha)
  exact ⟨ainsert b a.name d, by rw [hd]; rfl⟩

theorem hasNode_iff {s : Store} (hn : NodesInv s) (x : Nat) : s.hasNode x = true ↔ x ∈ s.names :=
  C02.hasNode_mem (C02.nodesP_of s ((nodesOk_iff s).2 hn)) x

theorem getNode_isNone {s : Store} (hn : NodesInv s) {x : Nat} (hx : x ∈ s.names) : (s.getNode x).isNone = false := by
  have := (hasNode_iff hn x).mpr hx
  unfold hasNode at this
  cases h : s.getNode x <;> simp [h] at this ⊢

theorem setOf_getD {κ} [DecidableEq κ] (m : List (κ × List Nat)) (k : κ) : (alookup m k).getD [] = setOf m k := rfl

theorem getNodeIndex_unwrap {s : Store} {x i : Nat} (site : String) (h : alookup s.nodesMap x = some i) :
    (s.getNodeIndex x).unwrap site = .ok i := by
  simp [getNodeIndex, h, Outcome.unwrap]

theorem getAdjNodes_ok {s : Store} (hn : NodesInv s) (m : List (Nat × List Nat))
    (hm : ∀ i l, alookup m i = some l → ∀ j ∈ l, j < s.nodesVec.length) {x : Nat} (hx : x ∈ s.names) :
    ∃ l, s.getAdjNodes m x = .ok l := by
  obtain ⟨i, hi⟩ := (hn.mem_names_iff x).mp hx
  unfold getAdjNodes
  rw [if_neg (by simp [(hn.acontains_iff x).mpr hx]), getNodeIndex_unwrap _ hi]
  show ∃ l, (match alookup m i with | none => .ok [] | some set => s.nodesByIndexes _ set) = Outcome.ok l
  cases hl : alookup m i with
  | none => exact ⟨[], rfl⟩
  | some set => exact nodesByIndexes_ok hn _ set (hm i set hl)

theorem getAdjNodes_absent {s : Store} (hn : NodesInv s) (m : List (Nat × List Nat)) {x : Nat} (hx : x ∉ s.names) :
    s.getAdjNodes m x = .err .NodeNotFound := by
  unfold getAdjNodes
  rw [hn.acontains_eq_false hx]
  rfl

theorem getNeighborNodes_ok {s : Store} (hn : NodesInv s) (hvec : s.vecOk = true) {x : Nat} (hx : x ∈ s.names) :
    ∃ l, s.getNeighborNodes x = .ok l := by
  obtain ⟨i, hi⟩ := (hn.mem_names_iff x).mp hx
  have hlt := hn.lookup_lt hi
  obtain ⟨vS, vP⟩ := vec_lt hvec
  unfold getNeighborNodes
  rw [if_neg (by simp [(hn.acontains_iff x).mpr hx]), getNodeIndex_unwrap _ hi]
  obtain ⟨p, hp⟩ : ∃ p, s.predVec[i]? = some p :=
    ⟨_, List.getElem?_eq_getElem (by rw [hn.pred_len]; exact hlt)⟩
  obtain ⟨q, hq⟩ : ∃ q, s.succVec[i]? = some q :=
    ⟨_, List.getElem?_eq_getElem (by rw [hn.succ_len]; exact hlt)⟩
  show ∃ l, (match s.predVec[i]?, s.succVec[i]? with
    | some p, some q => s.nodesByIndexes _ (dedupConsecutive (sortNat ((p ++ q).map (·.1))))
    | _, _ => .panic _) = Outcome.ok l
  rw [hp, hq]
  apply nodesByIndexes_ok hn
  intro j hj
  have hj := (C02.mem_dedupConsecutive j _).1 hj
  rw [sortNat, mem_isort] at hj
  obtain ⟨a, ha, rfl⟩ := List.mem_map.mp hj
  rcases List.mem_append.mp ha with ha | ha
  · exact vP i _ hp a ha
  · exact vS i _ hq a ha

theorem getNeighborNodes_absent {s : Store} (hn : NodesInv s) {x : Nat} (hx : x ∉ s.names) :
    s.getNeighborNodes x = .err .NodeNotFound := by
  unfold getNeighborNodes
  rw [hn.acontains_eq_false hx]
  rfl

theorem emap_ne_nil {s : Store} (he : EdgesInv s) {k : Nat × Nat} (h : alookup s.edgesMap k = some []) : False := by
  obtain ⟨_, _, _, x, y, _, _, a4⟩ := he.emap_ok k [] h
  exact (he.edges_ok _ _ a4).1 rfl

theorem getNode_none {s : Store} (hn : NodesInv s) {x : Nat} (hx : x ∉ s.names) : (s.getNode x).isNone = true := by
  unfold getNode
  rw [(hn.lookup_none_iff x).mpr hx]
  rfl

theorem getEdgesForNode_absent {s : Store} (hn : NodesInv s) {x : Nat} (hx : x ∉ s.names) :
    s.getEdgesForNode x = .err .NodeNotFound := by
  unfold Store.getEdgesForNode
  rw [if_pos (getNode_none hn hx)]

end NP
end Graphrs
