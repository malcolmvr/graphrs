/-
  One visit of the step-level Louvain model: the candidate map `neighborWeights`, the candidate scan, and what
  `visitWith` returns.
-/
import GraphrsModel.Props.Core
import GraphrsModel.Model.LouvainFull
import GraphrsModel.Props.C12
import GraphrsModel.Lemmas.Outcome
import GraphrsModel.Lemmas.LouvainSort
namespace Graphrs
open LouvainFull
namespace LF

open Outcome (bind_ok bind_eq_ok bind_spec bind_exists_of bind_exists ofOption_eq_ok unwrap_eq_ok foldl_ok_source
  foldl_ok_inv foldl_bind_inv foldl_bind_cons foldl_ok_exists foldl_ok_exists₀ foldl_ok_map guardFold_eq_ok)

theorem idxGuard_eq_ok {site : String} {len i : Nat} {a : Unit} : idxGuard site len i = .ok a ↔ i < len := by
  unfold idxGuard
  split <;> simp [*]

/-! ### the candidate map -/

/-- one step of the two loops of `neighborWeights`: the edge to neighbour `v` adds its weight to the entry of `v`'s community -/
def nbrStep (u : Nat) (n2c : List (Nat × Nat)) (edgeOf : Nat → Outcome Edge) (m : List (Nat × Rat)) (v : Nat) :
    Outcome (List (Nat × Rat)) :=
  if u == v then .ok m
  else do
    let e ← (edgeOf v).unwrap "get_neighbor_weights: get_edge().unwrap()"
    let c ← Outcome.ofOption "get_neighbor_weights: node2com.get(v).unwrap()" (alookup n2c v)
    .ok (ainsert m c ((alookup m c).getD 0 + ratW e.w))

theorem neighborWeights_eq (g : Store) (u : Nat) (n2c : List (Nat × Nat)) :
    neighborWeights g u n2c =
      (((alookup g.succ u).getD []).foldl (fun (a : Outcome (List (Nat × Rat))) v => a.bind (nbrStep u n2c (g.getEdge u) · v)) (.ok [])).bind fun m =>
        if g.specs.directed then
          ((alookup g.pred u).getD []).foldl (fun (a : Outcome (List (Nat × Rat))) v => a.bind (nbrStep u n2c (fun v => g.getEdge v u) · v)) (.ok m)
        else .ok m := rfl

theorem nbrStep_eq_ok {u : Nat} {n2c : List (Nat × Nat)} {edgeOf : Nat → Outcome Edge} {m b : List (Nat × Rat)} {v : Nat} :
    nbrStep u n2c edgeOf m v = .ok b ↔ (u = v ∧ b = m) ∨
      (u ≠ v ∧ ∃ e c, edgeOf v = .ok e ∧ alookup n2c v = some c ∧ b = ainsert m c ((alookup m c).getD 0 + ratW e.w)) := by
  unfold nbrStep
  by_cases huv : u = v
  · rw [if_pos (beq_iff_eq.2 huv)]
    constructor
    · intro h
      exact Or.inl ⟨huv, (Outcome.ok.inj h).symm⟩
    · rintro (⟨_, rfl⟩ | ⟨h, _⟩)
      · rfl
      · exact absurd huv h
  · rw [if_neg (mt beq_iff_eq.1 huv)]
    constructor
    · intro h
      obtain ⟨e, he, h⟩ := bind_eq_ok.1 h
      obtain ⟨c, hc, h⟩ := bind_eq_ok.1 h
      exact Or.inr ⟨huv, e, c, unwrap_eq_ok.1 he, ofOption_eq_ok.1 hc, (Outcome.ok.inj h).symm⟩
    · rintro (⟨h, _⟩ | ⟨_, e, c, he, hc, rfl⟩)
      · exact absurd h huv
      · exact bind_eq_ok.2 ⟨e, unwrap_eq_ok.2 he, bind_eq_ok.2 ⟨c, ofOption_eq_ok.2 hc, rfl⟩⟩

def KeysIn (n2c : List (Nat × Nat)) (m : List (Nat × Rat)) : Prop := ∀ c ∈ m.map (·.1), ∃ v, alookup n2c v = some c


/-- induction principle for the candidate map: it is built from `[]` by `ainsert`s under keys `node2com v` -/
theorem neighborWeights_ind {g : Store} {u : Nat} {n2c : List (Nat × Nat)} {w2c : List (Nat × Rat)}
    (P : List (Nat × Rat) → Prop) (h0 : P [])
    (hstep : ∀ m v c w, alookup n2c v = some c → P m → P (ainsert m c w))
    (h : neighborWeights g u n2c = .ok w2c) : P w2c := by
  have loop : ∀ (edgeOf : Nat → Outcome Edge) (vs : List Nat) {a r : List (Nat × Rat)},
      vs.foldl (fun (a : Outcome (List (Nat × Rat))) v => a.bind (nbrStep u n2c edgeOf · v)) (.ok a) = .ok r → P a → P r := by
    intro edgeOf vs a r hr
    refine foldl_bind_inv P _ vs (fun a v b _ hb ha => ?_) hr
    rcases nbrStep_eq_ok.1 hb with ⟨_, rfl⟩ | ⟨_, e, c, _, hc, rfl⟩
    · exact ha
    · exact hstep a v c _ hc ha
  rw [neighborWeights_eq] at h
  obtain ⟨m, hm, h⟩ := bind_eq_ok.1 h
  have hPm := loop _ _ hm h0
  split at h
  · exact loop _ _ h hPm
  · cases h; exact hPm

theorem neighborWeights_keys {g : Store} {u : Nat} {n2c : List (Nat × Nat)} {w2c : List (Nat × Rat)}
    (h : neighborWeights g u n2c = .ok w2c) : KeysIn n2c w2c := by
  refine neighborWeights_ind (KeysIn n2c) (by intro c hc; simp at hc) ?_ h
  intro m v c w hc hP c' hc'
  rw [AL.keys_insert] at hc'
  split at hc'
  · exact hP c' hc'
  · rw [List.mem_append] at hc'
    rcases hc' with h1 | h1
    · exact hP c' h1
    · simp only [List.mem_singleton] at h1; subst h1; exact ⟨v, hc⟩

/-- the candidate map has pairwise distinct keys (it is built with `ainsert`) -/
theorem neighborWeights_keys_nodup {g : Store} {u : Nat} {n2c : List (Nat × Nat)} {w2c : List (Nat × Rat)}
    (h : neighborWeights g u n2c = .ok w2c) : (w2c.map (·.1)).Nodup :=
  neighborWeights_ind (fun m => (m.map (·.1)).Nodup) (by simp) (fun m _ c w _ hP => AL.nodup_insert hP c w) h

/-! ### what a visit returns -/

/-- the state after moving `u` from `cur` to `best` -/
def moved (lv : Level) (st : LState) (u cur best : Nat) (di : DegInfo) (r : Bool) : LState :=
  let com := (alookup lv.members u).getD [u]
  let part := st.part.set cur (sdiff (st.part[cur]?.getD []) com)
  let inner := st.inner.set cur ((st.inner[cur]?.getD []).filter (· != u))
  let part := part.set best (sunion (part[best]?.getD []) com)
  let inner := inner.set best (sinsert (inner[best]?.getD []) u)
  { part := part, inner := inner, node2com := ainsert st.node2com u best, di := di, improvement := true,
    moves := st.moves + 1, risky := r }

/-- the degrees `(in, out, undirected)` of `u` as `subtract_degree_from_best_com` reads them -/
def visitDegs (dir : Bool) (di : DegInfo) (u : Nat) : Option (Rat × Rat × Rat) :=
  if dir then (alookup di.inDeg u).bind fun i => (alookup di.outDeg u).map fun o => (i, o, 0)
  else (alookup di.deg u).map fun d => (0, 0, d)

/-- `c` is a valid index of the `stot*` vectors in use -/
def StotIdx (dir : Bool) (di : DegInfo) (c : Nat) : Prop :=
  if dir then c < di.stotIn.length ∧ c < di.stotOut.length else c < di.stot.length

/-- `deg_info` after `subtract_degree_from_best_com` -/
def subStot (dir : Bool) (di : DegInfo) (c : Nat) (t : Rat × Rat × Rat) : DegInfo :=
  if dir then { di with stotIn := setR di.stotIn c (getR di.stotIn c - t.1),
                        stotOut := setR di.stotOut c (getR di.stotOut c - t.2.1) }
  else { di with stot := setR di.stot c (getR di.stot c - t.2.2) }

/-- `deg_info` after `add_degree_to_best_com` -/
def addStot (dir : Bool) (di : DegInfo) (c : Nat) (t : Rat × Rat × Rat) : DegInfo :=
  if dir then { di with stotIn := setR di.stotIn c (getR di.stotIn c + t.1),
                        stotOut := setR di.stotOut c (getR di.stotOut c + t.2.1) }
  else { di with stot := setR di.stot c (getR di.stot c + t.2.2) }

/-- the gain `update_best_com` computes for the candidate community `c` with weight `wt` to it -/
def visitGain (dir : Bool) (m res : Rat) (di : DegInfo) (t : Rat × Rat × Rat) (c : Nat) (wt : Rat) : Rat :=
  if dir then Louvain.gainDirected m res wt t.2.1 t.1 (getR di.stotIn c) (getR di.stotOut c)
  else Louvain.gainUndirected m res wt (getR di.stot c) t.2.2

/-- the community `update_best_com` chooses -/
def visitBest (dir : Bool) (m res : Rat) (di : DegInfo) (cur : Nat) (w2c : List (Nat × Rat)) (t : Rat × Rat × Rat) : Nat :=
  (Louvain.updateBest (visitGain dir m res (subStot dir di cur t) t) w2c (cur, 0)).1

/-- two candidates have almost equal gains computed from different operands -/
def visitRisky (dir : Bool) (di : DegInfo) (gain : Nat → Rat → Rat) (w2c : List (Nat × Rat)) : Bool :=
  let operands (c : Nat) (wt : Rat) : Rat × Rat × Rat :=
    if dir then (wt, getR di.stotIn c, getR di.stotOut c) else (wt, getR di.stot c, 0)
  let eps : Rat := 1 / 1000000000
  w2c.any fun a => w2c.any fun b =>
    a.1 != b.1 && operands a.1 a.2 != operands b.1 b.2 &&
    (let d := gain a.1 a.2 - gain b.1 b.2; (-eps ≤ d) && (d ≤ eps))

/-- the state `visitWith` returns when none of its look-ups and index guards fails -/
def visited (lv : Level) (m res : Rat) (st : LState) (u cur : Nat) (w2c : List (Nat × Rat)) (t : Rat × Rat × Rat) : LState :=
  let dir := lv.g.specs.directed
  let di := subStot dir st.di cur t
  let best := visitBest dir m res st.di cur w2c t
  let r := st.risky || visitRisky dir di (visitGain dir m res di t) w2c
  if best != cur then moved lv st u cur best (addStot dir di best t) r
  else { st with di := addStot dir di best t, risky := r }

theorem visitBest_mem (dir : Bool) (m res : Rat) (di : DegInfo) (cur : Nat) (w2c : List (Nat × Rat)) (t : Rat × Rat × Rat) :
    visitBest dir m res di cur w2c t = cur ∨ visitBest dir m res di cur w2c t ∈ w2c.map (·.1) :=
  updateBest_fst _ w2c (cur, 0)

theorem length_setR (l : List Rat) (i : Nat) (v : Rat) : (setR l i v).length = l.length := List.length_set

theorem stotIdx_subStot (dir : Bool) (di : DegInfo) (c : Nat) (t : Rat × Rat × Rat) (x : Nat) :
    StotIdx dir (subStot dir di c t) x ↔ StotIdx dir di x := by
  cases dir <;> simp [StotIdx, subStot, length_setR]

theorem visited_di_eq (lv : Level) (m res : Rat) (st : LState) (u cur : Nat) (w2c : List (Nat × Rat)) (t : Rat × Rat × Rat) :
    (visited lv m res st u cur w2c t).di = addStot lv.g.specs.directed (subStot lv.g.specs.directed st.di cur t)
      (visitBest lv.g.specs.directed m res st.di cur w2c t) t := by
  unfold visited
  dsimp only
  split <;> rfl

/-- a visit leaves the degree maps and the lengths of the `stot*` vectors as they are -/
theorem visited_di (lv : Level) (m res : Rat) (st : LState) (u cur : Nat) (w2c : List (Nat × Rat)) (t : Rat × Rat × Rat) :
    (visited lv m res st u cur w2c t).di.inDeg = st.di.inDeg ∧ (visited lv m res st u cur w2c t).di.outDeg = st.di.outDeg ∧
    (visited lv m res st u cur w2c t).di.deg = st.di.deg ∧
    (visited lv m res st u cur w2c t).di.stotIn.length = st.di.stotIn.length ∧
    (visited lv m res st u cur w2c t).di.stotOut.length = st.di.stotOut.length ∧
    (visited lv m res st u cur w2c t).di.stot.length = st.di.stot.length := by
  rw [visited_di_eq]
  cases lv.g.specs.directed <;> simp [addStot, subStot, length_setR]

/-- a visit either moves `u` to the chosen community or leaves the assignment alone -/
theorem visited_cases (lv : Level) (m res : Rat) (st : LState) (u cur : Nat) (w2c : List (Nat × Rat)) (t : Rat × Rat × Rat) :
    (visitBest lv.g.specs.directed m res st.di cur w2c t ≠ cur ∧
      visited lv m res st u cur w2c t = moved lv st u cur (visitBest lv.g.specs.directed m res st.di cur w2c t)
        (visited lv m res st u cur w2c t).di (visited lv m res st u cur w2c t).risky) ∨
    (visitBest lv.g.specs.directed m res st.di cur w2c t = cur ∧
      visited lv m res st u cur w2c t =
        { st with di := (visited lv m res st u cur w2c t).di, risky := (visited lv m res st u cur w2c t).risky }) := by
  by_cases hne : (visitBest lv.g.specs.directed m res st.di cur w2c t != cur) = true
  · have e : visited lv m res st u cur w2c t = _ := if_pos hne
    exact Or.inl ⟨bne_iff_ne.1 hne, by rw [e]; rfl⟩
  · have e : visited lv m res st u cur w2c t = _ := if_neg hne
    exact Or.inr ⟨not_not.1 (mt bne_iff_ne.2 hne), by rw [e]⟩

theorem stotGuard_eq_ok {dir : Bool} {s1 s2 s3 : String} {di : DegInfo} {c : Nat} {a : Unit} :
    (if dir = true then (idxGuard s1 di.stotIn.length c).bind fun _ => idxGuard s2 di.stotOut.length c
      else idxGuard s3 di.stot.length c) = .ok a ↔ StotIdx dir di c := by
  cases dir
  · exact idxGuard_eq_ok
  · exact bind_eq_ok.trans ⟨fun ⟨_, h1, h2⟩ => ⟨idxGuard_eq_ok.1 h1, idxGuard_eq_ok.1 h2⟩,
      fun h => ⟨(), idxGuard_eq_ok.2 h.1, idxGuard_eq_ok.2 h.2⟩⟩

theorem visitDegs_eq_some {dir : Bool} {s1 s2 s3 : String} {di : DegInfo} {u : Nat} {t : Rat × Rat × Rat} :
    (if dir = true then
        (Outcome.ofOption s1 (alookup di.inDeg u)).bind fun i =>
          (Outcome.ofOption s2 (alookup di.outDeg u)).bind fun o => Outcome.ok (i, o, (0 : Rat))
      else (Outcome.ofOption s3 (alookup di.deg u)).bind fun d => Outcome.ok ((0 : Rat), (0 : Rat), d)) = .ok t ↔
      visitDegs dir di u = some t := by
  unfold visitDegs
  cases dir
  · cases alookup di.deg u <;> simp [Outcome.ofOption, Outcome.bind]
  · cases alookup di.inDeg u <;> cases alookup di.outDeg u <;> simp [Outcome.ofOption, Outcome.bind]

/-- **what `visitWith` returns**: `.ok` exactly when the degrees of `u` are recorded and every community id in play
    indexes the vectors it is used with; the state is then `visited` -/
theorem visitWith_eq_ok {lv : Level} {m res : Rat} {st st' : LState} {u cur : Nat} {w2c : List (Nat × Rat)} :
    visitWith lv m res st u cur w2c = .ok st' ↔
      ∃ t, visitDegs lv.g.specs.directed st.di u = some t ∧ StotIdx lv.g.specs.directed st.di cur ∧
        (∀ a ∈ w2c, StotIdx lv.g.specs.directed st.di a.1) ∧
        StotIdx lv.g.specs.directed st.di (visitBest lv.g.specs.directed m res st.di cur w2c t) ∧
        (visitBest lv.g.specs.directed m res st.di cur w2c t ≠ cur →
          (lv.g.getNode u).isSome ∧ cur < st.part.length ∧ cur < st.inner.length ∧
          visitBest lv.g.specs.directed m res st.di cur w2c t < st.part.length ∧
          visitBest lv.g.specs.directed m res st.di cur w2c t < st.inner.length) ∧
        st' = visited lv m res st u cur w2c t := by
  -- the later guards index the vectors after `subStot`, which have the lengths they had before
  have hsub := stotIdx_subStot lv.g.specs.directed st.di cur
  unfold visitWith
  constructor
  · intro hv
    obtain ⟨⟨i, o, d⟩, ht, hv⟩ := bind_eq_ok.1 hv
    obtain ⟨_, hg1, hv⟩ := bind_eq_ok.1 hv
    obtain ⟨_, hg2, hv⟩ := bind_eq_ok.1 hv
    obtain ⟨_, hg3, hv⟩ := bind_eq_ok.1 hv
    refine ⟨(i, o, d), visitDegs_eq_some.1 ht, stotGuard_eq_ok.1 hg1, fun a ha => (hsub (i, o, d) a.1).1
      (stotGuard_eq_ok.1 ((guardFold_eq_ok _ _).1 hg2 a ((mem_isort _ a w2c).2 ha))),
      (hsub (i, o, d) _).1 (stotGuard_eq_ok.1 hg3), ?_⟩
    obtain ⟨hne, hv⟩ | ⟨hne, hv⟩ := ite_eq_iff.1 hv
    · obtain ⟨nd, hn, hv⟩ := bind_eq_ok.1 hv
      obtain ⟨_, hg4, hv⟩ := bind_eq_ok.1 hv
      obtain ⟨_, hg5, hv⟩ := bind_eq_ok.1 hv
      obtain ⟨_, hg6, hv⟩ := bind_eq_ok.1 hv
      obtain ⟨_, hg7, hv⟩ := bind_eq_ok.1 hv
      have h6 := idxGuard_eq_ok.1 hg6
      have h7 := idxGuard_eq_ok.1 hg7
      rw [List.length_set] at h6 h7
      have e : visited lv m res st u cur w2c (i, o, d) = _ := if_pos hne
      exact ⟨fun _ => ⟨Option.isSome_iff_exists.2 ⟨nd, ofOption_eq_ok.1 hn⟩, idxGuard_eq_ok.1 hg4, idxGuard_eq_ok.1 hg5,
        h6, h7⟩, e.trans (Outcome.ok.inj hv) |>.symm⟩
    · have e : visited lv m res st u cur w2c (i, o, d) = _ := if_neg hne
      exact ⟨fun h => absurd (bne_iff_ne.2 h) hne, e.trans (Outcome.ok.inj hv) |>.symm⟩
  · rintro ⟨⟨i, o, d⟩, ht, h1, h2, h3, h4, rfl⟩
    refine bind_eq_ok.2 ⟨(i, o, d), visitDegs_eq_some.2 ht, ?_⟩
    refine bind_eq_ok.2 ⟨(), stotGuard_eq_ok.2 h1, ?_⟩
    refine bind_eq_ok.2 ⟨(), (guardFold_eq_ok _ _).2 fun a ha =>
      stotGuard_eq_ok.2 ((hsub (i, o, d) a.1).2 (h2 a ((mem_isort _ a w2c).1 ha))), ?_⟩
    refine bind_eq_ok.2 ⟨(), stotGuard_eq_ok.2 ((hsub (i, o, d) _).2 h3), ?_⟩
    by_cases hne : (visitBest lv.g.specs.directed m res st.di cur w2c (i, o, d) != cur) = true
    · obtain ⟨hn, h5, h6, h7, h8⟩ := h4 (bne_iff_ne.1 hne)
      obtain ⟨nd, hnd⟩ := Option.isSome_iff_exists.1 hn
      have e : visited lv m res st u cur w2c (i, o, d) = _ := if_pos hne
      rw [e]
      refine (if_pos hne).trans ?_
      refine bind_eq_ok.2 ⟨nd, ofOption_eq_ok.2 hnd, ?_⟩
      refine bind_eq_ok.2 ⟨(), idxGuard_eq_ok.2 h5, ?_⟩
      refine bind_eq_ok.2 ⟨(), idxGuard_eq_ok.2 h6, ?_⟩
      refine bind_eq_ok.2 ⟨(), idxGuard_eq_ok.2 (Nat.lt_of_lt_of_eq h7 List.length_set.symm), ?_⟩
      exact bind_eq_ok.2 ⟨(), idxGuard_eq_ok.2 (Nat.lt_of_lt_of_eq h8 List.length_set.symm), rfl⟩
    · have e : visited lv m res st u cur w2c (i, o, d) = _ := if_neg hne
      rw [e]
      exact if_neg hne

theorem visit_eq_ok {lv : Level} {m res : Rat} {st st' : LState} {u : Nat} :
    visit lv m res st u = .ok st' ↔ ∃ cur, alookup st.node2com u = some cur ∧
      ∃ w2c, neighborWeights lv.g u st.node2com = .ok w2c ∧ visitWith lv m res st u cur w2c = .ok st' :=
  bind_eq_ok.trans (exists_congr fun _ => and_congr ofOption_eq_ok bind_eq_ok)

theorem visit_ok {lv : Level} {m res : Rat} {st st' : LState} {u : Nat}
    (hv : visit lv m res st u = .ok st') :
    ∃ cur w2c best, alookup st.node2com u = some cur ∧ neighborWeights lv.g u st.node2com = .ok w2c ∧
      (best = cur ∨ best ∈ w2c.map (·.1)) ∧
      st'.di.inDeg = st.di.inDeg ∧ st'.di.outDeg = st.di.outDeg ∧ st'.di.deg = st.di.deg ∧
      st'.di.stotIn.length = st.di.stotIn.length ∧ st'.di.stotOut.length = st.di.stotOut.length ∧
      st'.di.stot.length = st.di.stot.length ∧
      ((best ≠ cur ∧ st' = moved lv st u cur best st'.di st'.risky) ∨
       (best = cur ∧ st' = { st with di := st'.di, risky := st'.risky })) := by
  obtain ⟨cur, hcur, w2c, hw, hv⟩ := visit_eq_ok.1 hv
  obtain ⟨t, -, -, -, -, -, rfl⟩ := visitWith_eq_ok.1 hv
  obtain ⟨s1, s2, s3, s4, s5, s6⟩ := visited_di lv m res st u cur w2c t
  exact ⟨cur, w2c, _, hcur, hw, visitBest_mem lv.g.specs.directed m res st.di cur w2c t, s1, s2, s3, s4, s5, s6,
    visited_cases lv m res st u cur w2c t⟩

theorem getD_set {α} (l : List α) (i j : Nat) (a d : α) :
    ((l.set i a)[j]?).getD d = if i = j ∧ i < l.length then a else (l[j]?).getD d := by
  rw [List.getElem?_set]
  by_cases h : i = j
  · subst h
    by_cases h2 : i < l.length
    · simp [h2]
    · simp [h2]
  · simp [h]

theorem getD_set_set {α} (l : List (List α)) {i j : Nat} (hi : i < l.length) (hj : j < l.length) (a b : List α) (c : Nat) :
    ((((l.set i a).set j b)[c]?).getD []) = if j = c then b else if i = c then a else (l[c]?).getD [] := by
  rw [getD_set, List.length_set, getD_set]
  simp only [hi, hj, and_true]

theorem getD_set_ne {α} (l : List (List α)) {i j : Nat} (h : i ≠ j) (a : List α) :
    ((l.set i a)[j]?).getD [] = (l[j]?).getD [] := by
  rw [getD_set, if_neg fun hh => h hh.1]

/-- the slots of `inner` after a move -/
theorem moved_inner (lv : Level) (st : LState) (u : Nat) {cur best : Nat} (di : DegInfo) (r : Bool) (hne : best ≠ cur)
    (hc : cur < st.inner.length) (hb : best < st.inner.length) (c : Nat) :
    ((moved lv st u cur best di r).inner[c]?).getD [] =
      if best = c then sinsert ((st.inner[best]?).getD []) u
      else if cur = c then ((st.inner[cur]?).getD []).filter (· != u) else (st.inner[c]?).getD [] := by
  show ((((st.inner.set cur _).set best _)[c]?).getD []) = _
  rw [getD_set_set _ hc hb, getD_set_ne _ (Ne.symm hne)]

/-- the slots of `part` after a move -/
theorem moved_part (lv : Level) (st : LState) (u : Nat) {cur best : Nat} (di : DegInfo) (r : Bool) (hne : best ≠ cur)
    (hc : cur < st.part.length) (hb : best < st.part.length) (c : Nat) :
    ((moved lv st u cur best di r).part[c]?).getD [] =
      if best = c then sunion ((st.part[best]?).getD []) ((alookup lv.members u).getD [u])
      else if cur = c then sdiff ((st.part[cur]?).getD []) ((alookup lv.members u).getD [u]) else (st.part[c]?).getD [] := by
  show ((((st.part.set cur _).set best _)[c]?).getD []) = _
  rw [getD_set_set _ hc hb, getD_set_ne _ (Ne.symm hne)]

theorem lt_length_of_mem_getD {α} {l : List (List α)} {i : Nat} {x : α} (h : x ∈ (l[i]?).getD []) : i < l.length := by
  by_cases hi : i < l.length
  · exact hi
  · rw [List.getElem?_eq_none (Nat.le_of_not_lt hi)] at h
    simp at h

end LF
end Graphrs
