/-
  Square clustering: the model's fold over `pairsOf nbrs` against `Abs.squareAt`.
-/
import GraphrsModel.Lemmas.C11ModelTri
namespace Graphrs
namespace C11M
open C02 C11aux

/-- numerator (`q`) and denominator (`av + q`) summands of `Abs.squareAt v` for the pair `p` of neighbours -/
def sqQ (a : Abs) (v : Nat) (p : Nat × Nat) : Int :=
  (((a.N p.1).filter fun k => (a.N p.2).contains k && k != v).length : Nat)
def sqD (a : Abs) (v : Nat) (p : Nat × Nat) : Int :=
  (((a.N p.1).length : Nat) - (1 + sqQ a v p + (if a.adjacent p.1 p.2 then 1 else 0)))
    + (((a.N p.2).length : Nat) - (1 + sqQ a v p + (if a.adjacent p.1 p.2 then 1 else 0))) + sqQ a v p

theorem squareAt_eq (a : Abs) (v : Nat) :
    a.squareAt v =
      if ((Abs.pairs (a.N v)).map (sqD a v)).sum > 0
      then ((((Abs.pairs (a.N v)).map (sqQ a v)).sum : Int) : Rat) / ((((Abs.pairs (a.N v)).map (sqD a v)).sum : Int) : Rat)
      else ((((Abs.pairs (a.N v)).map (sqQ a v)).sum : Int) : Rat) := by
  unfold Abs.squareAt
  simp only [sumInt_eq_sum, List.map_map]
  rfl

theorem sqQ_symm (a : Abs) (v : Nat) (u w : Nat) : sqQ a v (u, w) = sqQ a v (w, u) := by
  apply congrArg Nat.cast
  apply List.Perm.length_eq
  apply (List.perm_ext_iff_of_nodup ((C11_N_nodup a u).filter _) ((C11_N_nodup a w).filter _)).2
  intro x
  simp only [List.mem_filter, Bool.and_eq_true, List.contains_iff_mem]
  exact and_left_comm

theorem sqD_symm (a : Abs) (v : Nat) (u w : Nat) : sqD a v (u, w) = sqD a v (w, u) := by
  unfold sqD
  rw [sqQ_symm a v u w, C11_adjacent_symm a u w]
  ring

theorem foldl_pair_sum {α} (f g : α → Int) (l : List α) (c p : Int) :
    l.foldl (fun (a : Int × Int) x => (a.1 + f x, a.2 + g x)) (c, p) = (c + (l.map f).sum, p + (l.map g).sum) := by
  induction l generalizing c p with
  | nil => rw [List.map_nil, List.map_nil, List.sum_nil, Int.add_zero, Int.add_zero]; rfl
  | cons a l ih => rw [List.foldl_cons, ih, List.map_cons, List.map_cons, List.sum_cons, List.sum_cons, Int.add_assoc,
      Int.add_assoc]

/-- the same two summands as `square_clustering` computes them (`squares`, `potential`) -/
def sqQM (s : Store) (v : Nat) (p : Nat × Nat) : Int :=
  (((sinter (mN s p.1) (mN s p.2)).filter (· != v)).length : Nat)
def sqDM (s : Store) (v : Nat) (p : Nat × Nat) : Int :=
  (((mN s p.1).length : Int) - (if (mN s p.1).contains p.2 then sqQM s v p + 2 else sqQM s v p + 1))
    + (((mN s p.2).length : Int) - (if (mN s p.1).contains p.2 then sqQM s v p + 2 else sqQM s v p + 1)) + sqQM s v p

section
variable (s : Store) (h : s.wf = true) (hd : s.specs.directed = false)
include h hd

theorem sqQM_eq (v u w : Nat) (hu : s.hasNode u = true) (hw : s.hasNode w = true) :
    sqQM s v (u, w) = sqQ s.abs v (u, w) := by
  unfold sqQM sqQ sinter
  rw [List.filter_filter]
  apply congrArg Nat.cast
  apply filter_length_perm _ _ (mN_perm s h hd u hu)
  intro k _
  rw [Bool.and_comm, List.contains_eq_mem, decide_eq_decide.2 (mem_mN s h hd w hw k)]

theorem sqDM_eq (v u w : Nat) (hu : s.hasNode u = true) (hw : s.hasNode w = true) :
    sqDM s v (u, w) = sqD s.abs v (u, w) := by
  have hc : (mN s u).contains w = s.abs.adjacent u w := by
    rw [Bool.eq_iff_iff, C11_adjacent_iff, List.contains_iff_mem, mem_mN s h hd u hu]
  -- the model's `degm` is the definition's `1 + q + th`
  have hdeg : ∀ (b : Bool) (q : Int), (if b then q + 2 else q + 1) = 1 + q + (if b then 1 else 0) := by
    intro b q
    cases b
    · show q + 1 = 1 + q + 0; omega
    · show q + 2 = 1 + q + 1; omega
  unfold sqDM sqD
  rw [sqQM_eq s h hd v u w hu hw, mN_length s h hd u hu, mN_length s h hd w hw, hc, hdeg]

theorem sum_pairs_mN (v : Nat) (hv : s.hasNode v = true) (fM f : Nat × Nat → Int) (hf : ∀ a b, f (a, b) = f (b, a))
    (he : ∀ u w, s.hasNode u = true → s.hasNode w = true → fM (u, w) = f (u, w)) :
    ((Abs.pairs (mN s v)).map fM).sum = ((Abs.pairs (s.abs.N v)).map f).sum := by
  have e : (Abs.pairs (mN s v)).map fM = (Abs.pairs (mN s v)).map f :=
    List.map_congr_left fun p hp =>
      he p.1 p.2 (mN_hasNode s h hd v hv _ (mem_pairs _ p hp).1) (mN_hasNode s h hd v hv _ (mem_pairs _ p hp).2)
  rw [e]
  exact sum_pairs_perm _ hf (mN_perm s h hd v hv)

theorem gSON (x : Nat) (hx : s.hasNode x = true) : Store.namesOf (s.getSuccessorsOrNeighbors x) = .ok (nm s x) := by
  have ⟨l, hl, e, _⟩ := nbr_ok s h hd x hx
  rw [Store.getSuccessorsOrNeighbors, hd, if_neg Bool.false_ne_true, hl, ← e]
  rfl

theorem gnos_ok (x : Nat) (hx : s.hasNode x = true) : s.gnos x = .ok (mN s x) := by
  unfold Store.gnos
  rw [gSON s h hd x hx]
  show Outcome.ok ((dedup (nm s x)).filter _) = _
  rw [dedup_nm s h hd x hx]
  rfl

theorem squareCoefficient_ok (v : Nat) (hv : s.hasNode v = true) : s.squareCoefficient v = .ok (s.abs.squareAt v) := by
  unfold Store.squareCoefficient
  rw [gSON s h hd v hv]
  show Outcome.bind (List.foldl _ _ (Store.pairsOf (mN s v))) _ = _
  rw [Outcome.foldl_ok_pure _ (fun (a : Int × Int) x => (a.1 + sqQM s v x, a.2 + sqDM s v x))]
  · rw [foldl_pair_sum, pairsOf_eq_pairs, squareAt_eq, Int.zero_add, Int.zero_add,
      sum_pairs_mN s h hd v hv _ _ (sqQ_symm s.abs v) (sqQM_eq s h hd v),
      sum_pairs_mN s h hd v hv _ _ (sqD_symm s.abs v) (sqDM_eq s h hd v)]
    rfl
  · intro acc uw huw
    rw [pairsOf_eq_pairs] at huw
    have hm := mem_pairs _ uw huw
    rw [gnos_ok s h hd uw.1 (mN_hasNode s h hd v hv _ hm.1), gnos_ok s h hd uw.2 (mN_hasNode s h hd v hv _ hm.2)]
    rfl

end

end C11M
end Graphrs
