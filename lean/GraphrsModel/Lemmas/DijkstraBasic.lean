/-
  The rows of the successor lists as arcs, the termination measure, what one pop does to the invariant
  (shared by both loops); `basicLoop` (the loop of `dijkstra_basic`) preserves the invariant and terminates
  with an empty fringe within the fuel bound.
-/
import GraphrsModel.Lemmas.DijkstraLoop
namespace Graphrs

def rowArcs (weighted : Bool) (v : Nat) (row : List Adj) : Arcs :=
  row.filterMap fun a => (if weighted then a.2 else some 1).map fun c => (v, a.1, c)

theorem mem_rowArcs_true {v : Nat} {row : List Adj} {u x : Nat} {w : Int} :
    (u, x, w) ∈ rowArcs true v row ↔ (u = v ∧ (x, some w) ∈ row) := by
  unfold rowArcs
  simp only [if_true, List.mem_filterMap, Option.map_eq_some_iff, Prod.mk.injEq]
  constructor
  · rintro ⟨a, ha, c, hc, e1, e2, e3⟩
    subst e1 e2 e3
    exact ⟨rfl, hc ▸ ha⟩
  · rintro ⟨hu, ha⟩
    exact ⟨(x, some w), ha, w, rfl, hu.symm, rfl, rfl⟩

theorem rowArcs_cons_none {weighted : Bool} {v : Nat} {a : Adj} {row : List Adj}
    (h : (if weighted then a.2 else some 1) = none) :
    rowArcs weighted v (a :: row) = rowArcs weighted v row := by
  simp [rowArcs, h]

theorem rowArcs_cons_some {weighted : Bool} {v : Nat} {a : Adj} {row : List Adj} {c : Int}
    (h : (if weighted then a.2 else some 1) = some c) :
    rowArcs weighted v (a :: row) = (v, a.1, c) :: rowArcs weighted v row := by
  simp [rowArcs, h]

/-- `pendFrom rows i dist`: the number of adjacency entries in those of `rows` whose node is not finalised, the head
    of `rows` being the row of node `i` -/
def pendFrom : List (List Adj) → Nat → List (Option Int) → Nat
  | [], _, _ => 0
  | r :: rs, i, dist => (if lk dist i = none then r.length else 0) + pendFrom rs (i + 1) dist

theorem pendFrom_set_lt (rows : List (List Adj)) (i v : Nat) (dist : List (Option Int)) (x : Option Int)
    (h : v < i) : pendFrom rows i (dist.set v x) = pendFrom rows i dist := by
  induction rows generalizing i with
  | nil => rfl
  | cons r rs ih =>
    simp only [pendFrom]
    rw [lk_set_ne _ _ _ _ (Nat.ne_of_lt h), ih (i + 1) (Nat.lt_succ_of_lt h)]

theorem pendFrom_set (rows : List (List Adj)) (i v : Nat) (dist : List (Option Int)) (d : Int)
    (hi : i ≤ v) (hn : lk dist v = none) (hv : v < dist.length) :
    pendFrom rows i (dist.set v (some d)) + (rows[v - i]?.getD []).length = pendFrom rows i dist := by
  induction rows generalizing i with
  | nil => rfl
  | cons r rs ih =>
    rw [pendFrom, pendFrom]
    by_cases e : i = v
    · subst e
      rw [lk_set_self _ _ _ hv, hn, pendFrom_set_lt _ _ _ _ _ (Nat.lt_succ_self i), Nat.sub_self, if_pos rfl,
        if_neg (fun h => nomatch h), List.getElem?_cons_zero, Option.getD_some, Nat.zero_add, Nat.add_comm]
    · have hlt : i < v := Nat.lt_of_le_of_ne hi e
      rw [lk_set_ne _ _ _ _ (Ne.symm e), ← ih (i + 1) hlt, Nat.add_assoc,
        show v - i = (v - (i + 1)) + 1 from (Nat.succ_pred_eq_of_pos (Nat.sub_pos_of_lt hlt)).symm,
        List.getElem?_cons_succ]

theorem foldl_add_init (l : List Nat) (a : Nat) : l.foldl (· + ·) a = a + l.foldl (· + ·) 0 := by
  induction l generalizing a with
  | nil => simp
  | cons x xs ih => simp only [List.foldl_cons]; rw [ih (a + x), ih (0 + x)]; omega

theorem pendFrom_replicate (rows : List (List Adj)) (i n : Nat) :
    pendFrom rows i (List.replicate n none) = sumNat (rows.map List.length) := by
  induction rows generalizing i with
  | nil => rfl
  | cons r rs ih =>
    simp only [pendFrom, lk_replicate_none, if_true, ih, sumNat, List.map_cons, List.foldl_cons]
    rw [foldl_add_init _ (0 + r.length)]
    omega

structure RowsOk (A : Arcs) (weighted : Bool) (rows : List (List Adj)) : Prop where
  sub : ∀ v x w, (v, x, w) ∈ A → (v, x, w) ∈ rowArcs weighted v (rows[v]?.getD [])
  sup : ∀ v, ∀ a ∈ rowArcs weighted v (rows[v]?.getD []), a ∈ A

theorem rowArcs_src {weighted : Bool} {v : Nat} {row : List Adj} : ∀ a ∈ rowArcs weighted v row, a.1 = v := by
  intro a ha
  simp only [rowArcs, List.mem_filterMap, Option.map_eq_some_iff] at ha
  obtain ⟨_, _, _, _, h⟩ := ha
  rw [← h]

/-- what popping `(d, cnt, v)` does: a stale entry leaves the invariant alone; a fresh one finalises `v` and makes
    its row pending. Either way the termination measure (fringe length + entries of rows not yet finalised)
    falls, even after the row has pushed one entry per adjacency entry. -/
theorem Inv.pop {A : Arcs} {src n : Nat} {cut : Option Int} {weighted : Bool} {rows : List (List Adj)}
    (hrows : RowsOk A weighted rows) {dist seen : List (Option Int)} {fr : List FNode}
    (I : Inv A src n cut [] dist seen fr) {d : Int} {cnt v : Nat} {rest : List FNode}
    (hp : popFringe fr = some ((d, cnt, v), rest)) :
    (∀ dv, lk dist v = some dv → Inv A src n cut [] dist seen rest ∧
      rest.length + pendFrom rows 0 dist < fr.length + pendFrom rows 0 dist) ∧
    (lk dist v = none →
      RowInv A src n cut v d (rowArcs weighted v (rows[v]?.getD [])) (dist.set v (some d)) seen rest ∧
      ∀ b, b ≤ rest.length + (rows[v]?.getD []).length →
        b + pendFrom rows 0 (dist.set v (some d)) < fr.length + pendFrom rows 0 dist) := by
  obtain ⟨hmem, hrest, hmin⟩ := popFringe_some hp
  subst hrest
  have hlen : (fr.erase (d, cnt, v)).length < fr.length := by
    rw [List.length_erase_of_mem hmem]
    exact Nat.sub_lt (List.length_pos_of_mem hmem) Nat.one_pos
  refine ⟨fun dv hd => ⟨I.pop_stale (d, cnt, v) dv hd, Nat.add_lt_add_right hlen _⟩, fun hd => ⟨?_, fun b hb => ?_⟩⟩
  · exact I.pop_fresh d cnt v hmem hmin hd _ (hrows.sub v) (fun a ha => rowArcs_src a ha) (hrows.sup v)
  · rw [← pendFrom_set rows 0 v dist d (Nat.zero_le _) hd (I.ldist ▸ I.frLt _ hmem), Nat.sub_zero,
      Nat.add_comm (pendFrom _ _ _), ← Nat.add_assoc]
    exact Nat.add_lt_add_right (Nat.lt_of_le_of_lt hb (Nat.add_lt_add_right hlen _)) _

section push
variable {A : Arcs} {src n : Nat} {cut : Option Int} {v : Nat} {d : Int} {pend : Arcs} {st : DState}
  {u : Nat} {c : Int}

theorem RowInv.pushLt (hA : ArcsWf A n) (R : RowInv A src n cut v d ((v, u, c) :: pend) st.dist st.seen st.fringe)
    (ho : overCutoff cut (d + c) = false) (hlt : ∀ su, lk st.seen u = some su → d + c < su) (wp : Bool) :
    RowInv A src n cut v d pend (pushLt wp v u (d + c) st).dist (pushLt wp v u (d + c) st).seen
      (pushLt wp v u (d + c) st).fringe :=
  have hun : u < st.seen.length := R.lseen ▸ (hA _ (R.pendA _ (List.mem_cons_self ..))).1
  R.push hA ho (fun su h => Int.le_of_lt (hlt su h)) _ (List.length_set.trans R.lseen)
    (lk_set_self _ _ _ hun) (fun _ hx => lk_set_ne _ _ _ _ (Ne.symm hx)) _

theorem RowInv.pushEq (hA : ArcsWf A n) (R : RowInv A src n cut v d ((v, u, c) :: pend) st.dist st.seen st.fringe)
    (ho : overCutoff cut (d + c) = false) (hs : lk st.seen u = some (d + c)) (wp : Bool) :
    RowInv A src n cut v d pend (pushEq wp v u (d + c) st).dist (pushEq wp v u (d + c) st).seen
      (pushEq wp v u (d + c) st).fringe :=
  R.push hA ho (fun _ h => Int.le_of_eq (Option.some.inj (hs.symm.trans h))) _ R.lseen hs (fun _ _ => rfl) _

end push

variable {A : Arcs} {src n : Nat} {weighted : Bool} {v : Nat} {d : Int}

theorem relaxBasic_row (hA : ArcsWf A n)
    (st : DState) (a : Adj) (row : List Adj)
    (R : RowInv A src n none v d (rowArcs weighted v (a :: row)) st.dist st.seen st.fringe) :
    RowInv A src n none v d (rowArcs weighted v row) (relaxBasic weighted d st a).dist
        (relaxBasic weighted d st a).seen (relaxBasic weighted d st a).fringe ∧
      (relaxBasic weighted d st a).dist = st.dist ∧
      (relaxBasic weighted d st a).fringe.length ≤ st.fringe.length + 1 := by
  obtain ⟨u, w⟩ := a
  cases hcost : (if weighted then w else some 1) with
  | none =>
    rw [rowArcs_cons_none hcost] at R
    rw [relaxBasic_none hcost]
    exact ⟨R, rfl, Nat.le_succ _⟩
  | some c =>
    rw [rowArcs_cons_some hcost] at R
    rcases seen_cases (lk st.seen u) (d + c) with hlt | hs | ⟨su, hs, hgt⟩
    · rw [relaxBasic_lt (v := v) hcost hlt]
      exact ⟨R.pushLt hA rfl hlt false, rfl, Nat.le_refl _⟩
    · rw [relaxBasic_eq (v := v) hcost hs]
      exact ⟨R.pushEq hA rfl hs false, rfl, Nat.le_refl _⟩
    · rw [relaxBasic_gt hcost hs hgt]
      exact ⟨R.skip (Or.inr ⟨su, hs, Int.le_of_lt hgt⟩), rfl, Nat.le_succ _⟩

theorem basic_fold (hA : ArcsWf A n) (row : List Adj) : ∀ (st : DState),
    RowInv A src n none v d (rowArcs weighted v row) st.dist st.seen st.fringe →
    RowInv A src n none v d [] (row.foldl (relaxBasic weighted d) st).dist
        (row.foldl (relaxBasic weighted d) st).seen (row.foldl (relaxBasic weighted d) st).fringe ∧
      (row.foldl (relaxBasic weighted d) st).dist = st.dist ∧
      (row.foldl (relaxBasic weighted d) st).fringe.length ≤ st.fringe.length + row.length := by
  induction row with
  | nil => exact fun st R => ⟨R, rfl, Nat.le_refl _⟩
  | cons a row ih =>
    intro st R
    obtain ⟨R1, h1, h2⟩ := relaxBasic_row hA st a row R
    obtain ⟨R2, h3, h4⟩ := ih _ R1
    refine ⟨R2, h3.trans h1, Nat.le_trans h4 ?_⟩
    rw [List.length_cons, ← Nat.add_assoc, Nat.add_right_comm]
    exact Nat.add_le_add_right h2 _

theorem basicLoop_inv (rows : List (List Adj)) (hA : ArcsWf A n)
    (hrows : RowsOk A weighted rows) : ∀ (fuel : Nat) (st : DState),
    Inv A src n none [] st.dist st.seen st.fringe →
    st.fringe.length + pendFrom rows 0 st.dist < fuel →
    Inv A src n none [] (basicLoop (fun v => rows[v]?.getD []) weighted fuel st).dist
      (basicLoop (fun v => rows[v]?.getD []) weighted fuel st).seen
      (basicLoop (fun v => rows[v]?.getD []) weighted fuel st).fringe ∧
    (basicLoop (fun v => rows[v]?.getD []) weighted fuel st).fringe = [] := by
  intro fuel
  induction fuel with
  | zero => exact fun st _ h => absurd h (Nat.not_lt_zero _)
  | succ fuel ih =>
    intro st I hm
    cases hp : popFringe st.fringe with
    | none =>
      rw [basicLoop_empty hp]
      exact ⟨I, popFringe_none hp⟩
    | some res =>
      obtain ⟨⟨d, cnt, v⟩, rest⟩ := res
      obtain ⟨hstale, hfresh⟩ := I.pop hrows hp
      cases hd : lk st.dist v with
      | some dv =>
        rw [basicLoop_stale hp hd]
        exact ih _ (hstale dv hd).1 (Nat.lt_of_lt_of_le (hstale dv hd).2 (Nat.le_of_lt_succ hm))
      | none =>
        rw [basicLoop_fresh hp hd]
        obtain ⟨R, hpend⟩ := hfresh hd
        obtain ⟨R2, h3, h4⟩ := basic_fold hA (rows[v]?.getD [])
          { st with fringe := rest, dist := st.dist.set v (some d) } R
        exact ih _ R2.done (h3 ▸ Nat.lt_of_lt_of_le (hpend _ h4) (Nat.le_of_lt_succ hm))

end Graphrs
