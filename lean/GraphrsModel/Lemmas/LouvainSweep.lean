/-
  The bookkeeping invariant of `sweeps` within one level and the post-condition of `computeOneLevel`.
-/
import GraphrsModel.Lemmas.ListSet
import GraphrsModel.Lemmas.LouvainDefs
import GraphrsModel.Lemmas.LouvainVisit
import GraphrsModel.Lemmas.LouvainGraphs
import GraphrsModel.Lemmas.C09ModelAux
import Mathlib.Data.List.Forall2
import Mathlib.Data.List.Nodup
import Mathlib.Data.List.Flatten
namespace Graphrs
open LouvainFull
namespace LF
open Outcome (bind_eq_ok foldl_bind_inv)

/-- the invariant of the visiting loop: `node2com`, `inner` and `part` describe one assignment of the
    nodes `0..k-1` to community ids `< k` -/
structure SInv (lv : Level) (k : Nat) (st : LState) : Prop where
  part_len : st.part.length = k
  inner_len : st.inner.length = k
  n2c_total : ∀ (x : Nat), x < k → ∃ c, alookup st.node2com x = some c
  n2c_lt : ∀ (x c : Nat), alookup st.node2com x = some c → x < k ∧ c < k
  inner_iff : ∀ (c x : Nat), x ∈ (st.inner[c]?).getD [] ↔ alookup st.node2com x = some c
  inner_nodup : ∀ (c : Nat), ((st.inner[c]?).getD []).Nodup
  part_iff : ∀ (c z : Nat), z ∈ (st.part[c]?).getD [] ↔ ∃ x, alookup st.node2com x = some c ∧ z ∈ mem lv x
  part_nodup : ∀ (c : Nat), ((st.part[c]?).getD []).Nodup

theorem mem_sdiff {α} [DecidableEq α] (s t : List α) (y : α) : y ∈ sdiff s t ↔ y ∈ s ∧ y ∉ t := by
  unfold sdiff; simp [List.mem_filter]

theorem nodup_sdiff {α} [DecidableEq α] (s t : List α) (hs : s.Nodup) : (sdiff s t).Nodup := by
  unfold sdiff; exact hs.filter _

theorem SInv.moved {lv : Level} {n k : Nat} {st : LState} (hg : GoodLevel lv n k) (h : SInv lv k st)
    {u cur best : Nat} (hcur : alookup st.node2com u = some cur) (hne : best ≠ cur) (hb : best < k)
    (di : DegInfo) (r : Bool) : SInv lv k (moved lv st u cur best di r) := by
  have hu : u < k := (h.n2c_lt u cur hcur).1
  have hc : cur < k := (h.n2c_lt u cur hcur).2
  have hinner := moved_inner lv st u di r hne (h.inner_len.symm ▸ hc) (h.inner_len.symm ▸ hb)
  have hpart := moved_part lv st u di r hne (h.part_len.symm ▸ hc) (h.part_len.symm ▸ hb)
  -- `node2com` after the move: `u` is in `best`, every other node where it was
  have hlk : ∀ x c, alookup (ainsert st.node2com u best) x = some c ↔
      ((x = u ∧ c = best) ∨ (x ≠ u ∧ alookup st.node2com x = some c)) := by
    intro x c
    rw [AL.lookup_insert]
    by_cases hx : u = x
    · subst hx; simp [eq_comm]
    · have : ¬ x = u := fun e => hx e.symm
      simp [hx, this]
  -- a node recorded in a community other than `cur` is not `u`
  have hnu : ∀ {x c}, c ≠ cur → alookup st.node2com x = some c → x ≠ u := by
    rintro x c hcc h1 rfl
    rw [hcur] at h1
    exact hcc (Option.some.inj h1).symm
  refine ⟨?_, ?_, ?_, ?_, ?_, ?_, ?_, ?_⟩
  · exact (List.length_set.trans List.length_set).trans h.part_len
  · exact (List.length_set.trans List.length_set).trans h.inner_len
  · intro x hx
    by_cases hxu : x = u
    · exact ⟨best, (hlk x best).2 (Or.inl ⟨hxu, rfl⟩)⟩
    · obtain ⟨c, hc'⟩ := h.n2c_total x hx
      exact ⟨c, (hlk x c).2 (Or.inr ⟨hxu, hc'⟩)⟩
  · intro x c hx
    rcases (hlk x c).1 hx with ⟨rfl, rfl⟩ | ⟨_, h2⟩
    · exact ⟨hu, hb⟩
    · exact h.n2c_lt x c h2
  · intro c x
    show x ∈ ((LF.moved lv st u cur best di r).inner[c]?).getD [] ↔ alookup (ainsert st.node2com u best) x = some c
    rw [hinner, hlk]
    by_cases hbc : best = c
    · subst hbc
      rw [if_pos rfl, mem_sinsert, h.inner_iff]
      constructor
      · rintro (h1 | h1)
        · exact Or.inr ⟨hnu hne h1, h1⟩
        · exact Or.inl ⟨h1, rfl⟩
      · rintro (⟨h1, _⟩ | ⟨_, h1⟩)
        · exact Or.inr h1
        · exact Or.inl h1
    · have hiff : (x ≠ u ∧ alookup st.node2com x = some c) ↔
          (x = u ∧ c = best) ∨ (x ≠ u ∧ alookup st.node2com x = some c) :=
        ⟨Or.inr, fun hh => hh.resolve_left fun hh => hbc hh.2.symm⟩
      rw [if_neg hbc, ← hiff]
      by_cases hcc : cur = c
      · subst hcc
        rw [if_pos rfl, List.mem_filter, h.inner_iff, bne_iff_ne, and_comm]
      · rw [if_neg hcc, h.inner_iff]
        exact ⟨fun h1 => ⟨hnu (Ne.symm hcc) h1, h1⟩, fun h1 => h1.2⟩
  · intro c
    show (((LF.moved lv st u cur best di r).inner[c]?).getD []).Nodup
    rw [hinner]
    by_cases hbc : best = c
    · rw [if_pos hbc]
      exact nodup_sinsert _ _ (h.inner_nodup best)
    · rw [if_neg hbc]
      by_cases hcc : cur = c
      · rw [if_pos hcc]
        exact (h.inner_nodup cur).filter _
      · rw [if_neg hcc]
        exact h.inner_nodup c
  · intro c z
    show z ∈ ((LF.moved lv st u cur best di r).part[c]?).getD [] ↔
      ∃ x, alookup (ainsert st.node2com u best) x = some c ∧ z ∈ mem lv x
    rw [hpart, exists_congr fun x => and_congr_left' (hlk x c)]
    by_cases hbc : best = c
    · subst hbc
      rw [if_pos rfl, mem_sunion, h.part_iff]
      constructor
      · rintro (⟨x, h1, h2⟩ | h1)
        · exact ⟨x, Or.inr ⟨hnu hne h1, h1⟩, h2⟩
        · exact ⟨u, Or.inl ⟨rfl, rfl⟩, h1⟩
      · rintro ⟨x, ⟨rfl, _⟩ | ⟨_, h3⟩, h2⟩
        · exact Or.inr h2
        · exact Or.inl ⟨x, h3, h2⟩
    · have hiff : ∀ x, (x = u ∧ c = best) ∨ (x ≠ u ∧ alookup st.node2com x = some c) ↔
          (x ≠ u ∧ alookup st.node2com x = some c) :=
        fun x => ⟨fun hh => hh.resolve_left fun hh => hbc hh.2.symm, Or.inr⟩
      rw [if_neg hbc, exists_congr fun x => and_congr_left' (hiff x)]
      by_cases hcc : cur = c
      · subst hcc
        rw [if_pos rfl, mem_sdiff, h.part_iff]
        constructor
        · rintro ⟨⟨x, h1, h2⟩, h3⟩
          exact ⟨x, ⟨fun hxu => h3 (hxu ▸ h2), h1⟩, h2⟩
        · rintro ⟨x, ⟨h3, h4⟩, h2⟩
          -- `z` stays in the block of `cur` unless it lies in `mem u`: member blocks are disjoint
          exact ⟨⟨x, h4, h2⟩, fun h5 => h3 (hg.mem_disj x u z (h.n2c_lt x cur h4).1 hu h2 h5)⟩
      · rw [if_neg hcc, h.part_iff]
        exact ⟨fun ⟨x, h1, h2⟩ => ⟨x, ⟨hnu (Ne.symm hcc) h1, h1⟩, h2⟩, fun ⟨x, h1, h2⟩ => ⟨x, h1.2, h2⟩⟩
  · intro c
    show (((LF.moved lv st u cur best di r).part[c]?).getD []).Nodup
    rw [hpart]
    by_cases hbc : best = c
    · rw [if_pos hbc]
      exact nodup_sunion _ _ (h.part_nodup best)
    · rw [if_neg hbc]
      by_cases hcc : cur = c
      · rw [if_pos hcc]
        exact nodup_sdiff _ _ (h.part_nodup cur)
      · rw [if_neg hcc]
        exact h.part_nodup c

/-- the invariant speaks of `part`, `inner` and `node2com` only -/
theorem SInv.congr {lv : Level} {k : Nat} {st st' : LState} (h : SInv lv k st) (hp : st'.part = st.part)
    (hi : st'.inner = st.inner) (hn : st'.node2com = st.node2com) : SInv lv k st' := by
  obtain ⟨p', i', n', _, _, _, _⟩ := st'
  cases hp; cases hi; cases hn
  exact ⟨h.part_len, h.inner_len, h.n2c_total, h.n2c_lt, h.inner_iff, h.inner_nodup, h.part_iff, h.part_nodup⟩

/-- starting a pass (`nb_moves = 0`) keeps the invariant -/
theorem SInv.moves0 {lv : Level} {k : Nat} {st : LState} (h : SInv lv k st) : SInv lv k { st with moves := 0 } :=
  h.congr rfl rfl rfl

theorem SInv.visit {lv : Level} {n k : Nat} {st st' : LState} {m res : Rat} {u : Nat} (hg : GoodLevel lv n k)
    (h : SInv lv k st) (hv : LouvainFull.visit lv m res st u = .ok st') : SInv lv k st' := by
  obtain ⟨cur, w2c, best, hcur, hw, hbest, -, -, -, -, -, -, hcase⟩ := visit_ok hv
  rcases hcase with ⟨hne, hst⟩ | ⟨-, hst⟩
  · obtain ⟨v, hv2⟩ := neighborWeights_keys hw best (hbest.resolve_left hne)
    rw [hst]
    exact h.moved hg hcur hne (h.n2c_lt v best hv2).2 _ _
  · rw [hst]
    exact h.congr rfl rfl rfl

theorem SInv.pass {lv : Level} {n k : Nat} {m res : Rat} (hg : GoodLevel lv n k) (order : List Nat) (st st' : LState)
    (h : SInv lv k st)
    (hf : order.foldl (fun acc u => do let s ← acc; LouvainFull.visit lv m res s u) (.ok st) = .ok st') : SInv lv k st' :=
  foldl_bind_inv (SInv lv k) _ order (fun _ _ _ _ hb ha => ha.visit hg hb) hf h

/-- an invariant of the passes is an invariant of `sweeps` -/
theorem sweeps_inv {lv : Level} {m res : Rat} {order : List Nat} (P : LState → Prop)
    (h0 : ∀ st, P st → P { st with moves := 0 })
    (hpass : ∀ st st', P st →
      order.foldl (fun acc u => do let s ← acc; LouvainFull.visit lv m res s u) (.ok st) = .ok st' → P st') :
    ∀ (fuel : Nat) (st st' : LState), P st → LouvainFull.sweeps lv m res order fuel st = .ok (some st') → P st' := by
  intro fuel
  induction fuel with
  | zero => intro st st' _ h; cases h
  | succ fuel ih =>
    intro st st' hp h
    unfold LouvainFull.sweeps at h
    obtain ⟨st1, h1, h⟩ := bind_eq_ok.1 h
    have hp1 := hpass _ st1 (h0 st hp) h1
    split at h
    · exact ih st1 st' hp1 h
    · cases h
      exact hp1

theorem SInv.sweeps {lv : Level} {n k : Nat} {m res : Rat} (hg : GoodLevel lv n k) (order : List Nat) (fuel : Nat) :
    ∀ (st st' : LState), SInv lv k st → LouvainFull.sweeps lv m res order fuel st = .ok (some st') → SInv lv k st' :=
  sweeps_inv (SInv lv k) (fun _ h => h.moves0) (fun st st' h hf => SInv.pass hg order st st' h hf) fuel

/-! ### the initial state -/

end LF

namespace LT

/-- the state `compute_one_level` starts from: every node in its own community -/
def initState (partition : List (List Nat)) (k : Nat) (di : DegInfo) : LState :=
  { part := partition, inner := (List.range k).map fun n => [n], node2com := (List.range k).map fun n => (n, n),
    di := di, improvement := false, moves := 0 }

end LT

namespace LF
open Outcome (bind_eq_ok foldl_bind_inv)

theorem sortNat_eq_range {l : List Nat} {k : Nat} (hnd : l.Nodup) (hm : ∀ x, x ∈ l ↔ x < k) :
    sortNat l = List.range k := by
  have hp : (sortNat l).Perm (List.range k) := by
    refine (isort_perm _ l).trans ?_
    rw [List.perm_ext_iff_of_nodup hnd List.nodup_range]
    intro x; rw [hm, List.mem_range]
  exact List.Perm.eq_of_pairwise (le := (· ≤ ·)) (fun a b _ _ h1 h2 => Nat.le_antisymm h1 h2)
    (C02.sorted_sortNat l) List.pairwise_le_range hp

theorem getD_map_range (k c : Nat) (f : Nat → List Nat) :
    ((((List.range k).map f)[c]?).getD []) = if c < k then f c else [] := by
  by_cases h : c < k
  · simp [h]
  · simp [h]

theorem SInv.init {lv : Level} {k : Nat} {partition : List (List Nat)}
    (hin : InputOK lv k partition) (di : DegInfo) :
    SInv lv k (LT.initState partition k di) := by
  have hlk : ∀ x c, alookup ((List.range k).map fun n => (n, n)) x = some c ↔ (x < k ∧ c = x) := by
    intro x c
    rw [C09M.alookup_map_self]
    by_cases hx : x < k
    · simp [hx, eq_comm]
    · simp [hx]
  refine ⟨hin.len, by simp [LT.initState], ?_, ?_, ?_, ?_, ?_, ?_⟩
  · intro x hx; exact ⟨x, (hlk x x).2 ⟨hx, rfl⟩⟩
  · intro x c hx
    obtain ⟨h1, h2⟩ := (hlk x c).1 hx
    subst h2; exact ⟨h1, h1⟩
  · intro c x
    show x ∈ ((((List.range k).map fun n => [n])[c]?).getD []) ↔
      alookup ((List.range k).map fun n => (n, n)) x = some c
    rw [getD_map_range, hlk]
    by_cases hc : c < k
    · rw [if_pos hc, List.mem_singleton]
      constructor
      · rintro rfl; exact ⟨hc, rfl⟩
      · rintro ⟨_, h2⟩; exact h2.symm
    · rw [if_neg hc]
      constructor
      · intro h1; simp at h1
      · rintro ⟨h1, h2⟩; subst h2; exact absurd h1 hc
  · intro c
    show ((((List.range k).map fun n => [n])[c]?).getD []).Nodup
    rw [getD_map_range]
    by_cases hc : c < k
    · rw [if_pos hc]; simp
    · rw [if_neg hc]; simp
  · intro c z
    show z ∈ ((partition[c]?).getD []) ↔ _
    by_cases hc : c < k
    · rw [hin.iff c z hc]
      constructor
      · intro h1; exact ⟨c, (hlk c c).2 ⟨hc, rfl⟩, h1⟩
      · rintro ⟨x, h1, h2⟩
        obtain ⟨_, h3⟩ := (hlk x c).1 h1
        subst h3; exact h2
    · rw [List.getElem?_eq_none (by rw [hin.len]; omega)]
      constructor
      · intro h1; simp at h1
      · rintro ⟨x, h1, _⟩
        obtain ⟨h2, h3⟩ := (hlk x c).1 h1
        subst h3; exact absurd h2 hc
  · intro c
    show ((partition[c]?).getD []).Nodup
    by_cases hc : c < k
    · exact hin.nodup c hc
    · rw [List.getElem?_eq_none (by rw [hin.len]; omega)]; simp

/-- where every node is its own block, the singletons are a valid input partition -/
theorem InputOK.singletons {lv : Level} (k : Nat) (hmem : ∀ x, mem lv x = [x]) :
    InputOK lv k ((List.range k).map fun i => [i]) := by
  refine ⟨by rw [List.length_map, List.length_range], fun i hi => ?_, fun i z hi => ?_⟩
  · rw [getD_map_range, if_pos hi]
    exact List.nodup_singleton i
  · rw [getD_map_range, if_pos hi, hmem]

/-! ### the result of one level -/

/-- `p` is the union of the member blocks of the nodes in `c` -/
def Blk (lv : Level) (k : Nat) (p c : List Nat) : Prop :=
  p.Nodup ∧ c.Nodup ∧ (∀ x ∈ c, x < k) ∧ ∀ z, z ∈ p ↔ ∃ x ∈ c, z ∈ mem lv x

/-- what the level loop knows about `(partition, inner)` at level `lv` -/
structure PI (lv : Level) (k : Nat) (partition inner : List (List Nat)) : Prop where
  rel : List.Forall₂ (Blk lv k) partition inner
  inner_part : PartOfRange k inner

theorem getElem_eq_getD {α} (l : List (List α)) (i : Nat) (h : i < l.length) : l[i] = (l[i]?).getD [] := by
  simp [h]

theorem SInv.rel {lv : Level} {k : Nat} {st : LState} (h : SInv lv k st) :
    List.Forall₂ (Blk lv k) st.part st.inner := by
  rw [List.forall₂_iff_get]
  refine ⟨by rw [h.part_len, h.inner_len], ?_⟩
  intro i h1 h2
  simp only [List.get_eq_getElem]
  rw [getElem_eq_getD _ i h1, getElem_eq_getD _ i h2]
  refine ⟨h.part_nodup i, h.inner_nodup i, ?_, ?_⟩
  · intro x hx
    exact (h.n2c_lt x i ((h.inner_iff i x).1 hx)).1
  · intro z
    rw [h.part_iff]
    constructor
    · rintro ⟨x, h3, h4⟩; exact ⟨x, (h.inner_iff i x).2 h3, h4⟩
    · rintro ⟨x, h3, h4⟩; exact ⟨x, (h.inner_iff i x).1 h3, h4⟩

theorem Blk.empty_iff {lv : Level} {n k : Nat} (hg : GoodLevel lv n k) {p c : List Nat} (h : Blk lv k p c) :
    p = [] ↔ c = [] := by
  obtain ⟨_, _, h3, h4⟩ := h
  constructor
  · intro hp
    cases c with
    | nil => rfl
    | cons x c =>
      exfalso
      have hx : x < k := h3 x (by simp)
      have hne := hg.mem_ne x hx
      cases hm : mem lv x with
      | nil => exact hne hm
      | cons z zs =>
        have : z ∈ p := (h4 z).2 ⟨x, by simp, by rw [hm]; simp⟩
        rw [hp] at this; simp at this
  · intro hc
    cases p with
    | nil => rfl
    | cons z p =>
      exfalso
      obtain ⟨x, hx, _⟩ := (h4 z).1 (by simp)
      rw [hc] at hx; simp at hx

theorem forall₂_filter_blk {lv : Level} {n k : Nat} (hg : GoodLevel lv n k) {P I : List (List Nat)}
    (h : List.Forall₂ (Blk lv k) P I) :
    List.Forall₂ (Blk lv k) (P.filter (!·.isEmpty)) (I.filter (!·.isEmpty)) := by
  induction h with
  | nil => exact List.Forall₂.nil
  | @cons p c P I hb _ ih =>
    have he := hb.empty_iff hg
    by_cases hp : p = []
    · have hc := he.1 hp
      subst hp; subst hc
      simpa using ih
    · have hc : c ≠ [] := fun e => hp (he.2 e)
      have h1 : (p :: P).filter (!·.isEmpty) = p :: P.filter (!·.isEmpty) := by simp [hp]
      have h2 : (c :: I).filter (!·.isEmpty) = c :: I.filter (!·.isEmpty) := by simp [hc]
      rw [h1, h2]
      exact List.Forall₂.cons hb ih

theorem SInv.inner_flat_nodup {lv : Level} {k : Nat} {st : LState} (h : SInv lv k st) :
    (st.inner.flatMap id).Nodup := by
  rw [List.nodup_flatMap]
  refine ⟨?_, ?_⟩
  · intro c hc
    obtain ⟨i, hi, rfl⟩ := List.getElem_of_mem hc
    rw [getElem_eq_getD _ i hi]
    exact h.inner_nodup i
  · rw [List.pairwise_iff_getElem]
    intro i j hi hj hij
    simp only [Function.onFun, id]
    rw [getElem_eq_getD _ i hi, getElem_eq_getD _ j hj]
    intro x hx hy
    have h1 := (h.inner_iff i x).1 hx
    have h2 := (h.inner_iff j x).1 hy
    rw [h1] at h2
    cases h2
    omega

theorem SInv.inner_part {lv : Level} {k : Nat} {st : LState} (h : SInv lv k st) :
    PartOfRange k (st.inner.filter (!·.isEmpty)) := by
  refine ⟨?_, ?_, ?_⟩
  · intro c hc
    rw [List.mem_filter] at hc
    intro e; subst e; simp at hc
  · exact List.Nodup.sublist (List.Sublist.flatMap List.filter_sublist _) h.inner_flat_nodup
  · intro x
    rw [List.mem_flatMap]
    constructor
    · rintro ⟨c, hc, hx⟩
      rw [List.mem_filter] at hc
      obtain ⟨i, hi, rfl⟩ := List.getElem_of_mem hc.1
      simp only [id] at hx
      rw [getElem_eq_getD _ i hi] at hx
      exact (h.n2c_lt x i ((h.inner_iff i x).1 hx)).1
    · intro hx
      obtain ⟨c, hc⟩ := h.n2c_total x hx
      have hm := (h.inner_iff c x).2 hc
      have hcl : c < st.inner.length := lt_length_of_mem_getD hm
      rw [← getElem_eq_getD _ c hcl] at hm
      refine ⟨st.inner[c], ?_, hm⟩
      rw [List.mem_filter]
      refine ⟨List.getElem_mem hcl, ?_⟩
      cases he : st.inner[c] with
      | nil => rw [he] at hm; simp at hm
      | cons a b => simp

theorem forall₂_blk_flat {lv : Level} {n k : Nat} (hg : GoodLevel lv n k) {P I : List (List Nat)}
    (h : List.Forall₂ (Blk lv k) P I) (hnd : (I.flatMap id).Nodup) :
    (P.flatMap id).Nodup ∧ (∀ x ∈ I.flatMap id, x < k) ∧
    ∀ z, z ∈ P.flatMap id ↔ ∃ x ∈ I.flatMap id, z ∈ mem lv x := by
  induction h with
  | nil => simp
  | @cons p c P I hb _ ih =>
    simp only [List.flatMap_cons, id] at hnd ⊢
    rw [List.nodup_append] at hnd
    obtain ⟨ih1, ih2, ih3⟩ := ih hnd.2.1
    obtain ⟨b1, b2, b3, b4⟩ := hb
    refine ⟨?_, ?_, ?_⟩
    · rw [List.nodup_append]
      refine ⟨b1, ih1, ?_⟩
      intro z hz z' hz' e
      subst e
      obtain ⟨x, hx, hzx⟩ := (b4 z).1 hz
      obtain ⟨y, hy, hzy⟩ := (ih3 z).1 hz'
      have := hg.mem_disj x y z (b3 x hx) (ih2 y hy) hzx hzy
      subst this
      exact hnd.2.2 x hx x hy rfl
    · intro x hx
      rw [List.mem_append] at hx
      rcases hx with h1 | h1
      · exact b3 x h1
      · exact ih2 x h1
    · intro z
      simp only [List.mem_append]
      rw [b4, ih3]
      constructor
      · rintro (⟨x, h1, h2⟩ | ⟨x, h1, h2⟩)
        · exact ⟨x, Or.inl h1, h2⟩
        · exact ⟨x, Or.inr h1, h2⟩
      · rintro ⟨x, h1 | h1, h2⟩
        · exact Or.inl ⟨x, h1, h2⟩
        · exact Or.inr ⟨x, h1, h2⟩

theorem forall₂_exists_right {α β : Type} {R : α → β → Prop} {P : List α} {I : List β} (h : List.Forall₂ R P I)
    {p : α} (hp : p ∈ P) : ∃ c ∈ I, R p c := by
  induction h with
  | nil => simp at hp
  | @cons a b P I hab _ ih =>
    rw [List.mem_cons] at hp
    rcases hp with rfl | hp
    · exact ⟨b, by simp, hab⟩
    · obtain ⟨c, hc, hr⟩ := ih hp
      exact ⟨c, List.mem_cons_of_mem _ hc, hr⟩

/-- at a good level, `partition` is a partition of the original ranks into non-empty sets -/
theorem PI.partition {lv : Level} {n k : Nat} (hg : GoodLevel lv n k) {P I : List (List Nat)} (h : PI lv k P I) :
    PartOfRange n P := by
  obtain ⟨h1, h2, h3⟩ := forall₂_blk_flat hg h.rel h.inner_part.2.1
  refine ⟨?_, h1, ?_⟩
  · intro p hp
    obtain ⟨c, hc, hb⟩ := forall₂_exists_right h.rel hp
    intro e
    exact h.inner_part.1 c hc ((hb.empty_iff hg).1 e)
  · intro z
    rw [h3, hg.mem_cover]
    constructor
    · rintro ⟨x, hx, hz⟩; exact ⟨x, h2 x hx, hz⟩
    · rintro ⟨x, hx, hz⟩; exact ⟨x, (h.inner_part.2.2 x).2 hx, hz⟩

theorem SInv.coarsens {lv : Level} {n k : Nat} {st : LState} (hg : GoodLevel lv n k) {partition : List (List Nat)}
    (hin : InputOK lv k partition) (h : SInv lv k st) :
    ∀ f ∈ partition, ∃ c ∈ st.part.filter (!·.isEmpty), ∀ x ∈ f, x ∈ c := by
  intro f hf
  obtain ⟨i, hi, rfl⟩ := List.getElem_of_mem hf
  have hik : i < k := by rw [← hin.len]; exact hi
  obtain ⟨c, hc⟩ := h.n2c_total i hik
  have hck : c < st.part.length := by rw [h.part_len]; exact (h.n2c_lt i c hc).2
  have hsub : ∀ z, z ∈ mem lv i → z ∈ st.part[c] := by
    intro z hz
    rw [getElem_eq_getD _ c hck, h.part_iff]
    exact ⟨i, hc, hz⟩
  refine ⟨st.part[c], ?_, ?_⟩
  · rw [List.mem_filter]
    refine ⟨List.getElem_mem hck, ?_⟩
    cases hm : mem lv i with
    | nil => exact absurd hm (hg.mem_ne i hik)
    | cons z zs =>
      have := hsub z (by rw [hm]; simp)
      cases he : st.part[c] with
      | nil => rw [he] at this; simp at this
      | cons a b => simp
  · intro z hz
    rw [getElem_eq_getD _ i hi, hin.iff i z hik] at hz
    exact hsub z hz

/-- what `compute_one_level` returns for the outcome of its sweeps (`none` = fuel exhausted or a flagged near-tie) -/
def levelReturn : Option LState → Option (List (List Nat) × List (List Nat) × Bool)
  | none => none
  | some st =>
    if st.risky then none else some (st.part.filter (!·.isEmpty), st.inner.filter (!·.isEmpty), st.improvement)

/-- `compute_one_level` on a good level: the degree information, the sweeps from the all-singletons state, `levelReturn` -/
theorem computeOneLevel_eq {lv : Level} {n k : Nat} (hg : GoodLevel lv n k) {partition : List (List Nat)}
    (hlen : partition.length = k) (m res : Rat) (perm : List Nat) (fuel : Nat) :
    computeOneLevel lv m res partition perm fuel =
      (degreeInformation lv.g k).bind fun di =>
        (sweeps lv m res (perm.filterMap fun i => lv.g.getAllNodeNames[i]?) fuel (LT.initState partition k di)).bind fun o =>
          .ok (levelReturn o) := by
  unfold computeOneLevel
  rw [sortNat_eq_range hg.names_nodup hg.names_iff, hlen]
  refine congrArg (Outcome.bind _) (funext fun di => congrArg (Outcome.bind _) (funext fun o => ?_))
  cases o with
  | none => rfl
  | some st =>
    show (if st.risky = true then _ else _) = Outcome.ok (if st.risky = true then _ else _)
    split <;> rfl

/-- the visiting order consists of node names -/
theorem mem_order {lv : Level} {perm : List Nat} {u : Nat}
    (hu : u ∈ perm.filterMap fun i => lv.g.getAllNodeNames[i]?) : u ∈ lv.g.names := by
  obtain ⟨i, _, hi⟩ := List.mem_filterMap.1 hu
  exact List.mem_of_getElem? hi

/-- **post-condition of `compute_one_level`** -/
theorem computeOneLevel_post {lv : Level} {n k : Nat} (hg : GoodLevel lv n k) {partition : List (List Nat)}
    (hin : InputOK lv k partition) {m res : Rat} {perm : List Nat} {fuel : Nat}
    {p i : List (List Nat)} {imp : Bool}
    (h : computeOneLevel lv m res partition perm fuel = .ok (some (p, i, imp))) :
    PI lv k p i ∧ ∀ f ∈ partition, ∃ c ∈ p, ∀ x ∈ f, x ∈ c := by
  rw [computeOneLevel_eq hg hin.len] at h
  obtain ⟨di, hdi, h⟩ := bind_eq_ok.1 h
  obtain ⟨ost, hsw, h⟩ := bind_eq_ok.1 h
  cases ost with
  | none => cases h
  | some st =>
    have hs : SInv lv k st := SInv.sweeps hg _ fuel _ st (SInv.init hin di) hsw
    replace h : (if st.risky = true then none else some
        (st.part.filter (!·.isEmpty), st.inner.filter (!·.isEmpty), st.improvement)) = some (p, i, imp) := Outcome.ok.inj h
    split at h
    · cases h
    · cases h
      exact ⟨⟨forall₂_filter_blk hg hs.rel, hs.inner_part⟩, hs.coarsens hg hin⟩

/-- the partition handed to the next level lists the member blocks of the next level graph -/
theorem PI.inputOK {lv lv' : Level} {k : Nat} {P I : List (List Nat)} (h : PI lv k P I)
    (hm : ∀ j z, j < I.length → (z ∈ mem lv' j ↔ ∃ x ∈ (I[j]?).getD [], z ∈ mem lv x)) :
    InputOK lv' I.length P := by
  have hlen := h.rel.length_eq
  have hget : ∀ j (hj : j < I.length), Blk lv k ((P[j]?).getD []) ((I[j]?).getD []) := by
    intro j hj
    have hj' : j < P.length := by rw [hlen]; exact hj
    have := h.rel.get hj' hj
    simp only [List.get_eq_getElem] at this
    rw [getElem_eq_getD _ j hj', getElem_eq_getD _ j hj] at this
    exact this
  refine ⟨hlen, ?_, ?_⟩
  · intro j hj; exact (hget j hj).1
  · intro j z hj
    rw [hm j z hj]
    exact (hget j hj).2.2.2 z

end LF
end Graphrs
