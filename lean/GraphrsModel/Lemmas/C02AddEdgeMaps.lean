/-
  `add_edge` for the adjacency-set clause, over the shared decomposition (Lemmas/AddEdgeShape): what the
  adjacency phase does to the four set maps, and what the edge-store phase does to `edges`.
-/
import GraphrsModel.Lemmas.C02Adj
import GraphrsModel.Lemmas.AddEdgeShape
namespace Graphrs
namespace C02
open Store

/-- the state after the missing endpoints of `e` have been created, source first -/
abbrev pre (s : Store) (e : Edge) : Store := (s.ensure e.u).ensure e.v

theorem adjPhase_arcs (sp : Specs) (s : Store) (e : Edge) (ui vi ou ov : Nat) (upd : AdjUpd) :
    Frame { s with
      succ := addArcs s.succ (arcs sp.directed e.u e.v)
      succMap := addArcs s.succMap (arcs sp.directed ui vi)
      pred := addArcs s.pred (parcs sp.directed e.u e.v)
      predMap := addArcs s.predMap (parcs sp.directed ui vi) }
      (adjPhase sp s e ui vi ou ov upd) := by
  have h1 := adjSucc_frame (s.noteSucc e.u e.v ui vi) ou ov e.w upd
  unfold adjPhase
  cases sp.directed
  · exact (h1.mapSucc (amodify · e.v [] (sinsert · e.u)) (amodify · vi [] (sinsert · ui))).trans
      (adjSucc_frame _ _ _ _ _)
  · exact (h1.mapPred (amodify · e.v [] (sinsert · e.u)) (amodify · vi [] (sinsert · ui))).trans
      (adjPred_frame _ _ _ _ _)

/-- the edge-store phase rewrites the two edge stores and nothing else; the name-keyed one gains `o` at the
    end of its list, or holds `[o]` alone, or - a duplicate that is kept out - stays as it is -/
theorem edgePhase_edges (sp : Specs) (s : Store) (o : Edge) (ou ov : Nat) :
    ∃ E EM, edgePhase sp s o ou ov = { s with edges := E, edgesMap := EM } ∧
      (E = amodify s.edges (o.u, o.v) [] (· ++ [o]) ∨ E = ainsert s.edges (o.u, o.v) [o] ∨
        (E = s.edges ∧ EM = s.edgesMap ∧ (s.edgesByIdx ou ov).isSome = true)) := by
  unfold edgePhase
  by_cases h1 : sp.multi = true
  · exact ⟨_, _, if_pos h1, .inl rfl⟩
  · by_cases h2 : (s.edgesByIdx ou ov).isNone = true
    · exact ⟨_, _, (if_neg h1).trans (if_pos h2), .inr (.inl rfl)⟩
    · by_cases h3 : (sp.dedupe == .keepLast) = true
      · exact ⟨_, _, (if_neg h1).trans ((if_neg h2).trans (if_pos h3)), .inr (.inl rfl)⟩
      · exact ⟨s.edges, s.edgesMap, (if_neg h1).trans ((if_neg h2).trans (if_neg h3)),
          .inr (.inr ⟨rfl, rfl, Option.isSome_iff_ne_none.2 fun hn => h2 (hn ▸ rfl)⟩)⟩

theorem poison_poisoned (s : Store) (site : String) : (s.poison site).poisoned ≠ none := by
  unfold Store.poison
  split
  · rename_i h; rw [h]; nofun
  · nofun

theorem ensure_edges (s : Store) (x : Nat) : (s.ensure x).edges = s.edges := by
  unfold Store.ensure
  split
  · exact addNode_edges s _
  · rfl

theorem pre_fields (s : Store) (e : Edge) : (pre s e).edges = s.edges ∧ (pre s e).specs = s.specs :=
  ⟨(ensure_edges _ _).trans (ensure_edges _ _), (ensure_specs _ _).trans (ensure_specs _ _)⟩

end C02
end Graphrs
