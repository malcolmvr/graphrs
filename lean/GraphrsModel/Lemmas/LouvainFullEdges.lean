/-
  The edge lists of the graphs `generate_graph` and `convert_graph` build.

  `generate_graph` aggregates exactly: `add_edge` with the accumulated weight either appends the first edge between
  two communities or replaces the single stored one, so every edge sum of the new level graph is the edge sum of the
  old one after mapping each node to its community (`generateGraph_fold`), and only sums of stored weights are stored:
  no negative weight and no NaN appears.

  The edges of the graph `convert_graph` builds are, up to the order, the edges of the input (after `to_single_edges`
  on a multigraph and after `set_all_edge_weights(1.0)` in unweighted mode) with the endpoints renamed; hence
    * no negative weight appears (`convertGraph_edgesNN`),
    * in weighted mode the total weight `m` is the total weight of the input (`convertGraph_sizeWeighted`),
    * in unweighted mode `m` is positive when the input has an edge, and is the number of edges of the input when
      this is not a multigraph (`convertGraph_sizeUnweighted`).
-/
import GraphrsModel.Lemmas.LouvainMonoSum
import GraphrsModel.Lemmas.LouvainGraphs
import GraphrsModel.Lemmas.LouvainTermInit
import GraphrsModel.Lemmas.C09ModelAux
namespace Graphrs
open LouvainFull
namespace LF

/-- no stored weight is negative (NaN = `none` is allowed) -/
def EdgesNN (g : Store) : Prop := ∀ e ∈ g.allEdges, LT.WNN e.w

theorem EdgesNN.iff (g : Store) : EdgesNN g ↔ ∀ e ∈ g.allEdges, ∀ w, e.w = some w → 0 ≤ w := Iff.rfl

theorem absEq_mem {a b : Abs} (h : AbsEq a b) (e : Edge) : e ∈ a.edges ↔ e ∈ b.edges :=
  (h.edges_perm).mem_iff

/-! ### abstract `add_edge`: every stored edge is an old one or carries the new weight -/

theorem abs_addNode_edges (a : Abs) (n : Node) : (a.addNode n).edges = a.edges := by
  unfold Abs.addNode
  split <;> rfl

theorem canon_w (d : Bool) (e : Edge) : (Abs.canon d e).w = e.w := by
  unfold Abs.canon Edge.ordered Edge.reversed
  split
  · rfl
  · split <;> rfl

theorem abs_addEdge_edges (sp : Specs) (a : Abs) (e : Edge) :
    ∀ e' ∈ (Abs.addEdge sp a e).1.edges, e' ∈ a.edges ∨ e'.w = e.w := by
  intro e' he'
  have h2 : ∀ (a1 : Abs), a1.edges = a.edges →
      (if a1.hasNode e.v = true then a1 else a1.addNode ⟨e.v, none⟩).edges = a.edges := by
    intro a1 h1
    split
    · exact h1
    · rw [abs_addNode_edges]; exact h1
  have h1 : (if a.hasNode e.u = true then a else a.addNode ⟨e.u, none⟩).edges = a.edges := by
    split
    · rfl
    · rw [abs_addNode_edges]
  have h12 := h2 _ h1
  -- `key` restates the tail of `Abs.addEdge` verbatim, so that it can be used for any node list
  have key : ∀ a2 : Abs, a2.edges = a.edges →
      e' ∈ (if (sp.multi || !(a2.edges.any fun e' => Abs.sameKey sp.directed e' e.u e.v)) = true then
              (({ a2 with edges := a2.edges ++ [Abs.canon sp.directed e] } : Abs), (none : Option ErrKind))
            else
              match sp.dedupe with
              | .error => (a, some .DuplicateEdge)
              | .keepFirst => (a2, none)
              | .keepLast =>
                ({ a2 with edges := a2.edges.map fun e' =>
                    if Abs.sameKey sp.directed e' e.u e.v then Abs.canon sp.directed e else e' }, none)).1.edges →
      e' ∈ a.edges ∨ e'.w = e.w := by
    intro a2 ha2 hmem
    split at hmem
    · simp only [List.mem_append, List.mem_singleton] at hmem
      rcases hmem with h | h
      · rw [ha2] at h; exact Or.inl h
      · right; rw [h, canon_w]
    · split at hmem
      · exact Or.inl hmem
      · rw [ha2] at hmem; exact Or.inl hmem
      · simp only [List.mem_map] at hmem
        obtain ⟨e0, h0, h0'⟩ := hmem
        rw [ha2] at h0
        split at h0'
        · right; rw [← h0', canon_w]
        · left; rw [← h0']; exact h0
  unfold Abs.addEdge at he'
  by_cases c1 : (!sp.selfLoops && e.u == e.v) = true
  · rw [if_pos c1] at he'
    split at he' <;> exact Or.inl he'
  · rw [if_neg c1] at he'
    by_cases c2 : (sp.missing == .error && (!a.hasNode e.u || !a.hasNode e.v)) = true
    · rw [if_pos c2] at he'; exact Or.inl he'
    · rw [if_neg c2] at he'
      exact key _ h12 he'

theorem addEdge_mem (g : Store) (hwf : g.wf = true) (e : Edge) :
    ∀ e' ∈ (g.addEdge e).1.allEdges, e' ∈ g.allEdges ∨ e'.w = e.w := fun e' he' =>
  abs_addEdge_edges g.specs g.abs e e'
    ((absEq_mem (C01_addEdge_refines g e g.abs hwf ⟨rfl, fun _ => rfl⟩).2 e').1 he')

/-! ### `get_edge` returns a stored edge -/

theorem getEdge_ok_mem (g : Store) (hwf : g.wf = true) (u v : Nat) (x : Edge) (h : g.getEdge u v = .ok x) :
    x ∈ g.allEdges := by
  have hn := C02.nodesP_of g (g.wf_parts hwf).1
  by_cases hm : g.specs.multi = true
  · rw [(C02_pair_errors g u v).1 hm] at h; cases h
  · have hm' : g.specs.multi = false := by simpa using hm
    by_cases hu : g.hasNode u = true
    · by_cases hv : g.hasNode v = true
      · rw [C02_getEdge g hwf hm' u v hu hv] at h
        cases hb : g.abs.between g.specs.directed u v with
        | nil => rw [hb] at h; cases h
        | cons e l =>
          rw [hb] at h
          cases h
          have : x ∈ g.abs.between g.specs.directed u v := by rw [hb]; simp
          exact List.mem_of_mem_filter this
      · have : acontains g.nodesMap v = false := by
          cases hl : alookup g.nodesMap v with
          | none => simp [acontains, hl]
          | some i => exact absurd ((C02.hasNode_iff hn v).2 ⟨i, hl⟩) hv
        rw [(C02_pair_errors g u v).2.2.1 hm' (Or.inr this)] at h; cases h
    · have : acontains g.nodesMap u = false := by
        cases hl : alookup g.nodesMap u with
        | none => simp [acontains, hl]
        | some i => exact absurd ((C02.hasNode_iff hn u).2 ⟨i, hl⟩) hu
      rw [(C02_pair_errors g u v).2.2.1 hm' (Or.inl this)] at h; cases h

end LF

namespace LM

/-! ### abstract `add_edge` between existing nodes of a single-edge, self-loop, keep-last graph -/

theorem abs_addEdge_shape (sp : Specs) (a : Abs) (e : Edge) (hsl : sp.selfLoops = true) (hd : sp.dedupe = .keepLast)
    (hm : sp.multi = false) (hu : a.hasNode e.u = true) (hv : a.hasNode e.v = true) :
    (Abs.addEdge sp a e).1.edges =
      if (a.edges.any fun e' => Abs.sameKey sp.directed e' e.u e.v) = true then
        a.edges.map fun e' => if Abs.sameKey sp.directed e' e.u e.v then Abs.canon sp.directed e else e'
      else a.edges ++ [Abs.canon sp.directed e] := by
  unfold Abs.addEdge
  simp only [hsl, hu, hv, hd, hm, Bool.not_true, Bool.false_and, Bool.false_eq_true, if_false, if_true,
    Bool.or_self, Bool.and_false, Bool.false_or]
  by_cases hany : (a.edges.any fun e' => Abs.sameKey sp.directed e' e.u e.v) = true
  · simp only [hany, Bool.not_true, Bool.false_eq_true, if_false, if_true]
  · simp only [hany, Bool.not_false, if_true, Bool.false_eq_true, if_false]

theorem wsum_replace (l : List Edge) (p : Edge → Bool) (y : Edge) (f : Nat → Nat → Rat) :
    wsum (l.map fun x => if p x = true then y else x) f
      = wsum l f + ((l.filter p).map fun x => ratW y.w * f y.u y.v - ratW x.w * f x.u x.v).sum := by
  induction l with
  | nil => simp [wsum]
  | cons x l ih =>
    rw [List.map_cons, wsum_cons, wsum_cons, ih]
    by_cases h : p x = true
    · simp only [h, if_true, List.filter_cons, List.map_cons, List.sum_cons]
      ring
    · simp only [h, if_false, List.filter_cons, Bool.false_eq_true]
      ring

theorem f_canon (d : Bool) (e : Edge) (f : Nat → Nat → Rat) (hf : d = false → ∀ u v, f u v = f v u) :
    f (Abs.canon d e).u (Abs.canon d e).v = f e.u e.v := by
  unfold Abs.canon Edge.ordered Edge.reversed
  cases d with
  | true => simp
  | false =>
    simp only [Bool.false_eq_true, if_false]
    split
    · exact hf rfl _ _
    · rfl

theorem f_sameKey (d : Bool) (x : Edge) (c1 c2 : Nat) (h : Abs.sameKey d x c1 c2 = true) (f : Nat → Nat → Rat)
    (hf : d = false → ∀ u v, f u v = f v u) : f x.u x.v = f c1 c2 := by
  simp only [Abs.sameKey, Bool.or_eq_true, Bool.and_eq_true, beq_iff_eq, Bool.not_eq_true'] at h
  rcases h with ⟨h1, h2⟩ | ⟨⟨hd, h1⟩, h2⟩
  · rw [h1, h2]
  · rw [h1, h2]; exact hf hd _ _

/-- on a single-edge store at most one stored edge lies between two names -/
theorem between_le_one (g : Store) (hwf : g.wf = true) (hm : g.specs.multi = false) (c1 c2 : Nat) :
    g.abs.between g.specs.directed c1 c2 = [] ∨ ∃ x0, g.abs.between g.specs.directed c1 c2 = [x0] := by
  have he := C02.edgesP_of g (g.wf_parts hwf).2.1
  rw [C02.between_eq he c1 c2]
  cases hl : alookup g.edges (nameKey g.specs.directed c1 c2) with
  | none => exact Or.inl rfl
  | some l =>
    have := (he.single _ (AL.lookup_mem hl)).resolve_left (by rw [hm]; exact Bool.false_ne_true)
    match l, this with
    | [x], _ => exact Or.inr ⟨x, rfl⟩

/-! ### one step of the fold of `generate_graph` -/

/-- the weight `generate_graph` reads back before adding -/
def oldW (g : Store) (c1 c2 : Nat) : W := match g.getEdge c1 c2 with | .ok x => x.w | _ => some 0

theorem oldW_cases (g : Store) (hwf : g.wf = true) (c1 c2 : Nat) :
    oldW g c1 c2 = some 0 ∨ ∃ x0 ∈ g.allEdges, oldW g c1 c2 = x0.w := by
  unfold oldW
  cases h : g.getEdge c1 c2 with
  | ok x => exact Or.inr ⟨x, LF.getEdge_ok_mem g hwf c1 c2 x h, rfl⟩
  | err k => exact Or.inl rfl
  | panic k => exact Or.inl rfl

/-- `add_edge` with the accumulated weight between two existing nodes changes every edge sum by the difference of
    the accumulated weight and the weight read back (a first edge is appended, a stored one replaced) -/
theorem addEdge_step (g : Store) (hwf : g.wf = true) (hsl : g.specs.selfLoops = true)
    (hkl : g.specs.dedupe = .keepLast) (hm : g.specs.multi = false) (c1 c2 : Nat) (hc1 : c1 ∈ g.names) (hc2 : c2 ∈ g.names)
    (w : W) (f : Nat → Nat → Rat) (hf : g.specs.directed = false → ∀ u v, f u v = f v u) :
    wsum (g.addEdge ⟨c1, c2, W.add w (oldW g c1 c2), none⟩).1.allEdges f
      = wsum g.allEdges f + (ratW (W.add w (oldW g c1 c2)) - ratW (oldW g c1 c2)) * f c1 c2 := by
  have hu' : g.hasNode c1 = true := (g.hasNode_names hwf c1).2 hc1
  have hv' : g.hasNode c2 = true := (g.hasNode_names hwf c2).2 hc2
  have hge := C02_getEdge g hwf hm c1 c2 hu' hv'
  generalize W.add w (oldW g c1 c2) = wn
  have hperm : (g.addEdge ⟨c1, c2, wn, none⟩).1.allEdges.Perm (Abs.addEdge g.specs g.abs ⟨c1, c2, wn, none⟩).1.edges :=
    (C01_addEdge_refines g ⟨c1, c2, wn, none⟩ g.abs hwf ⟨rfl, fun _ => rfl⟩).2.edges_perm
  have hshape := abs_addEdge_shape g.specs g.abs ⟨c1, c2, wn, none⟩ hsl hkl hm ((Abs.hasNode_iff _ _).2 hc1)
    ((Abs.hasNode_iff _ _).2 hc2)
  have hbdef : g.abs.between g.specs.directed c1 c2
      = g.abs.edges.filter (fun e => Abs.sameKey g.specs.directed e c1 c2) := rfl
  rcases between_le_one g hwf hm c1 c2 with hb | ⟨x0, hb⟩
  · -- first edge between the two communities
    rw [hb] at hge
    have hold : oldW g c1 c2 = some 0 := by unfold oldW; rw [hge]
    have hany : ¬ (g.abs.edges.any fun e' => Abs.sameKey g.specs.directed e' c1 c2) = true := by
      intro hc
      obtain ⟨x, hx, hk⟩ := List.any_eq_true.1 hc
      have : x ∈ g.abs.between g.specs.directed c1 c2 := by rw [hbdef, List.mem_filter]; exact ⟨hx, hk⟩
      rw [hb] at this
      cases this
    have h00 : ratW (some 0) = 0 := Int.cast_zero
    rw [if_neg hany] at hshape
    rw [wsum_perm hperm, hshape, wsum_append, wsum_cons, wsum_nil, LF.canon_w, f_canon _ _ f hf, hold, h00, sub_zero,
      add_zero]
    rfl
  · -- the stored edge between the two communities is replaced
    rw [hb] at hge
    have hold : oldW g c1 c2 = x0.w := by unfold oldW; rw [hge]
    have hx0 : x0 ∈ g.abs.edges.filter (fun e => Abs.sameKey g.specs.directed e c1 c2) := by
      rw [← hbdef, hb]; exact List.mem_singleton_self x0
    rw [List.mem_filter] at hx0
    have hany : (g.abs.edges.any fun e' => Abs.sameKey g.specs.directed e' c1 c2) = true :=
      List.any_eq_true.2 ⟨x0, hx0.1, hx0.2⟩
    rw [if_pos hany] at hshape
    rw [wsum_perm hperm, hshape, wsum_replace, ← hbdef, hb, hold]
    simp only [List.map_cons, List.map_nil, List.sum_cons, List.sum_nil, add_zero]
    rw [LF.canon_w, f_canon _ _ f hf, f_sameKey _ x0 c1 c2 hx0.2 f hf]
    show wsum g.allEdges f + _ = _
    ring

/-- the body of the edge loop of `generate_graph` -/
def ggStep (n2c : List (Nat × Nat)) (acc : Outcome Store) (e : Edge) : Outcome Store :=
  acc.bind fun g =>
    (Outcome.ofOption "generate_graph: node2com.get(u).unwrap()" (alookup n2c e.u)).bind fun c1 =>
    (Outcome.ofOption "generate_graph: node2com.get(v).unwrap()" (alookup n2c e.v)).bind fun c2 =>
      match g.addEdge ⟨c1, c2, W.add e.w (oldW g c1 c2), none⟩ with
      | (g', none) => .ok g'
      | (_, some _) => .panic "generate_graph: unexpected failure to add edge"

/-- the empty graph on `0..L-1` the loop starts from -/
def gg0 (sp : Specs) (L : Nat) : Store := (List.range L).foldl (fun g i => g.addNode ⟨i, none⟩) (Store.new sp)

theorem generateGraph_eq (lv : Level) (inner : List (List Nat)) :
    generateGraph lv inner =
      (if inner.all (fun part => part.all fun x => (lv.g.getNode x).isSome) then Outcome.ok ()
        else .panic "generate_graph: get_node(node).unwrap()").bind fun _ =>
      (lv.g.allEdges.foldl (ggStep (LF.n2cOf inner))
        (.ok (gg0 { lv.g.specs with selfLoops := true, dedupe := .keepLast } inner.length))).bind fun g =>
      .ok { g := g, members := LF.ggMembers lv inner } := rfl

/-- the invariant of the edge loop of `generate_graph`: a well-formed store with the specs of `generate_graph` and the
    nodes `0..L-1` -/
structure GenInv (sp : Specs) (L : Nat) (g : Store) : Prop where
  wf : g.wf = true
  specs : g.specs = sp
  nodes : g.nodesVec = (List.range L).map fun i => (⟨i, none⟩ : Node)

theorem GenInv.names {sp : Specs} {L : Nat} {g : Store} (h : GenInv sp L g) (c : Nat) (hc : c < L) : c ∈ g.names := by
  simp only [Store.names, h.nodes, List.map_map, Function.comp_def, List.map_id', List.mem_range]
  exact hc

/-- one step of the loop, between two communities `c1, c2 < L`: the invariant is kept, no negative weight and no NaN
    comes in, and every edge sum grows by the term of the added edge -/
theorem ggStep_ok (sp : Specs) (hsl : sp.selfLoops = true) (hkl : sp.dedupe = .keepLast) (hm : sp.multi = false)
    (L : Nat) (n2c : List (Nat × Nat)) (g : Store) (hG : GenInv sp L g) (e : Edge) (c1 c2 : Nat)
    (h1 : alookup n2c e.u = some c1) (h2 : alookup n2c e.v = some c2) (hc1 : c1 < L) (hc2 : c2 < L) :
    ∃ g', ggStep n2c (.ok g) e = .ok g' ∧ GenInv sp L g' ∧
      (LF.EdgesNN g → LT.WNN e.w → LF.EdgesNN g') ∧
      (NoNaN g.allEdges → e.w ≠ none → NoNaN g'.allEdges ∧
        ∀ f : Nat → Nat → Rat, (sp.directed = false → ∀ u v, f u v = f v u) →
          wsum g'.allEdges f = wsum g.allEdges f + ratW e.w * f c1 c2) := by
  have hs := hG.specs
  have hn1 := hG.names c1 hc1
  have hn2 := hG.names c2 hc2
  have H := LF.addEdge_present g hG.wf (by rw [hs]; exact hsl) (by rw [hs]; exact hkl)
    ⟨c1, c2, W.add e.w (oldW g c1 c2), none⟩ hn1 hn2
  have hold := oldW_cases g hG.wf c1 c2
  have hmem := LF.addEdge_mem g hG.wf ⟨c1, c2, W.add e.w (oldW g c1 c2), none⟩
  refine ⟨(g.addEdge ⟨c1, c2, W.add e.w (oldW g c1 c2), none⟩).1, ?_, ⟨H.2.1, H.2.2.1.trans hs, H.2.2.2.trans hG.nodes⟩,
    fun hnn hw x hx => ?_, fun hnan hw => ?_⟩
  · unfold ggStep
    simp only [Outcome.bind, h1, h2, Outcome.ofOption]
    have hpair : g.addEdge ⟨c1, c2, W.add e.w (oldW g c1 c2), none⟩
        = ((g.addEdge ⟨c1, c2, W.add e.w (oldW g c1 c2), none⟩).1, none) := by
      rw [← H.1]
    rw [hpair]
  · rcases hmem x hx with h | h
    · exact hnn x h
    · rw [h]
      refine LT.WNN_add hw ?_
      rcases hold with h0 | ⟨x0, hx0, h0⟩
      · rw [h0]; intro y hy; cases hy; exact le_refl _
      · rw [h0]; exact hnn x0 hx0
  · obtain ⟨z, hz⟩ := Option.ne_none_iff_exists'.1 hw
    obtain ⟨z0, hz0⟩ : ∃ z0, oldW g c1 c2 = some z0 := by
      rcases hold with h0 | ⟨x0, hx0, h0⟩
      · exact ⟨0, h0⟩
      · rw [h0]; exact Option.ne_none_iff_exists'.1 (hnan x0 hx0)
    constructor
    · intro x hx
      rcases hmem x hx with h | h
      · exact hnan x h
      · rw [h, hz, hz0]; exact Option.some_ne_none _
    · intro f hf
      rw [addEdge_step g hG.wf (by rw [hs]; exact hsl) (by rw [hs]; exact hkl) (by rw [hs]; exact hm) c1 c2 hn1 hn2 e.w
        f (by rw [hs]; exact hf), hz, hz0, ratW_add_some]
      ring

theorem ggFold (sp : Specs) (hsl : sp.selfLoops = true) (hkl : sp.dedupe = .keepLast) (hm : sp.multi = false)
    (L : Nat) (n2c : List (Nat × Nat)) (l : List Edge)
    (hl : ∀ e ∈ l, ∃ c1 c2, alookup n2c e.u = some c1 ∧ alookup n2c e.v = some c2 ∧ c1 < L ∧ c2 < L) :
    ∀ (g0 g : Store), GenInv sp L g0 → l.foldl (ggStep n2c) (.ok g0) = .ok g →
      GenInv sp L g ∧
      (LF.EdgesNN g0 → (∀ e ∈ l, LT.WNN e.w) → LF.EdgesNN g) ∧
      (NoNaN g0.allEdges → NoNaN l → NoNaN g.allEdges ∧
        ∀ f : Nat → Nat → Rat, (sp.directed = false → ∀ u v, f u v = f v u) →
          wsum g.allEdges f = wsum g0.allEdges f
            + wsum l (fun u v => f ((alookup n2c u).getD 0) ((alookup n2c v).getD 0))) := by
  induction l with
  | nil =>
    intro g0 g h0 h
    cases h
    exact ⟨h0, fun h _ => h, fun h _ => ⟨h, fun f _ => by rw [wsum_nil, add_zero]⟩⟩
  | cons e l ih =>
    intro g0 g h0 h
    obtain ⟨c1, c2, h1, h2, hc1, hc2⟩ := hl e List.mem_cons_self
    obtain ⟨g1, hg1, hG1, hnn1, hS1⟩ := ggStep_ok sp hsl hkl hm L n2c g0 h0 e c1 c2 h1 h2 hc1 hc2
    rw [List.foldl_cons, hg1] at h
    obtain ⟨hG, hnn, hS⟩ := ih (fun e' he' => hl e' (List.mem_cons_of_mem _ he')) g1 g hG1 h
    refine ⟨hG, fun a b => hnn (hnn1 a (b e List.mem_cons_self)) (fun e' he' => b e' (List.mem_cons_of_mem _ he')),
      fun a b => ?_⟩
    obtain ⟨a1, s1⟩ := hS1 a (b e List.mem_cons_self)
    obtain ⟨a2, s2⟩ := hS a1 (fun e' he' => b e' (List.mem_cons_of_mem _ he'))
    refine ⟨a2, fun f hf => ?_⟩
    rw [s2 f hf, s1 f hf, wsum_cons, h1, h2]
    simp only [Option.getD_some]
    ring

/-! ### `generate_graph` -/

/-- **`generate_graph` aggregates exactly.**  On a good level graph: no negative weight and no NaN comes in, and every
    edge sum of the new graph is the edge sum of the old one after mapping each node to its community. -/
theorem generateGraph_fold {lv : Level} {n k : Nat} (hg : LF.GoodLevel lv n k) (hwf : lv.g.wf = true)
    (hmulti : lv.g.specs.multi = false) {inner : List (List Nat)} (hin : LF.PartOfRange k inner) {lv' : Level}
    (h : generateGraph lv inner = .ok lv') :
    lv'.g.specs.directed = lv.g.specs.directed ∧
    (LF.EdgesNN lv.g → LF.EdgesNN lv'.g) ∧
    (NoNaN lv.g.allEdges → NoNaN lv'.g.allEdges ∧
      ∀ f : Nat → Nat → Rat, (lv.g.specs.directed = false → ∀ u v, f u v = f v u) →
        wsum lv'.g.allEdges f =
          wsum lv.g.allEdges (fun u v => f ((alookup (LF.n2cOf inner) u).getD 0) ((alookup (LF.n2cOf inner) v).getD 0))) := by
  rw [generateGraph_eq] at h
  split at h
  · rw [Outcome.bind_ok] at h
    generalize hfold : List.foldl _ _ lv.g.allEdges = o at h
    cases o with
    | err e => cases h
    | panic e => cases h
    | ok g =>
      rw [Outcome.bind_ok] at h
      cases h
      obtain ⟨w0, sp0, nv0⟩ := LF.g0_ok { lv.g.specs with selfLoops := true, dedupe := .keepLast } inner.length
      have h0 : (gg0 { lv.g.specs with selfLoops := true, dedupe := .keepLast } inner.length).allEdges = [] :=
        LF.g0_allEdges _ _
      have hl : ∀ e ∈ lv.g.allEdges, ∃ c1 c2, alookup (LF.n2cOf inner) e.u = some c1 ∧ alookup (LF.n2cOf inner) e.v = some c2 ∧
          c1 < inner.length ∧ c2 < inner.length := by
        intro e he
        obtain ⟨hu, hv⟩ := LT.edges_lt hg hwf e he
        obtain ⟨c1, h1, h1', _⟩ := LF.n2cOf_spec hin e.u hu
        obtain ⟨c2, h2, h2', _⟩ := LF.n2cOf_spec hin e.v hv
        exact ⟨c1, c2, h1, h2, h1', h2'⟩
      have hnil : ∀ e, e ∉ (gg0 { lv.g.specs with selfLoops := true, dedupe := .keepLast } inner.length).allEdges :=
        fun e he => by rw [h0] at he; cases he
      obtain ⟨hG, hnn, hS⟩ := ggFold { lv.g.specs with selfLoops := true, dedupe := .keepLast } rfl rfl hmulti inner.length
        (LF.n2cOf inner) lv.g.allEdges hl (gg0 { lv.g.specs with selfLoops := true, dedupe := .keepLast } inner.length) g
        ⟨w0, sp0, nv0⟩ hfold
      refine ⟨by show g.specs.directed = _; rw [hG.specs], fun a => hnn (fun e he => absurd he (hnil e)) a, fun a => ?_⟩
      obtain ⟨a1, s1⟩ := hS (fun e he => absurd he (hnil e)) a
      refine ⟨a1, fun f hf => ?_⟩
      show wsum g.allEdges f = _
      rw [s1 f hf, h0, wsum_nil, zero_add]
  · cases h

end LM

namespace LF

/-- `generate_graph` only ever stores sums of stored weights -/
theorem generateGraph_edgesNN {lv : Level} {n k : Nat} (hg : GoodLevel lv n k) (hwf : lv.g.wf = true)
    (hmulti : lv.g.specs.multi = false) {inner : List (List Nat)} (hin : PartOfRange k inner) {lv' : Level}
    (hnn : EdgesNN lv.g) (h : generateGraph lv inner = .ok lv') : EdgesNN lv'.g :=
  (LM.generateGraph_fold hg hwf hmulti hin h).2.1 hnn

/-! ### `to_single_edges`, abstractly -/

attribute [local instance] C12W.wMonoid in
/-- grouping the edges by key and summing each group does not change the total weight (double counting in the
    monoid `W`) -/
theorem toSingle_sumW (a : Abs) : Abs.sumW a.toSingle.edges = Abs.sumW a.edges := by
  have h := C09M.sum_by_key a.edges (fun e => (e.u, e.v)) (·.w) a.keys (nodup_dedup _)
    (fun e he => (mem_dedup _ _).2 (List.mem_map.2 ⟨e, he, rfl⟩))
  rw [C12W.sumW_eq_sum, C12W.sumW_eq_sum, ← h]
  unfold Abs.toSingle
  rw [List.map_map]
  refine congrArg List.sum (List.map_congr_left fun k _ => ?_)
  show Abs.sumW _ = _
  rw [C12W.sumW_eq_sum]
  rfl

theorem toSingle_wnn (a : Abs) (h : ∀ e ∈ a.edges, LT.WNN e.w) : ∀ e ∈ a.toSingle.edges, LT.WNN e.w := by
  intro e he
  unfold Abs.toSingle at he
  simp only [List.mem_map] at he
  obtain ⟨k, _, rfl⟩ := he
  exact LT.WNN_sumW _ (fun e' he' => h e' (List.mem_of_mem_filter he'))

theorem toSingle_ne_nil (a : Abs) (h : a.edges ≠ []) : a.toSingle.edges ≠ [] := by
  obtain ⟨e, he⟩ := List.exists_mem_of_ne_nil _ h
  have : (e.u, e.v) ∈ a.keys := (mem_dedup _ _).2 (List.mem_map.2 ⟨e, he, rfl⟩)
  unfold Abs.toSingle
  simp only [ne_eq, List.map_eq_nil_iff]
  intro hc
  rw [hc] at this
  cases this

/-! ### `convert_graph` -/

/-- the edges of the converted graph: those of the input, made single and given weight 1 where the mode asks for it,
    with the endpoints replaced by their ranks -/
theorem convertGraph_edges (s : Store) (h : s.wf = true) (weighted : Bool) (lv : Level)
    (hc : convertGraph s weighted = .ok lv) :
    lv.g.specs.directed = s.specs.directed ∧
    ∃ E1 E2 : List Edge,
      (if s.specs.multi = true then E1.Perm s.abs.toSingle.edges else E1 = s.allEdges) ∧
      (if weighted = true then E2 = E1 else E2.Perm (E1.map fun e => { e with w := some 1 })) ∧
      lv.g.allEdges.Perm (E2.map fun e =>
        (⟨rk (sortNat s.getAllNodeNames) e.u, rk (sortNat s.getAllNodeNames) e.v, e.w, none⟩ : Edge)) := by
  have hs1 : ∃ s1, (if s.specs.multi = true then s.toSingleEdges.unwrap "convert_graph: to_single_edges().unwrap()" else .ok s) = .ok s1 ∧
      s1.wf = true ∧ s1.specs.multi = false ∧ s1.specs.directed = s.specs.directed ∧ s1.nodesVec = s.nodesVec ∧
      (if s.specs.multi = true then s1.allEdges.Perm s.abs.toSingle.edges else s1.allEdges = s.allEdges) := by
    by_cases hm : s.specs.multi = true
    · obtain ⟨t, h1, h2, h3, h4⟩ := Core_toSingle s h hm
      refine ⟨t, ?_, h2, by rw [h3], by rw [h3], h4.1, ?_⟩
      · rw [if_pos hm, h1]; rfl
      · rw [if_pos hm]; exact h4.edges_perm
    · exact ⟨s, by rw [if_neg hm], h, Bool.eq_false_iff.2 hm, rfl, rfl, by rw [if_neg hm]⟩
  obtain ⟨s1, e1, w1, m1, d1, n1, p1⟩ := hs1
  have hs2 : ∃ s2, (if (!weighted) = true then s1.setAllEdgeWeights (some 1) else .ok s1) = .ok s2 ∧
      s2.wf = true ∧ s2.specs = s1.specs ∧ s2.nodesVec = s.nodesVec ∧
      (if weighted = true then s2.allEdges = s1.allEdges
        else s2.allEdges.Perm (s1.allEdges.map fun e => { e with w := some 1 })) := by
    cases weighted with
    | false =>
      obtain ⟨t, h1, h2, h3, h4⟩ := Core_setWeights s1 w1 (some 1)
      exact ⟨t, h1, h2, h3, h4.1.trans n1, h4.edges_perm⟩
    | true => exact ⟨s1, rfl, w1, rfl, n1, rfl⟩
  obtain ⟨s2, e2, w2, sp2, n2, p2⟩ := hs2
  have m2 : s2.specs.multi = false := by rw [sp2]; exact m1
  have hnames : sortNat s.getAllNodeNames = sortNat s2.names := by
    simp only [Store.names, Store.getAllNodeNames, n2]
  rw [convertGraph_eq, e1, Outcome.bind_ok, e2, Outcome.bind_ok] at hc
  obtain ⟨g, hg, _, gsp, _, hp⟩ := cgTail_ok s2 w2 m2 (sortNat s.getAllNodeNames) hnames
  rw [hc] at hg
  cases hg
  exact ⟨by rw [gsp, sp2, d1], s1.allEdges, s2.allEdges, p1, p2, hp⟩

theorem sumW_map_w (l : List Edge) (f : Edge → Edge) (hf : ∀ e, (f e).w = e.w) : Abs.sumW (l.map f) = Abs.sumW l := by
  induction l with
  | nil => rfl
  | cons e l ih => rw [List.map_cons, C12W.sumW_cons, C12W.sumW_cons, ih, hf]

/-- **no negative weight in the converted graph** (in unweighted mode every weight is 1) -/
theorem convertGraph_edgesNN (s : Store) (h : s.wf = true) (weighted : Bool) (lv : Level)
    (hc : convertGraph s weighted = .ok lv) (hnn : weighted = true → EdgesNN s) : EdgesNN lv.g := by
  obtain ⟨-, E1, E2, h1, h2, hp⟩ := convertGraph_edges s h weighted lv hc
  intro e he
  obtain ⟨e2, he2, rfl⟩ := List.mem_map.1 (hp.mem_iff.1 he)
  show LT.WNN e2.w
  by_cases hw : weighted = true
  · rw [if_pos hw] at h2
    subst h2
    by_cases hm : s.specs.multi = true
    · rw [if_pos hm] at h1
      exact toSingle_wnn s.abs (hnn hw) e2 (h1.mem_iff.1 he2)
    · rw [if_neg hm] at h1
      subst h1
      exact hnn hw e2 he2
  · rw [if_neg hw] at h2
    obtain ⟨e1, _, rfl⟩ := List.mem_map.1 (h2.mem_iff.1 he2)
    intro x hx
    cases hx
    decide

/-- **weighted mode: `m` is the total weight of the input** -/
theorem convertGraph_sizeWeighted (s : Store) (h : s.wf = true) (lv : Level)
    (hc : convertGraph s true = .ok lv) : lv.g.sizeWeighted = s.sizeWeighted := by
  obtain ⟨-, E1, E2, h1, h2, hp⟩ := convertGraph_edges s h true lv hc
  rw [if_pos rfl] at h2
  subst h2
  show Abs.sumW lv.g.allEdges = Abs.sumW s.allEdges
  rw [C12W.sumW_perm hp, sumW_map_w E2
    (fun e => (⟨rk (sortNat s.getAllNodeNames) e.u, rk (sortNat s.getAllNodeNames) e.v, e.w, none⟩ : Edge)) (fun _ => rfl)]
  by_cases hm : s.specs.multi = true
  · rw [if_pos hm] at h1
    rw [C12W.sumW_perm h1, toSingle_sumW]
    rfl
  · rw [if_neg hm] at h1
    rw [h1]

/-- **unweighted mode: `m` is the number of edges of the converted graph, positive when the input has an edge**
    (and equal to the number of edges of the input when this is not a multigraph) -/
theorem convertGraph_sizeUnweighted (s : Store) (h : s.wf = true) (lv : Level)
    (hc : convertGraph s false = .ok lv) :
    (0 < s.sizeUnweighted → 0 < lv.g.sizeUnweighted) ∧
    (s.specs.multi = false → lv.g.sizeUnweighted = s.sizeUnweighted) := by
  obtain ⟨-, E1, E2, h1, h2, hp⟩ := convertGraph_edges s h false lv hc
  rw [if_neg Bool.false_ne_true] at h2
  have hlen : lv.g.sizeUnweighted = E1.length := by
    show lv.g.allEdges.length = _
    rw [hp.length_eq, List.length_map, h2.length_eq, List.length_map]
  constructor
  · intro hpos
    rw [hlen]
    have hne : s.allEdges ≠ [] := by
      intro hc'
      unfold Store.sizeUnweighted at hpos
      rw [hc'] at hpos
      cases hpos
    by_cases hm : s.specs.multi = true
    · rw [if_pos hm] at h1
      rw [h1.length_eq]
      exact List.length_pos_of_ne_nil (toSingle_ne_nil s.abs hne)
    · rw [if_neg hm] at h1
      rw [h1]
      exact List.length_pos_of_ne_nil hne
  · intro hm
    rw [hlen, if_neg (by rw [hm]; simp)] at *
    rw [h1]
    rfl

end LF
end Graphrs
