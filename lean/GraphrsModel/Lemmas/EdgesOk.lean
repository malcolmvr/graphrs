/-
  Prop-level characterisation of `Store.edgesOk`: the correspondence between the name-keyed and the
  position-keyed edge store, and the preservation lemmas (node insertion, insertion of a list under
  corresponding keys).
-/
import GraphrsModel.Lemmas.NodesOk
namespace Graphrs

namespace Store

def EdgeEntry (s : Store) (k : Nat × Nat) (l : List Edge) : Prop :=
  l ≠ [] ∧ (∀ e ∈ l, (e.u, e.v) = k) ∧ (s.specs.directed = true ∨ k.1 ≤ k.2) ∧
  k.1 ∈ s.names ∧ k.2 ∈ s.names ∧ (s.specs.multi = true ∨ l.length = 1) ∧
  (s.specs.selfLoops = true ∨ k.1 ≠ k.2) ∧
  ∃ i j, alookup s.nodesMap k.1 = some i ∧ alookup s.nodesMap k.2 = some j ∧
    alookup s.edgesMap (idxKey s.specs.directed i j) = some l

def EmapEntry (s : Store) (k : Nat × Nat) (l : List Edge) : Prop :=
  k.1 < s.nodesVec.length ∧ k.2 < s.nodesVec.length ∧ (s.specs.directed = true ∨ k.1 ≤ k.2) ∧
  ∃ x y, s.names[k.1]? = some x ∧ s.names[k.2]? = some y ∧
    alookup s.edges (nameKey s.specs.directed x y) = some l

structure EdgesInv (s : Store) : Prop where
  edges_nodup : (s.edges.map (·.1)).Nodup
  emap_nodup : (s.edgesMap.map (·.1)).Nodup
  edges_ok : ∀ k l, alookup s.edges k = some l → EdgeEntry s k l
  emap_ok : ∀ k l, alookup s.edgesMap k = some l → EmapEntry s k l

theorem edgesOk_iff (s : Store) : s.edgesOk = true ↔ EdgesInv s := by
  -- `List.all` over a store with distinct keys, given what the test says of one entry
  have all_iff : ∀ {m : List ((Nat × Nat) × List Edge)} (Q : Nat × Nat → List Edge → Prop)
      {p : (Nat × Nat) × List Edge → Bool}, (m.map (·.1)).Nodup → (∀ k l, p (k, l) = true ↔ Q k l) →
      (m.all p = true ↔ ∀ k l, alookup m k = some l → Q k l) :=
    fun _ p h hp => (AL.all_iff h p).trans
      (forall_congr' fun k => forall_congr' fun l => imp_congr_right fun _ => hp k l)
  simp only [edgesOk, Bool.and_eq_true, AL.keysNodup_iff, and_assoc]
  refine Iff.trans (and_congr_right fun h1 => and_congr_right fun h2 =>
    and_congr (all_iff (EdgeEntry s) h1 fun k l => ?_) (all_iff (EmapEntry s) h2 fun k l => ?_))
    ⟨fun ⟨a, b, c, d⟩ => ⟨a, b, c, d⟩, fun h => ⟨h.1, h.2, h.3, h.4⟩⟩
  · split
    · rename_i i j e1 e2
      simp only [Bool.and_eq_true, Bool.or_eq_true, Bool.not_eq_true', List.isEmpty_eq_false_iff,
        List.all_eq_true, beq_iff_eq, decide_eq_true_eq, List.contains_iff_mem, bne_iff_ne, EdgeEntry, and_assoc,
        e1, e2, Option.some.injEq, exists_and_left, exists_eq_left']
    · rename_i h
      simp only [Bool.and_false, Bool.false_eq_true, false_iff]
      rintro ⟨_, _, _, _, _, _, _, i, j, e1, e2, _⟩
      exact h i j e1 e2
  · split
    · rename_i x y e1 e2
      simp only [Bool.and_eq_true, Bool.or_eq_true, beq_iff_eq, decide_eq_true_eq, EmapEntry, and_assoc,
        e1, e2, Option.some.injEq, exists_and_left, exists_eq_left']
    · rename_i h
      simp only [Bool.and_false, Bool.false_eq_true, false_iff]
      rintro ⟨_, _, _, x, y, e1, e2, _⟩
      exact h x y e1 e2

theorem wf_iff (s : Store) :
    s.wf = true ↔ NodesInv s ∧ EdgesInv s ∧ s.adjOk = true ∧ s.vecOk = true := by
  simp only [wf, Bool.and_eq_true, nodesOk_iff, edgesOk_iff, and_assoc]

theorem wf_parts (s : Store) (h : s.wf = true) :
    s.nodesOk = true ∧ s.edgesOk = true ∧ s.adjOk = true ∧ s.vecOk = true := by
  simpa only [wf, Bool.and_eq_true, and_assoc] using h

theorem emap_eq_edges {t : Store} (hn : NodesInv t) (he : EdgesInv t) {x y i j : Nat}
    (hx : alookup t.nodesMap x = some i) (hy : alookup t.nodesMap y = some j) :
    alookup t.edgesMap (idxKey t.specs.directed i j) = alookup t.edges (nameKey t.specs.directed x y) := by
  apply Option.ext
  intro l
  constructor
  · intro hA
    obtain ⟨_, _, _, x', y', e1, e2, a4⟩ := he.emap_ok _ _ hA
    rwa [nameKey_eq_idxKey, idxKey_map _ (fun i => t.names[i]?) ((hn.map_iff x i).mp hx) ((hn.map_iff y j).mp hy) e1 e2]
      at a4
  · intro hB
    obtain ⟨_, _, _, _, _, _, _, i', j', e1, e2, a8⟩ := he.edges_ok _ _ hB
    rwa [idxKey_map _ (alookup t.nodesMap) hx hy e1 e2] at a8

theorem hasEdge_iff (s : Store) (x y : Nat) :
    s.hasEdge x y = true ↔ ∃ e' ∈ s.allEdges, Abs.sameKey s.specs.directed e' x y = true := by
  simp only [hasEdge, List.any_eq_true, Abs.sameKey]

theorem mem_allEdges {s : Store} (he : EdgesInv s) {e : Edge} (hmem : e ∈ s.allEdges) :
    ∃ k l, alookup s.edges k = some l ∧ e ∈ l ∧ EdgeEntry s k l := by
  obtain ⟨k, l, hkl, hel⟩ := (AL.mem_flatMap_iff s.edges e).mp hmem
  have hl := AL.mem_lookup he.edges_nodup hkl
  exact ⟨k, l, hl, hel, he.edges_ok k l hl⟩

theorem allEdges_valid {s : Store} (he : EdgesInv s) {e : Edge} (hmem : e ∈ s.allEdges) :
    e.u ∈ s.names ∧ e.v ∈ s.names ∧ (s.specs.selfLoops = true ∨ e.u ≠ e.v) ∧
      (s.specs.directed = true ∨ e.u ≤ e.v) := by
  obtain ⟨k, l, _, hel, _, a2, a3, a4, a5, _, a7, _⟩ := mem_allEdges he hmem
  cases a2 e hel
  exact ⟨a4, a5, a7, a3⟩

theorem allEdges_filter {s : Store} (he : EdgesInv s) (k : Nat × Nat) :
    s.allEdges.filter (fun e => (e.u, e.v) == k) = (alookup s.edges k).getD [] :=
  AL.flatMap_filter (fun e : Edge => (e.u, e.v)) s.edges he.edges_nodup
    (fun kv hkv => (he.edges_ok kv.1 kv.2 (AL.mem_lookup he.edges_nodup hkv)).2.1) k

theorem sameKey_iff_key {t : Store} (he : EdgesInv t) {e' : Edge} (hmem : e' ∈ t.allEdges) (u v : Nat) :
    Abs.sameKey t.specs.directed e' u v = true ↔ (e'.u, e'.v) = nameKey t.specs.directed u v :=
  sameKey_iff_nameKey _ e' u v (allEdges_valid he hmem).2.2.2

theorem exists_sameKey_iff {t : Store} (he : EdgesInv t) (u v : Nat) :
    (∃ e' ∈ t.allEdges, Abs.sameKey t.specs.directed e' u v = true) ↔
      (alookup t.edges (nameKey t.specs.directed u v)).isSome = true := by
  constructor
  · rintro ⟨e', hmem, hk⟩
    obtain ⟨k, l, hl, hel, _, a2, _⟩ := mem_allEdges he hmem
    rw [← (sameKey_iff_key he hmem u v).mp hk, a2 e' hel, hl]
    rfl
  · intro h
    obtain ⟨l, hl⟩ := Option.isSome_iff_exists.mp h
    obtain ⟨a1, a2, _⟩ := he.edges_ok _ l hl
    obtain ⟨e', he'⟩ := List.exists_mem_of_ne_nil l a1
    have hmem : e' ∈ t.allEdges := (AL.mem_flatMap_iff _ _).mpr ⟨_, l, AL.lookup_mem hl, he'⟩
    exact ⟨e', hmem, (sameKey_iff_key he hmem u v).mpr (a2 e' he')⟩

theorem addNode_edges (s : Store) (n : Node) : (s.addNode n).edges = s.edges := by
  unfold addNode poison
  split
  · split <;> (try split) <;> rfl
  · rfl

theorem addNode_edgesMap (s : Store) (n : Node) : (s.addNode n).edgesMap = s.edgesMap := by
  unfold addNode poison
  split
  · split <;> (try split) <;> rfl
  · rfl

theorem addNode_names_mono {s : Store} (h : NodesInv s) (n : Node) {i y : Nat}
    (hy : s.names[i]? = some y) : (s.addNode n).names[i]? = some y := by
  cases hl : alookup s.nodesMap n.name with
  | some j => rwa [addNode_existing_names h n hl]
  | none => rwa [addNode_new_names h n hl, List.getElem?_append_left (getElem?_lt hy)]

theorem EdgesInv.mono {s s' : Store} (hs : NodesInv s) (hs' : NodesInv s')
    (hsp : s'.specs = s.specs) (he : s'.edges = s.edges) (hem : s'.edgesMap = s.edgesMap)
    (hn : ∀ (i y : Nat), s.names[i]? = some y → s'.names[i]? = some y) (h : EdgesInv s) : EdgesInv s' := by
  have hm : ∀ y i, alookup s.nodesMap y = some i → alookup s'.nodesMap y = some i :=
    fun y i hl => (hs'.map_iff y i).mpr (hn i y ((hs.map_iff y i).mp hl))
  have hmem : ∀ y, y ∈ s.names → y ∈ s'.names := fun y hy =>
    have ⟨i, hi⟩ := List.mem_iff_getElem?.mp hy
    List.mem_iff_getElem?.mpr ⟨i, hn i y hi⟩
  have lt_of : ∀ i z, s.names[i]? = some z → i < s'.nodesVec.length :=
    fun i z hz => names_length s' ▸ getElem?_lt (hn i z hz)
  refine ⟨he ▸ h.edges_nodup, hem ▸ h.emap_nodup, ?_, ?_⟩
  · intro k l hl
    obtain ⟨a1, a2, a3, a4, a5, a6, a7, i, j, e1, e2, a8⟩ := h.edges_ok k l (he ▸ hl)
    exact ⟨a1, a2, hsp ▸ a3, hmem _ a4, hmem _ a5, hsp ▸ a6, hsp ▸ a7, i, j, hm _ _ e1, hm _ _ e2,
      hsp ▸ hem ▸ a8⟩
  · intro k l hl
    obtain ⟨_, _, a3, x, y, e1, e2, a4⟩ := h.emap_ok k l (hem ▸ hl)
    exact ⟨lt_of _ _ e1, lt_of _ _ e2, hsp ▸ a3, x, y, hn _ _ e1, hn _ _ e2, hsp ▸ he ▸ a4⟩

theorem addNode_edgesInv {s : Store} (hs : NodesInv s) (h : EdgesInv s) (n : Node) :
    EdgesInv (s.addNode n) :=
  EdgesInv.mono hs (addNode_nodesInv hs n) (addNode_specs s n) (addNode_edges s n) (addNode_edgesMap s n)
    (fun _ _ hy => addNode_names_mono hs n hy) h

theorem insert_edgesInv {t : Store} (hn : NodesInv t) (he : EdgesInv t) {u v ui vi : Nat} (L : List Edge)
    (hu : alookup t.nodesMap u = some ui) (hv : alookup t.nodesMap v = some vi)
    (hL1 : L ≠ []) (hL2 : ∀ e ∈ L, (e.u, e.v) = nameKey t.specs.directed u v)
    (hL3 : t.specs.multi = true ∨ L.length = 1) (hsl : t.specs.selfLoops = true ∨ u ≠ v) :
    EdgesInv { t with edges := ainsert t.edges (nameKey t.specs.directed u v) L,
                      edgesMap := ainsert t.edgesMap (idxKey t.specs.directed ui vi) L } := by
  have hu' := (hn.map_iff u ui).mp hu
  have hv' := (hn.map_iff v vi).mp hv
  refine ⟨AL.nodup_insert he.edges_nodup _ _, AL.nodup_insert he.emap_nodup _ _, ?_, ?_⟩
  · intro k l hl
    by_cases hK : nameKey t.specs.directed u v = k
    · cases hK
      cases (AL.lookup_insert_self ..).symm.trans hl
      -- what the entry says of the key holds of `(u, v)` and, undirected, of `(v, u)`
      obtain ⟨p1, p2, p3, p4⟩ := idxKey_ind t.specs.directed u v
        (P := fun k => k.1 ∈ t.names ∧ k.2 ∈ t.names ∧ (t.specs.selfLoops = true ∨ k.1 ≠ k.2) ∧
          ∃ i j, alookup t.nodesMap k.1 = some i ∧ alookup t.nodesMap k.2 = some j ∧
            alookup (ainsert t.edgesMap (idxKey t.specs.directed ui vi) L) (idxKey t.specs.directed i j) = some L)
        ⟨(hn.mem_names_iff u).mpr ⟨_, hu⟩, (hn.mem_names_iff v).mpr ⟨_, hv⟩, hsl, ui, vi, hu, hv,
          AL.lookup_insert_self ..⟩
        (fun hd => ⟨(hn.mem_names_iff v).mpr ⟨_, hv⟩, (hn.mem_names_iff u).mpr ⟨_, hu⟩, hsl.imp_right Ne.symm,
          vi, ui, hv, hu, by rw [hd, idxKey_symm]; exact AL.lookup_insert_self ..⟩)
      exact ⟨hL1, hL2, idxKey_ordered .., p1, p2, hL3, p3, p4⟩
    · obtain ⟨a1, a2, a3, a4, a5, a6, a7, i, j, e1, e2, a8⟩ :=
        he.edges_ok k l ((AL.lookup_insert_ne _ _ hK).symm.trans hl)
      refine ⟨a1, a2, a3, a4, a5, a6, a7, i, j, e1, e2, (AL.lookup_insert_ne _ _ fun heq => hK ?_).trans a8⟩
      rw [← idxKey_canon _ k a3]
      exact (key_inj t.specs.directed
        ⟨fun e => hn.idx_inj e1 (e ▸ hu), fun e => hn.idx_inj e1 (e ▸ hv),
         fun e => hn.idx_inj e2 (e ▸ hu), fun e => hn.idx_inj e2 (e ▸ hv)⟩ heq.symm).symm
  · intro k l hl
    by_cases hK : idxKey t.specs.directed ui vi = k
    · cases hK
      cases (AL.lookup_insert_self ..).symm.trans hl
      obtain ⟨p1, p2, p3⟩ := idxKey_ind t.specs.directed ui vi
        (P := fun k => k.1 < t.nodesVec.length ∧ k.2 < t.nodesVec.length ∧
          ∃ x y, t.names[k.1]? = some x ∧ t.names[k.2]? = some y ∧
            alookup (ainsert t.edges (nameKey t.specs.directed u v) L) (nameKey t.specs.directed x y) = some L)
        ⟨hn.lookup_lt hu, hn.lookup_lt hv, u, v, hu', hv', AL.lookup_insert_self ..⟩
        (fun hd => ⟨hn.lookup_lt hv, hn.lookup_lt hu, v, u, hv', hu',
          by rw [hd, nameKey_symm]; exact AL.lookup_insert_self ..⟩)
      exact ⟨p1, p2, idxKey_ordered .., p3⟩
    · obtain ⟨a1, a2, a3, x, y, e1, e2, a4⟩ := he.emap_ok k l ((AL.lookup_insert_ne _ _ hK).symm.trans hl)
      refine ⟨a1, a2, a3, x, y, e1, e2, (AL.lookup_insert_ne _ _ fun heq => hK ?_).trans a4⟩
      rw [← idxKey_canon _ k a3]
      exact (key_inj t.specs.directed
        ⟨fun e => hn.name_inj e1 (e ▸ hu'), fun e => hn.name_inj e1 (e ▸ hv'),
         fun e => hn.name_inj e2 (e ▸ hu'), fun e => hn.name_inj e2 (e ▸ hv')⟩ heq.symm).symm

end Store
end Graphrs
