/-
  The invariant of the iterative preorder / low-link strong-components algorithm, over abstract state components:
  `pn` preorder numbers (0 = unvisited), `ll` low-links, `F` found nodes, `S` the scc stack, `Q` the DFS stack
  (top at the head).  Preservation by the four micro-steps: visit, push, pop (non-root), pop (root).
  Namespace `Scc`: everything about the strong-components model.
-/
import GraphrsModel.Lemmas.C10Base
namespace Graphrs
namespace Scc
open C10M

def SC (nbrs : Nat → List Nat) (x y : Nat) : Prop := ReachR nbrs x y ∧ ReachR nbrs y x

theorem SC.refl (nbrs : Nat → List Nat) (x : Nat) : SC nbrs x x := ⟨ReachR.refl x, ReachR.refl x⟩
theorem SC.symm {nbrs : Nat → List Nat} {x y : Nat} (h : SC nbrs x y) : SC nbrs y x := ⟨h.2, h.1⟩
theorem SC.trans {nbrs : Nat → List Nat} {x y z : Nat} (h1 : SC nbrs x y) (h2 : SC nbrs y z) : SC nbrs x z :=
  ⟨ReachR.trans h1.1 h2.1, ReachR.trans h2.2 h1.2⟩

def QChain (nbrs : Nat → List Nat) : List Nat → Prop
  | [] => True
  | [_] => True
  | a :: b :: l => a ∈ nbrs b ∧ QChain nbrs (b :: l)

theorem QChain.tail {nbrs : Nat → List Nat} {a : Nat} {l : List Nat} (h : QChain nbrs (a :: l)) : QChain nbrs l := by
  cases l with
  | nil => trivial
  | cons b l => exact h.2
theorem QChain.reach_top {nbrs : Nat → List Nat} {v : Nat} {rest : List Nat} (h : QChain nbrs (v :: rest)) :
    ∀ b ∈ rest, ReachR nbrs b v := by
  induction rest generalizing v with
  | nil => intro b hb; cases hb
  | cons c l ih =>
    intro b hb
    rcases List.mem_cons.1 hb with rfl | hb
    · exact ReachR.single h.1
    · exact ReachR.step (ih h.2 b hb) h.1

/-- the DFS stack (top at the head): nodes of `V`, all but possibly the top numbered, the numbers falling towards the
    bottom, each node a successor of the one below it -/
structure QInv (V : List Nat) (nbrs : Nat → List Nat) (pn : Nat → Nat) (Q : List Nat) : Prop where
  qV : ∀ x ∈ Q, x ∈ V
  qSorted : Q.Pairwise (fun a b => pn b ≠ 0 ∧ (pn a = 0 ∨ pn b < pn a))
  qChain : QChain nbrs Q

theorem forall_mem_snoc {α} {l : List α} {a : α} {P : α → Prop} (hl : ∀ x ∈ l, P x) (ha : P a) :
    ∀ x ∈ l ++ [a], P x :=
  fun x hx => (List.mem_append.1 hx).elim (hl x) fun hx => List.mem_singleton.1 hx ▸ ha

theorem QInv.tail {V nbrs pn v rest} (h : QInv V nbrs pn (v :: rest)) : QInv V nbrs pn rest :=
  ⟨fun x hx => h.qV x (List.mem_cons_of_mem _ hx), (List.pairwise_cons.1 h.qSorted).2, h.qChain.tail⟩

/-- the invariant between two steps.  Numbered nodes are split into found ones (`F`, the union of the emitted
    classes `comps`), the scc stack `S` (finished, class not yet emitted, in finishing order) and the DFS stack `Q`. -/
structure AInv (V : List Nat) (nbrs : Nat → List Nat) (pn ll : Nat → Nat) (F S : List Nat)
    (comps : List (List Nat)) (i : Nat) (Q : List Nat) : Prop extends QInv V nbrs pn Q where
  visV : ∀ x, pn x ≠ 0 → x ∈ V
  /-- `i` is the last number given out -/
  nLe : ∀ x, pn x ≤ i
  inj : ∀ x y, pn x ≠ 0 → pn x = pn y → x = y
  part : ∀ x, pn x ≠ 0 → x ∈ F ∨ x ∈ S ∨ x ∈ Q
  fVis : ∀ x ∈ F, pn x ≠ 0
  sVis : ∀ x ∈ S, pn x ≠ 0
  fs : ∀ x ∈ F, x ∉ S
  fq : ∀ x ∈ F, x ∉ Q
  sq : ∀ x ∈ S, x ∉ Q
  fClosed : ∀ x ∈ F, ∀ w ∈ nbrs x, w ∈ F
  compsF : ∀ x, x ∈ F ↔ x ∈ comps.flatMap id
  compsNodup : (comps.flatMap id).Nodup
  compsNe : ∀ c ∈ comps, c ≠ []
  compsClass : ∀ c ∈ comps, ∀ x ∈ c, ∀ y, y ∈ c ↔ SC nbrs x y
  sNbrVis : ∀ u ∈ S, ∀ w ∈ nbrs u, pn w ≠ 0
  /-- `u` on `S` is not a root: its low-link is the number of a node below it, on a stack, that it reaches -/
  sLow : ∀ u ∈ S, ∃ x, (x ∈ Q ∨ x ∈ S) ∧ pn x ≠ 0 ∧ pn x = ll u ∧ pn x < pn u ∧ ReachR nbrs u x
  qToS : ∀ u ∈ S, ∀ q ∈ Q, pn q ≠ 0 → pn q < pn u → ReachR nbrs q u
  sEdge : ∀ u ∈ S, ∀ w ∈ nbrs u, w ∉ F → pn w ≤ pn u → ll u ≤ pn w
  /-- low-links have been propagated upwards: `q` being the nearest DFS-stack node numbered below `u`, some child `c`
      of `q` on `S`, numbered up to `u`, has `ll c ≤ ll u` (what the root test needs when `q` is popped) -/
  sLL : ∀ u ∈ S, ∀ q ∈ Q, pn q ≠ 0 → pn q < pn u →
    (∀ q' ∈ Q, pn q' ≠ 0 → pn q' ≤ pn q ∨ pn u < pn q') →
    ∃ c ∈ nbrs q, c ∈ S ∧ pn q < pn c ∧ pn c ≤ pn u ∧ ll c ≤ ll u
  /-- the entries of `S` numbered above a DFS-stack node form a suffix of `S`: what the pop loop relies on -/
  sSuffix : S.Pairwise (fun a b => ∀ q ∈ Q, pn q ≠ 0 → pn q < pn a → pn q < pn b)

theorem AInv.init (V : List Nat) (nbrs : Nat → List Nat) :
    AInv V nbrs (fun _ => 0) (fun _ => 0) [] [] [] 0 [] where
  qV _ h := nomatch h
  qSorted := .nil
  qChain := trivial
  visV _ h := absurd rfl h
  nLe _ := Nat.le_refl 0
  inj _ _ h := absurd rfl h
  part _ h := absurd rfl h
  fVis _ h := nomatch h
  sVis _ h := nomatch h
  fs _ h := nomatch h
  fq _ h := nomatch h
  sq _ h := nomatch h
  fClosed _ h := nomatch h
  compsF _ := Iff.rfl
  compsNodup := List.nodup_nil
  compsNe _ h := nomatch h
  compsClass _ h := nomatch h
  sNbrVis _ h := nomatch h
  sLow _ h := nomatch h
  qToS _ h := nomatch h
  sEdge _ h := nomatch h
  sLL _ h := nomatch h
  sSuffix := .nil

/-- following low-link witnesses from a node of the scc stack ends on the DFS stack, at a smaller number -/
theorem AInv.sToQ {V nbrs pn ll F S comps i Q} (h : AInv V nbrs pn ll F S comps i Q) :
    ∀ u ∈ S, ∃ q ∈ Q, pn q < pn u ∧ ReachR nbrs u q := by
  have key : ∀ n u, pn u < n → u ∈ S → ∃ q ∈ Q, pn q < pn u ∧ ReachR nbrs u q := by
    intro n
    induction n with
    | zero => intro u hlt; exact absurd hlt (Nat.not_lt_zero _)
    | succ n ih =>
      intro u hlt hu
      obtain ⟨x, hx, -, -, h3, h4⟩ := h.sLow u hu
      rcases hx with hq | hs
      · exact ⟨x, hq, h3, h4⟩
      · obtain ⟨q, hq, g2, g3⟩ := ih x (Nat.lt_of_lt_of_le h3 (Nat.le_of_lt_succ hlt)) hs
        exact ⟨q, hq, Nat.lt_trans g2 h3, ReachR.trans h4 g3⟩
  exact fun u hu => key (pn u + 1) u (Nat.lt_succ_self _) hu

theorem AInv.s_nil {V nbrs pn ll F S comps i} (h : AInv V nbrs pn ll F S comps i []) : S = [] := by
  cases S with
  | nil => rfl
  | cons u S =>
    obtain ⟨q, hq, _⟩ := h.sToQ u List.mem_cons_self
    cases hq

theorem AInv.vis_iff_found {V nbrs pn ll F S comps i} (h : AInv V nbrs pn ll F S comps i []) (x : Nat) :
    pn x ≠ 0 ↔ x ∈ F := by
  constructor
  · intro hx
    rcases h.part x hx with hf | hs | hq
    · exact hf
    · rw [h.s_nil] at hs; cases hs
    · cases hq
  · exact h.fVis x

theorem AInv.start {V nbrs pn ll F S comps i} (h : AInv V nbrs pn ll F S comps i []) (src : Nat)
    (hV : src ∈ V) (hF : src ∉ F) : AInv V nbrs pn ll F S comps i [src] ∧ pn src = 0 := by
  have hS : S = [] := h.s_nil
  subst hS
  have hpn : pn src = 0 := Decidable.by_contra fun hp => hF ((h.vis_iff_found src).1 hp)
  refine ⟨?_, hpn⟩
  exact { h with
    qV := fun x hx => List.mem_singleton.1 hx ▸ hV
    qSorted := List.pairwise_singleton _ _
    qChain := trivial
    part := fun x hx => (h.part x hx).imp_right fun hs => nomatch hs
    fq := fun x hx hq => hF (List.mem_singleton.1 hq ▸ hx)
    sq := fun _ hx => nomatch hx
    sLow := fun _ hu => nomatch hu
    qToS := fun _ hu => nomatch hu
    sLL := fun _ hu => nomatch hu
    sSuffix := .nil }

section stack
variable {V : List Nat} {nbrs : Nat → List Nat} {pn ll : Nat → Nat} {F S : List Nat}
  {comps : List (List Nat)} {i : Nat} {v : Nat} {rest : List Nat}

theorem QInv.rest_vis (h : QInv V nbrs pn (v :: rest)) : ∀ b ∈ rest, pn b ≠ 0 :=
  fun b hb => ((List.pairwise_cons.1 h.qSorted).1 b hb).1

theorem QInv.rest_lt (h : QInv V nbrs pn (v :: rest)) (hv : pn v ≠ 0) : ∀ b ∈ rest, pn b < pn v :=
  fun b hb => ((List.pairwise_cons.1 h.qSorted).1 b hb).2.resolve_left hv

theorem QInv.top_not_rest (h : QInv V nbrs pn (v :: rest)) : v ∉ rest := fun hm =>
  have h1 := (List.pairwise_cons.1 h.qSorted).1 v hm
  h1.2.elim h1.1 (Nat.lt_irrefl _)

theorem QInv.q_le (h : QInv V nbrs pn (v :: rest)) (hv : pn v ≠ 0) : ∀ b ∈ v :: rest, pn b ≤ pn v :=
  List.forall_mem_cons.2 ⟨Nat.le_refl _, fun b hb => Nat.le_of_lt (h.rest_lt hv b hb)⟩

theorem QInv.rest_reach (h : QInv V nbrs pn (v :: rest)) : ∀ b ∈ rest, ReachR nbrs b v :=
  h.qChain.reach_top

theorem AInv.top_not_F (h : AInv V nbrs pn ll F S comps i (v :: rest)) : v ∉ F :=
  fun hf => h.fq v hf List.mem_cons_self

theorem AInv.top_not_S (h : AInv V nbrs pn ll F S comps i (v :: rest)) : v ∉ S :=
  fun hs => h.sq v hs List.mem_cons_self

end stack

theorem AInv.visit {V : List Nat} {nbrs : Nat → List Nat} {pn ll : Nat → Nat} {F S : List Nat}
    {comps : List (List Nat)} {i : Nat} {v : Nat} {rest : List Nat}
    (h : AInv V nbrs pn ll F S comps i (v :: rest)) (hv : pn v = 0) :
    AInv V nbrs (Function.update pn v (i + 1)) ll F S comps (i + 1) (v :: rest) := by
  -- numbered nodes keep their number; the new number is above all of them
  have hne : ∀ x, pn x ≠ 0 → x ≠ v := fun x hx e => hx (e ▸ hv)
  have hsame : ∀ x, pn x ≠ 0 → Function.update pn v (i + 1) x = pn x := fun x hx => Function.update_of_ne (hne x hx) _ _
  have hv' : Function.update pn v (i + 1) v = i + 1 := Function.update_self _ _ _
  have hnew : ∀ x, pn x ≠ i + 1 := fun x e => Nat.not_succ_le_self i (le_of_eq_of_le e.symm (h.nLe x))
  have hcase : ∀ x, Function.update pn v (i + 1) x ≠ 0 → x = v ∨ pn x ≠ 0 := fun x hx =>
    (Decidable.em (x = v)).imp_right fun e => Function.update_of_ne e (i + 1) pn ▸ hx
  have hS : ∀ u ∈ S, Function.update pn v (i + 1) u = pn u := fun u hu => hsame u (h.sVis u hu)
  have hN : ∀ u ∈ S, ∀ w ∈ nbrs u, Function.update pn v (i + 1) w = pn w := fun u hu w hw => hsame w (h.sNbrVis u hu w hw)
  have hR : ∀ b ∈ rest, Function.update pn v (i + 1) b = pn b := fun b hb => hsame b (h.rest_vis b hb)
  -- so a stack node numbered below a node of `S` is not the top
  have hQ : ∀ q ∈ v :: rest, ∀ u ∈ S, Function.update pn v (i + 1) q < Function.update pn v (i + 1) u →
      q ∈ rest ∧ pn q ≠ 0 ∧ pn q < pn u := by
    intro q hq u hu hlt
    rcases List.mem_cons.1 hq with rfl | hq
    · rw [hv', hS u hu] at hlt
      exact absurd (Nat.lt_of_lt_of_le hlt (h.nLe u)) (Nat.lt_asymm (Nat.lt_succ_self i))
    · rw [hR q hq, hS u hu] at hlt
      exact ⟨hq, h.rest_vis q hq, hlt⟩
  exact { h with
    visV := fun x hx => (hcase x hx).elim (fun e => e ▸ h.qV v List.mem_cons_self) (h.visV x)
    nLe := fun x => by
      by_cases e : x = v
      · rw [e, hv']; exact Nat.le_refl _
      · rw [Function.update_of_ne e _ _]; exact Nat.le_succ_of_le (h.nLe x)
    inj := fun x y hx hxy => by
      by_cases ex : x = v <;> by_cases ey : y = v
      · exact ex.trans ey.symm
      · rw [ex, hv', Function.update_of_ne ey _ _] at hxy; exact absurd hxy.symm (hnew y)
      · rw [ey, hv', Function.update_of_ne ex _ _] at hxy; exact absurd hxy (hnew x)
      · rw [Function.update_of_ne ex _ _] at hx hxy
        rw [Function.update_of_ne ey _ _] at hxy
        exact h.inj x y hx hxy
    qSorted := List.pairwise_cons.2
      ⟨fun b hb => by
        rw [hR b hb, hv']
        exact ⟨h.rest_vis b hb, Or.inr (Nat.lt_succ_of_le (h.nLe b))⟩,
      (List.pairwise_cons.1 h.qSorted).2.imp_of_mem fun ha hb hab => by rwa [hR _ ha, hR _ hb]⟩
    part := fun x hx => (hcase x hx).elim (fun e => Or.inr (Or.inr (e ▸ List.mem_cons_self))) (h.part x)
    fVis := fun x hx => by rw [hsame x (h.fVis x hx)]; exact h.fVis x hx
    sVis := fun x hx => by rw [hS x hx]; exact h.sVis x hx
    sNbrVis := fun u hu w hw => by rw [hN u hu w hw]; exact h.sNbrVis u hu w hw
    sLow := fun u hu => by
      obtain ⟨x, hx, h1, h2⟩ := h.sLow u hu
      rw [← hsame x h1, ← hS u hu] at h2
      exact ⟨x, hx, (hsame x h1).symm ▸ h1, h2⟩
    qToS := fun u hu q hq _ hlt =>
      have ⟨hq', hq0, hlt'⟩ := hQ q hq u hu hlt
      h.qToS u hu q hq hq0 hlt'
    sEdge := fun u hu w hw hwF => by
      rw [hN u hu w hw, hS u hu]
      exact h.sEdge u hu w hw hwF
    sLL := fun u hu q hq _ hlt hanc => by
      obtain ⟨hq', hq0, hlt'⟩ := hQ q hq u hu hlt
      obtain ⟨c, hc, hcS, hcond⟩ := h.sLL u hu q hq hq0 hlt' fun q' hq' hq'0 => by
        have := hanc q' hq' (by rw [hsame q' hq'0]; exact hq'0)
        rwa [hsame q' hq'0, hsame q hq0, hS u hu] at this
      rw [← hsame q hq0, ← hS c hcS, ← hS u hu] at hcond
      exact ⟨c, hc, hcS, hcond⟩
    sSuffix := h.sSuffix.imp_of_mem fun ha hb hab q hq _ hlt => by
      obtain ⟨hq', hq0, hlt'⟩ := hQ q hq _ ha hlt
      rw [hsame q hq0, hS _ hb]
      exact hab q hq hq0 hlt' }

theorem AInv.push {V : List Nat} {nbrs : Nat → List Nat} {pn ll : Nat → Nat} {F S : List Nat}
    {comps : List (List Nat)} {i : Nat} {v : Nat} {rest : List Nat}
    (h : AInv V nbrs pn ll F S comps i (v :: rest)) (hv : pn v ≠ 0) (w : Nat) (hw : w ∈ nbrs v) (hw0 : pn w = 0)
    (hwV : w ∈ V) :
    AInv V nbrs pn ll F S comps i (w :: v :: rest) :=
  have hQ : ∀ q ∈ w :: v :: rest, pn q ≠ 0 → q ∈ v :: rest := fun _ hq hq0 =>
    (List.mem_cons.1 hq).elim (fun e => absurd (e ▸ hw0) hq0) id
  { h with
    qV := List.forall_mem_cons.2 ⟨hwV, h.qV⟩
    qSorted := List.pairwise_cons.2
      ⟨fun b hb => ⟨(List.mem_cons.1 hb).elim (fun e => e ▸ hv) (h.rest_vis b), Or.inl hw0⟩, h.qSorted⟩
    qChain := ⟨hw, h.qChain⟩
    part := fun x hx => (h.part x hx).imp_right fun hsq => hsq.imp_right (List.mem_cons_of_mem _)
    fq := fun x hx hq => (List.mem_cons.1 hq).elim (fun e => h.fVis x hx (e ▸ hw0)) (h.fq x hx)
    sq := fun x hx hq => (List.mem_cons.1 hq).elim (fun e => h.sVis x hx (e ▸ hw0)) (h.sq x hx)
    sLow := fun u hu =>
      let ⟨x, hx, h1⟩ := h.sLow u hu
      ⟨x, hx.imp_left (List.mem_cons_of_mem _), h1⟩
    qToS := fun u hu q hq hq0 => h.qToS u hu q (hQ q hq hq0) hq0
    sLL := fun u hu q hq hq0 hlt hanc =>
      h.sLL u hu q (hQ q hq hq0) hq0 hlt fun q' hq' => hanc q' (List.mem_cons_of_mem _ hq')
    sSuffix := h.sSuffix.imp fun hab q hq hq0 => hab q (hQ q hq hq0) hq0 }

section pop
variable {V : List Nat} {nbrs : Nat → List Nat} {pn ll : Nat → Nat} {F S : List Nat}
  {comps : List (List Nat)} {i : Nat} {v : Nat} {rest : List Nat}

theorem mem_rest_of_lt {q : Nat} (hq : q ∈ v :: rest) (hlt : pn q < pn v) : q ∈ rest :=
  (List.mem_cons.1 hq).resolve_left fun e => Nat.lt_irrefl _ (e ▸ hlt)

theorem AInv.gt_in_S (h : AInv V nbrs pn ll F S comps i (v :: rest)) (hv : pn v ≠ 0) {w : Nat}
    (hw0 : pn w ≠ 0) (hwF : w ∉ F) (hlt : pn v < pn w) : w ∈ S := by
  rcases h.part w hw0 with hf | hs | hq
  · exact absurd hf hwF
  · exact hs
  · exact absurd hlt (Nat.not_lt.2 (h.q_le hv w hq))

theorem AInv.lt_of_mem_S (h : AInv V nbrs pn ll F S comps i (v :: rest)) (hv : pn v ≠ 0) {u : Nat}
    (hs : u ∈ S) (hle : pn u ≤ pn v) : pn u < pn v :=
  Nat.lt_of_le_of_ne hle fun e => h.top_not_S (h.inj v u hv e.symm ▸ hs)

theorem AInv.nonroot_witness (h : AInv V nbrs pn ll F S comps i (v :: rest)) (hv : pn v ≠ 0)
    (hall : ∀ w ∈ nbrs v, pn w ≠ 0) (L : Nat) (L1 : L ≤ pn v)
    (L4 : L = pn v ∨ (∃ w ∈ nbrs v, w ∉ F ∧ pn w ≤ pn v ∧ L = pn w) ∨
      (∃ w ∈ nbrs v, w ∉ F ∧ pn v < pn w ∧ L = ll w))
    (hne : L ≠ pn v) :
    ∃ x, (x ∈ rest ∨ x ∈ S) ∧ pn x ≠ 0 ∧ pn x = L ∧ pn x < pn v ∧ ReachR nbrs v x := by
  have hLlt : L < pn v := Nat.lt_of_le_of_ne L1 hne
  rcases L4 with e | ⟨w, hw, hwF, -, e⟩ | ⟨w, hw, hwF, hlt, e⟩
  · exact absurd e hne
  · have hw0 := hall w hw
    have hwlt : pn w < pn v := e ▸ hLlt
    refine ⟨w, ?_, hw0, e.symm, hwlt, ReachR.single hw⟩
    rcases h.part w hw0 with hf | hs | hq
    · exact absurd hf hwF
    · exact Or.inr hs
    · exact Or.inl (mem_rest_of_lt hq hwlt)
  · obtain ⟨x, hxm, h1, h2, -, h4⟩ := h.sLow w (h.gt_in_S hv (hall w hw) hwF hlt)
    have hxL : pn x = L := h2.trans e.symm
    have hxlt : pn x < pn v := hxL ▸ hLlt
    exact ⟨x, hxm.imp_left (mem_rest_of_lt · hxlt), h1, hxL, hxlt, ReachR.head hw h4⟩

/-- the top `v` is finished and is not a root: it moves to `S` with low-link `L`.  `L` is what the fold over the
    successors computed: at most `pn v` (`L1`), below every candidate (`L2` successors numbered up to `v`, `L3` the
    low-links of those numbered after it), equal to one of them (`L4`), and not `pn v` (`hne`). -/
theorem AInv.popNR (h : AInv V nbrs pn ll F S comps i (v :: rest)) (hv : pn v ≠ 0)
    (hall : ∀ w ∈ nbrs v, pn w ≠ 0) (L : Nat) (L1 : L ≤ pn v)
    (L2 : ∀ w ∈ nbrs v, w ∉ F → pn w ≤ pn v → L ≤ pn w)
    (L3 : ∀ w ∈ nbrs v, w ∉ F → pn v < pn w → L ≤ ll w)
    (L4 : L = pn v ∨ (∃ w ∈ nbrs v, w ∉ F ∧ pn w ≤ pn v ∧ L = pn w) ∨
      (∃ w ∈ nbrs v, w ∉ F ∧ pn v < pn w ∧ L = ll w))
    (hne : L ≠ pn v) :
    AInv V nbrs pn (Function.update ll v L) F (S ++ [v]) comps i rest := by
  obtain ⟨x0, hx0m, hx00, hx0L, hx0lt, hx0r⟩ := h.nonroot_witness hv hall L L1 L4 hne
  have hvS : v ∉ S := h.top_not_S
  have hllS : ∀ u ∈ S, Function.update ll v L u = ll u := fun u hu => Function.update_of_ne (fun e : u = v => hvS (e ▸ hu)) _ _
  have hllv : Function.update ll v L v = L := Function.update_self _ _ _
  have hvSv : v ∈ S ++ [v] := List.mem_append_right _ (List.mem_singleton_self v)
  exact { h with
    toQInv := h.toQInv.tail
    part := fun x hx => (h.part x hx).imp_right fun hsq => by
      rcases hsq with hs | hq
      · exact Or.inl (List.mem_append_left _ hs)
      · rcases List.mem_cons.1 hq with rfl | hq
        · exact Or.inl hvSv
        · exact Or.inr hq
    sVis := forall_mem_snoc h.sVis hv
    fs := fun x hx hs => (List.mem_append.1 hs).elim (h.fs x hx)
      fun hs => h.top_not_F (List.mem_singleton.1 hs ▸ hx)
    fq := fun x hx hq => h.fq x hx (List.mem_cons_of_mem _ hq)
    sq := forall_mem_snoc (fun x hs hq => h.sq x hs (List.mem_cons_of_mem _ hq)) h.top_not_rest
    sNbrVis := forall_mem_snoc h.sNbrVis hall
    sLow := forall_mem_snoc
      (fun u hs => by
        obtain ⟨x, hx, h1, h2, h3, h4⟩ := h.sLow u hs
        refine ⟨x, ?_, h1, (hllS u hs).symm ▸ h2, h3, h4⟩
        rcases hx with hq | hx
        · rcases List.mem_cons.1 hq with rfl | hq
          · exact Or.inr hvSv
          · exact Or.inl hq
        · exact Or.inr (List.mem_append_left _ hx))
      ⟨x0, hx0m.imp_right (List.mem_append_left _), hx00, hllv.symm ▸ hx0L, hx0lt, hx0r⟩
    qToS := forall_mem_snoc (fun u hs q hq => h.qToS u hs q (List.mem_cons_of_mem _ hq))
      fun q hq _ _ => h.rest_reach q hq
    sEdge := forall_mem_snoc (fun u hs w hw hwF hle => (hllS u hs).symm ▸ h.sEdge u hs w hw hwF hle)
      fun w hw hwF hle => hllv.symm ▸ L2 w hw hwF hle
    sLL := by
      intro u hu q hq hq0 hlt hanc
      -- `v'` is the new top; for `u` numbered after `v` the nearest stack node is now `v'` and its child is `v`
      -- itself, whose low-link `L` is below that of the old witness (`L3`)
      cases rest with
      | nil => cases hq
      | cons v' r =>
        have hv'0 : pn v' ≠ 0 := h.rest_vis v' List.mem_cons_self
        have hv'lt : pn v' < pn v := h.rest_lt hv v' List.mem_cons_self
        have hvv' : v ∈ nbrs v' := h.qChain.1
        have hqtop : pn v ≤ pn u → q = v' := by
          intro hle
          rcases hanc v' List.mem_cons_self hv'0 with h1 | h1
          · rcases List.mem_cons.1 hq with e | hq'
            · exact e
            · exact absurd (h.toQInv.tail.rest_lt hv'0 q hq') (Nat.not_lt.2 h1)
          · exact absurd (Nat.lt_trans (Nat.lt_of_lt_of_le hv'lt hle) h1) (Nat.lt_irrefl _)
        revert u
        refine forall_mem_snoc (fun u hs hlt hanc hqtop => ?_) (fun hlt hanc hqtop => ?_)
        · have hune : u ≠ v := fun e => hvS (e ▸ hs)
          by_cases hcmp : pn u < pn v
          · obtain ⟨c, hc, hcS, h1, h2, h3⟩ := h.sLL u hs q (List.mem_cons_of_mem _ hq) hq0 hlt (by
              intro q' hq' hq'0
              rcases List.mem_cons.1 hq' with rfl | hq'
              · exact Or.inr hcmp
              · exact hanc q' hq' hq'0)
            exact ⟨c, hc, List.mem_append_left _ hcS, h1, h2, by rw [hllS c hcS, hllS u hs]; exact h3⟩
          · have hgt : pn v < pn u :=
              Nat.lt_of_le_of_ne (Nat.not_lt.1 hcmp) fun e => hune (h.inj v u hv e).symm
            obtain ⟨c, hc, hcS, h1, h2, h3⟩ := h.sLL u hs v List.mem_cons_self hv hgt
              fun q' hq' _ => Or.inl (h.q_le hv q' hq')
            have hqe := hqtop (Nat.le_of_lt hgt)
            subst hqe
            refine ⟨v, hvv', hvSv, hv'lt, Nat.le_of_lt hgt, ?_⟩
            rw [hllv, hllS u hs]
            exact Nat.le_trans (L3 c hc (fun hf => h.fs c hf hcS) h1) h3
        · have hqe := hqtop (Nat.le_refl _)
          subst hqe
          exact ⟨v, hvv', hvSv, hv'lt, Nat.le_refl _, Nat.le_refl _⟩
    sSuffix := List.pairwise_append.2
      ⟨h.sSuffix.imp fun hab q hq => hab q (List.mem_cons_of_mem _ hq), List.pairwise_singleton _ _,
        fun a _ b hb q hq _ _ => List.mem_singleton.1 hb ▸ h.rest_lt hv q hq⟩ }

/-- **the root case**: the fold returned `pn v` itself (`R2`, `R3`: no candidate is smaller).  `S'` is what stays on
    the scc stack, `C` the popped set with `v`, `F'` the new found set, `llv` the low-link stored for `v`; `C` is
    exactly the strongly connected class of `v`. -/
theorem AInv.popR (h : AInv V nbrs pn ll F S comps i (v :: rest)) (hv : pn v ≠ 0)
    (hall : ∀ w ∈ nbrs v, pn w ≠ 0)
    (R2 : ∀ w ∈ nbrs v, w ∉ F → pn w ≤ pn v → pn v ≤ pn w)
    (R3 : ∀ w ∈ nbrs v, w ∉ F → pn v < pn w → pn v ≤ ll w)
    (llv : Nat) (S' C F' : List Nat)
    (hS' : ∀ x, x ∈ S' ↔ x ∈ S ∧ pn x ≤ pn v) (hsub : S'.Sublist S)
    (hC : ∀ x, x ∈ C ↔ x = v ∨ (x ∈ S ∧ pn v < pn x)) (hCnd : C.Nodup)
    (hF' : ∀ x, x ∈ F' ↔ x ∈ F ∨ x ∈ C) :
    AInv V nbrs pn (Function.update ll v llv) F' S' (comps ++ [C]) i rest := by
  have hvS : v ∉ S := h.top_not_S
  have hvF : v ∉ F := h.top_not_F
  have hllS : ∀ u ∈ S, Function.update ll v llv u = ll u := fun u hu => Function.update_of_ne (fun e : u = v => hvS (e ▸ hu)) _ _
  have hS'lt : ∀ u ∈ S', u ∈ S ∧ pn u < pn v := fun u hu =>
    have ⟨hs, hle⟩ := (hS' u).1 hu
    ⟨hs, h.lt_of_mem_S hv hs hle⟩
  -- a property of `v` and of the nodes of `S` numbered after it holds on `C`; with `F`, on `F'`
  have onC : ∀ {P : Nat → Prop}, P v → (∀ x ∈ S, pn v < pn x → P x) → ∀ x ∈ C, P x := fun pv ps x hx =>
    ((hC x).1 hx).elim (fun e => e ▸ pv) fun hs => ps x hs.1 hs.2
  have onF' : ∀ {P : Nat → Prop}, (∀ x ∈ F, P x) → P v → (∀ x ∈ S, pn v < pn x → P x) → ∀ x ∈ F', P x :=
    fun pf pv ps x hx => ((hF' x).1 hx).elim (pf x) (onC pv ps x)
  have hCF : ∀ x ∈ C, x ∉ F := onC hvF fun x hs _ hf => h.fs x hf hs
  have hvC : v ∈ C := (hC v).2 (Or.inl rfl)
  -- every node of C is mutually reachable with v
  have hCsc : ∀ x ∈ C, SC nbrs v x := onC (SC.refl _ _) fun x hs hlt => by
    refine ⟨h.qToS x hs v List.mem_cons_self hv hlt, ?_⟩
    obtain ⟨q, hq, _, g3⟩ := h.sToQ x hs
    rcases List.mem_cons.1 hq with rfl | hq
    · exact g3
    · exact ReachR.trans g3 (h.rest_reach q hq)
  -- low-links of the popped nodes are at least pn v
  have hDll : ∀ u ∈ S, pn v < pn u → pn v ≤ ll u := by
    intro u hs hlt
    obtain ⟨c, hc, hcS, h1, _, h3⟩ := h.sLL u hs v List.mem_cons_self hv hlt (by
      intro q' hq' _
      exact Or.inl (h.q_le hv q' hq'))
    exact Nat.le_trans (R3 c hc (fun hf => h.fs c hf hcS) h1) h3
  -- F ∪ C is closed under successors
  have hclosed : ∀ x, (x ∈ F ∨ x ∈ C) → ∀ w ∈ nbrs x, (w ∈ F ∨ w ∈ C) := by
    intro x hx w hw
    by_cases hwF : w ∈ F
    · exact Or.inl hwF
    right
    rcases hx with hf | hc
    · exact absurd (h.fClosed x hf w hw) hwF
    · have key : pn w ≠ 0 → pn v ≤ pn w → w ∈ C := by
        intro hw0 hle
        rcases Nat.eq_or_lt_of_le hle with e | g
        · exact h.inj v w hv e ▸ hvC
        · exact (hC w).2 (Or.inr ⟨h.gt_in_S hv hw0 hwF g, g⟩)
      rcases (hC x).1 hc with rfl | ⟨hs, hlt⟩
      · have hw0 := hall w hw
        rcases Nat.lt_or_ge (pn x) (pn w) with g | g
        · exact key hw0 (Nat.le_of_lt g)
        · exact key hw0 (R2 w hw hwF g)
      · have hw0 := h.sNbrVis x hs w hw
        rcases Nat.lt_or_ge (pn x) (pn w) with g | g
        · exact key hw0 (Nat.le_of_lt (Nat.lt_trans hlt g))
        · exact key hw0 (Nat.le_trans (hDll x hs hlt) (h.sEdge x hs w hw hwF g))
  -- hence the class of v is inside C
  have hclass : ∀ y, SC nbrs v y → y ∈ C := by
    intro y hy
    have : y ∈ F ∨ y ∈ C :=
      ReachR.closed (P := fun z => z ∈ F ∨ z ∈ C) (fun a b ha hb => hclosed a ha b hb) (Or.inr hvC) hy.1
    rcases this with hf | hc
    · exfalso
      obtain ⟨c, hcm, hyc⟩ := List.mem_flatMap.1 ((h.compsF y).1 hf)
      have hvc : v ∈ c := (h.compsClass c hcm y hyc v).2 hy.symm
      exact hvF ((h.compsF v).2 (List.mem_flatMap.2 ⟨c, hcm, hvc⟩))
    · exact hc
  have hflat : (comps ++ [C]).flatMap id = comps.flatMap id ++ C := by
    simp only [List.flatMap_append, List.flatMap_cons, List.flatMap_nil, List.append_nil, id]
  exact { h with
    toQInv := h.toQInv.tail
    part := by
      intro x hx
      rcases h.part x hx with hf | hs | hq
      · exact Or.inl ((hF' x).2 (Or.inl hf))
      · rcases Nat.lt_or_ge (pn v) (pn x) with g | g
        · exact Or.inl ((hF' x).2 (Or.inr ((hC x).2 (Or.inr ⟨hs, g⟩))))
        · exact Or.inr (Or.inl ((hS' x).2 ⟨hs, g⟩))
      · rcases List.mem_cons.1 hq with rfl | hq
        · exact Or.inl ((hF' _).2 (Or.inr hvC))
        · exact Or.inr (Or.inr hq)
    fVis := onF' h.fVis hv fun x hs _ => h.sVis x hs
    sVis := fun x hx => h.sVis x ((hS' x).1 hx).1
    fs := onF' (fun x hf hs => h.fs x hf (hS'lt x hs).1) (fun hs => hvS (hS'lt v hs).1)
      fun x _ hgt hs => Nat.lt_asymm (hS'lt x hs).2 hgt
    fq := onF' (fun x hf hq => h.fq x hf (List.mem_cons_of_mem _ hq)) h.top_not_rest
      fun x hs _ hq => h.sq x hs (List.mem_cons_of_mem _ hq)
    sq := fun x hx hq => h.sq x ((hS' x).1 hx).1 (List.mem_cons_of_mem _ hq)
    fClosed := fun x hx w hw => (hF' w).2 (hclosed x ((hF' x).1 hx) w hw)
    compsF := by
      intro x
      rw [hflat, List.mem_append, hF' x, h.compsF x]
    compsNodup := by
      rw [hflat, List.nodup_append]
      refine ⟨h.compsNodup, hCnd, ?_⟩
      intro a ha b hb hab
      subst hab
      exact hCF a hb ((h.compsF a).2 ha)
    compsNe := forall_mem_snoc h.compsNe (List.ne_nil_of_mem hvC)
    compsClass := forall_mem_snoc h.compsClass fun x hx y =>
      ⟨fun hy => SC.trans (hCsc x hx).symm (hCsc y hy), fun hxy => hclass y (SC.trans (hCsc x hx) hxy)⟩
    sNbrVis := fun u hu => h.sNbrVis u ((hS' u).1 hu).1
    sLow := by
      intro u hu
      obtain ⟨hs, hlt⟩ := hS'lt u hu
      obtain ⟨x, hx, h1, h2, h3, h4⟩ := h.sLow u hs
      refine ⟨x, ?_, h1, by rw [hllS u hs]; exact h2, h3, h4⟩
      rcases hx with hq | hx
      · rcases List.mem_cons.1 hq with rfl | hq
        · exact absurd h3 (Nat.lt_asymm hlt)
        · exact Or.inl hq
      · exact Or.inr ((hS' x).2 ⟨hx, Nat.le_of_lt (Nat.lt_trans h3 hlt)⟩)
    qToS := fun u hu q hq hq0 hlt => h.qToS u ((hS' u).1 hu).1 q (List.mem_cons_of_mem _ hq) hq0 hlt
    sEdge := by
      intro u hu w hw hwF hle
      obtain ⟨hs, _⟩ := hS'lt u hu
      rw [hllS u hs]
      exact h.sEdge u hs w hw (fun hf => hwF ((hF' w).2 (Or.inl hf))) hle
    sLL := by
      intro u hu q hq hq0 hlt hanc
      obtain ⟨hs, hult⟩ := hS'lt u hu
      obtain ⟨c, hc, hcS, h1, h2, h3⟩ := h.sLL u hs q (List.mem_cons_of_mem _ hq) hq0 hlt (by
        intro q' hq' hq'0
        rcases List.mem_cons.1 hq' with rfl | hq'
        · exact Or.inr hult
        · exact hanc q' hq' hq'0)
      exact ⟨c, hc, (hS' c).2 ⟨hcS, Nat.le_of_lt (Nat.lt_of_le_of_lt h2 hult)⟩, h1, h2,
        by rw [hllS c hcS, hllS u hs]; exact h3⟩
    sSuffix := (h.sSuffix.sublist hsub).imp fun hab q hq => hab q (List.mem_cons_of_mem _ hq) }

end pop

end Scc
end Graphrs
