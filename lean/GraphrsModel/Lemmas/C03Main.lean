/-
  The edge-store side of `add_edge` (what happens to the minimum stored weight of every pair) and what the whole
  call does to the traversal part of the invariant, for directed and for undirected graphs, at the level of components.
-/
import GraphrsModel.Lemmas.C03Edge
namespace Graphrs
namespace C03
open Store

/-- the new `edges` map, as a function of the old one: `newList` filed under the key -/
def newEdges (sp : Specs) (E : EMap) (o : Edge) (key : Nat × Nat) : EMap :=
  match newList sp (alookup E key) o with
  | some L => ainsert E key L
  | none => E

theorem alookup_newEdges_ne (sp : Specs) (E : EMap) (o : Edge) (key k : Nat × Nat)
    (hk : k ≠ key) : alookup (newEdges sp E o key) k = alookup E k := by
  unfold newEdges
  cases newList sp (alookup E key) o with
  | none => rfl
  | some L => exact (AL.lookup_insert E key k L).trans (if_neg fun e => hk e.symm)

theorem alookup_newEdges_self (sp : Specs) (E : EMap) (o : Edge) (key : Nat × Nat) :
    alookup (newEdges sp E o key) key =
      match alookup E key with
      | none => some [o]
      | some l => if sp.multi then some (l ++ [o]) else if sp.dedupe == .keepLast then some [o] else some l := by
  have hi : ∀ l, alookup (ainsert E key l) key = some l := fun l =>
    (AL.lookup_insert E key key l).trans (if_pos rfl)
  unfold newEdges newList
  cases hl : alookup E key with
  | none =>
    cases sp.multi
    · exact hi _
    · exact hi _
  | some l =>
    cases sp.multi
    · cases (sp.dedupe == Dedupe.keepLast)
      · exact hl
      · exact hi _
    · exact hi _

theorem updOf_false (sp : Specs) : updOf false sp = .push := rfl

theorem updOf_true_multi (sp : Specs) (h : sp.multi = true) : updOf true sp = .keepMin := by
  unfold updOf; rw [h]

theorem updOf_true_single (sp : Specs) (h : sp.multi = false) :
    updOf true sp = if sp.dedupe == .keepLast then .overwrite else .untouched := by
  unfold updOf; rw [h]

theorem updOf_keepMin (a : Bool) (sp : Specs) (h : updOf a sp = .keepMin) : a = true := by
  cases a
  · cases h
  · rfl

theorem updOf_push (a : Bool) (sp : Specs) (h : updOf a sp = .push) : a = false := by
  cases a
  · rfl
  · cases hm : sp.multi
    · rw [updOf_true_single _ hm] at h
      split at h <;> cases h
    · rw [updOf_true_multi _ hm] at h; cases h

theorem eff_updOf_isSome (a : Bool) (sp : Specs) (w : W) (m : Option W) (h : m.isSome = a) :
    (eff (updOf a sp) w m).isSome = true := by
  rw [eff_isSome, h]
  cases a
  · rfl
  · rfl

theorem fS_none_of_push {sp : Specs} {E : EMap} {dir : Bool} {x y : Nat}
    (h : updOf (alookup E (nameKey dir x y)).isSome sp = .push) : fS E dir x y = none := by
  have := updOf_push _ _ h
  unfold fS wbC
  cases hl : alookup E (nameKey dir x y) with
  | none => rfl
  | some l => rw [hl] at this; cases this

theorem fS_new (sp : Specs) (E : EMap) (dir : Bool) (o : Edge) (key : Nat × Nat)
    (hne : ∀ k l, alookup E k = some l → l ≠ []) (x y : Nat) :
    fS (newEdges sp E o key) dir x y =
      if nameKey dir x y = key then eff (updOf (alookup E key).isSome sp) o.w (fS E dir x y)
      else fS E dir x y := by
  by_cases hk : nameKey dir x y = key
  · rw [if_pos hk]
    unfold fS wbC
    rw [hk, alookup_newEdges_self]
    cases hold : alookup E key with
    | none => rfl
    | some l =>
      obtain ⟨a, t, rfl⟩ : ∃ a t, l = a :: t := by
        cases l with
        | nil => exact absurd rfl (hne _ _ hold)
        | cons a t => exact ⟨a, t, rfl⟩
      cases hm : sp.multi with
      | true =>
        rw [Option.isSome_some, updOf_true_multi _ hm]
        show Abs.minW (((a :: t) ++ [o]).map (·.w)) = _
        rw [List.map_append]
        exact minW_append_single _ _
      | false =>
        rw [Option.isSome_some, updOf_true_single _ hm]
        cases (sp.dedupe == Dedupe.keepLast) <;> rfl
  · rw [if_neg hk]
    unfold fS wbC
    rw [alookup_newEdges_ne _ _ _ _ _ hk]

theorem fS_new_isSome (sp : Specs) (E : EMap) (dir : Bool) (o : Edge) (key : Nat × Nat)
    (hne : ∀ k l, alookup E k = some l → l ≠ []) (x y : Nat) :
    (fS (newEdges sp E o key) dir x y).isSome =
      ((fS E dir x y).isSome || decide (nameKey dir x y = key)) := by
  rw [fS_new sp E dir o key hne]
  by_cases hk : nameKey dir x y = key
  · rw [if_pos hk, decide_eq_true hk, Bool.or_true]
    apply eff_updOf_isSome
    rw [fS_isSome _ _ _ _ hne, hk]
  · rw [if_neg hk, decide_eq_false hk, Bool.or_false]

theorem fS_symm (E : EMap) (x y : Nat) : fS E false x y = fS E false y x := by
  unfold fS wbC; rw [nameKey_symm]

theorem fP_true (E : EMap) (x y : Nat) : fP E true x y = fS E true y x := rfl

theorem decide_nameKey_true (x y a b : Nat) :
    decide (nameKey true x y = (a, b)) = (x == a && y == b) := by
  rw [Bool.eq_iff_iff]
  simp only [nameKey_true, decide_eq_true_eq, Prod.mk.injEq, Bool.and_eq_true, beq_iff_eq]

theorem decide_nameKey_false (x y a b : Nat) :
    decide (nameKey false x y = nameKey false a b) = ((x == a && y == b) || (x == b && y == a)) := by
  rw [Bool.eq_iff_iff]
  simp only [decide_eq_true_eq, nameKey_eq_iff, true_and, Bool.or_eq_true, Bool.and_eq_true, beq_iff_eq]

/-- on a directed graph both `add_to_adjacency_vec` calls of `add_edge` succeed (row `ui` of `successors_vec`, row `vi` of
    `predecessors_vec`), and the new rows and sets satisfy the traversal part of the invariant for the updated edge store -/
theorem main_dir {dir : Bool} (hd : dir = true) {names : List Nat} {nm : List (Nat × Nat)} {E EM : EMap}
    {sv : AVec} {sm : SMap} {pv : AVec} {pm : SMap} (h : PreC names nm E EM dir sv sm pv pm)
    {ui vi xu xv : Nat} (hxu : names[ui]? = some xu) (hxv : names[vi]? = some xv)
    (sp : Specs) (o : Edge) :
    ∃ sv1 pv1,
      adjUpdate sv ui vi o.w (updOf (alookup E (nameKey dir xu xv)).isSome sp) = some sv1 ∧
      adjUpdate pv vi ui o.w (updOf (alookup E (nameKey dir xu xv)).isSome sp) = some pv1 ∧
      PreVC names (newEdges sp E o (nameKey dir xu xv)) dir sv1 (amodify sm ui [] (sinsert · vi))
        pv1 (amodify pm vi [] (sinsert · ui)) := by
  subst hd
  rw [nameKey_true]
  have hne : ∀ k l, alookup E k = some l → l ≠ [] := fun k l hl => (h.ebE k l hl).2.2
  have hnew : ∀ x y, fS (newEdges sp E o (xu, xv)) true x y =
      if x = xu ∧ y = xv then eff (updOf (alookup E (xu, xv)).isSome sp) o.w (fS E true x y)
      else fS E true x y := by
    intro x y
    rw [fS_new sp E true o (xu, xv) hne x y, nameKey_true]
    simp only [Prod.mk.injEq]
  have hk : updOf (alookup E (xu, xv)).isSome sp = .keepMin → (fS E true xu xv).isSome = true := by
    intro hu
    rw [fS_isSome _ _ _ _ hne]
    exact updOf_keepMin _ _ hu
  have hnewS : ∀ x y, (fS (newEdges sp E o (xu, xv)) true x y).isSome =
      ((fS E true x y).isSome || (x == xu && y == xv)) := by
    intro x y
    rw [fS_new_isSome sp E true o (xu, xv) hne, decide_nameKey_true]
  obtain ⟨sv1, hsv1, hV1⟩ := h.vS.update h.nodup hxu hxv o.w _ hk _ hnew
  obtain ⟨pv1, hpv1, hP1⟩ := h.vP.update h.nodup hxv hxu o.w _ hk (fP (newEdges sp E o (xu, xv)) true)
    (fun x y => by
      rw [fP_true, fP_true, hnew y x]
      simp only [and_comm])
  exact ⟨sv1, pv1, hsv1, hpv1, hV1, h.sS.update h.nodup hxu hxv _ hnewS, hP1,
    h.sP.update h.nodup hxv hxu _ (fun x y => by rw [fP_true, fP_true, hnewS y x, Bool.and_comm])⟩

/-- on an undirected graph the two calls on `successors_vec` (canonical pair `(ou, ov)`, then its mirror image) succeed,
    and the result satisfies the traversal part of the invariant for the updated edge store; the predecessor side stays
    empty -/
theorem main_undir {dir : Bool} (hd : dir = false) {names : List Nat} {nm : List (Nat × Nat)} {E EM : EMap}
    {sv : AVec} {sm : SMap} {pv : AVec} {pm : SMap} (h : PreC names nm E EM dir sv sm pv pm)
    {ui vi ou ov xu xv x0 y0 : Nat} (hxu : names[ui]? = some xu) (hxv : names[vi]? = some xv)
    (hou : names[ou]? = some x0) (hov : names[ov]? = some y0)
    (hxy : (x0 = xu ∧ y0 = xv) ∨ (x0 = xv ∧ y0 = xu)) (sp : Specs) (o : Edge) :
    ∃ sv1 sv2,
      adjUpdate sv ou ov o.w (updOf (alookup E (nameKey dir xu xv)).isSome sp) = some sv1 ∧
      adjUpdate sv1 ov ou o.w (updOf (alookup E (nameKey dir xu xv)).isSome sp) = some sv2 ∧
      PreVC names (newEdges sp E o (nameKey dir xu xv)) dir sv2
        (amodify (amodify sm ui [] (sinsert · vi)) vi [] (sinsert · ui)) pv pm := by
  subst hd
  have hne : ∀ k l, alookup E k = some l → l ≠ [] := fun k l hl => (h.ebE k l hl).2.2
  have hkey : nameKey false xu xv = nameKey false x0 y0 := by
    rcases hxy with ⟨rfl, rfl⟩ | ⟨rfl, rfl⟩
    · rfl
    · exact nameKey_symm _ _
  have hnew : ∀ x y, fS (newEdges sp E o (nameKey false xu xv)) false x y =
      if (x = x0 ∧ y = y0) ∨ (x = y0 ∧ y = x0) then
        eff (updOf (alookup E (nameKey false xu xv)).isSome sp) o.w (fS E false x y)
      else fS E false x y := by
    intro x y
    rw [fS_new sp E false o _ hne x y]
    simp only [hkey, nameKey_eq_iff, true_and]
  obtain ⟨sv1, sv2, h1, h2, hV⟩ := h.vS.update_pair h.nodup hou hov o.w _ (fS_symm E y0 x0)
    (fun hu => by rw [fS_isSome _ _ _ _ hne, ← hkey]; exact updOf_keepMin _ _ hu)
    (fun hu => fS_none_of_push (hkey ▸ hu)) _ hnew
  refine ⟨sv1, sv2, h1, h2, hV, ?_, h.vP.congr (fun _ _ => rfl), h.sP.congr (fun _ _ => rfl)⟩
  refine (h.sS.update h.nodup hxu hxv _ (fun _ _ => rfl)).update h.nodup hxv hxu _ ?_
  intro x y
  rw [fS_new_isSome sp E false o _ hne, decide_nameKey_false, Bool.or_assoc]

end C03
end Graphrs
