/-
  The weighted single-source stage of closeness.rs: `ccWeighted` runs the Dijkstra loop of betweenness.rs
  (`bcDijkstraLoop`) and reads the distances off `D`.  Exactness is the distance part of the invariant of that loop
  (Lemmas/BcDijkstra.lean, `Bc.dijkstra_dist`); non-negative costs suffice.  Namespace `C06D`: closeness, Dijkstra stage.
-/
import GraphrsModel.Lemmas.BcDijkstra
import GraphrsModel.Lemmas.DijkstraBasic
namespace Graphrs
namespace C06D

theorem loop_zero (adjOf : Nat → List Adj) (st : BState) : bcDijkstraLoop adjOf 0 st = st := by
  rw [bcDijkstraLoop]

theorem mem_collect (D : List (Option Int)) (v : Nat) (d : Int) :
    (v, d) ∈ (D.zipIdx.filterMap fun p => p.1.map fun d => (p.2, d)) ↔ lk D v = some d := by
  rw [List.mem_filterMap]
  constructor
  · rintro ⟨⟨o, idx⟩, hm, he⟩
    rw [List.mem_zipIdx_iff_getElem?] at hm
    simp only at hm he
    cases o with
    | none => simp at he
    | some d' =>
      simp only [Option.map_some, Option.some.injEq, Prod.mk.injEq] at he
      obtain ⟨e1, e2⟩ := he
      subst e1 e2
      simp [lk, hm]
  · intro hd
    refine ⟨(some d, v), ?_, by simp⟩
    rw [List.mem_zipIdx_iff_getElem?]
    simp only
    unfold lk at hd
    cases h : D[v]? with
    | none => rw [h] at hd; simp at hd
    | some o => rw [h] at hd; simp at hd; rw [hd]

theorem collect_keys_sublist (l : List (Option Int × Nat)) :
    ((l.filterMap fun p => p.1.map fun d => (p.2, d)).map (·.1)).Sublist (l.map (·.2)) := by
  induction l with
  | nil => simp
  | cons p l ih =>
    obtain ⟨o, i⟩ := p
    cases o with
    | none => simpa using ih.cons i
    | some d => simpa using ih.cons_cons i

theorem collect_nodup (D : List (Option Int)) :
    ((D.zipIdx.filterMap fun p => p.1.map fun d => (p.2, d)).map (·.1)).Nodup := by
  refine (collect_keys_sublist D.zipIdx).nodup ?_
  rw [List.zipIdx_map_snd]
  exact List.nodup_range'

/-- **exactness of `ccWeighted`** over any arc list that lists exactly the entries of the traversal lists -/
theorem ccWeighted_exact {A : Arcs} {adjOf : Nat → List Adj} {n total src : Nat} (hA : ArcsWf A n)
    (hsub : ∀ v x w, (v, x, w) ∈ A → (v, x, w) ∈ rowArcs true v (adjOf v))
    (hsup : ∀ v, v < n → ∀ a ∈ rowArcs true v (adjOf v), a ∈ A)
    (hwt : ∀ v, v < n → ∀ a ∈ adjOf v, ∃ c, a.2 = some c)
    (hsrc : src < n) (htotal : sumNat ((List.range n).map fun v => (adjOf v).length) ≤ total) :
    ((ccWeighted adjOf n total src).map (·.1)).Nodup ∧
      ∀ v d, (v, d) ∈ ccWeighted adjOf n total src ↔ IsDist A src v d := by
  unfold ccWeighted
  refine ⟨collect_nodup _, fun v d => ?_⟩
  have hAi : ∀ u, u < n → ∀ a ∈ adjOf u, (u, a.1, Bc.djCost a) ∈ A := by
    intro u hu a ha
    obtain ⟨c, hc⟩ := hwt u hu a ha
    refine hsup u hu _ (mem_rowArcs_true.2 ⟨rfl, ?_⟩)
    rw [Bc.djCost, hc]
    exact (show a = (a.1, some c) from Prod.ext rfl hc) ▸ ha
  rw [mem_collect]
  refine Bc.dijkstra_dist (fun u w c h => ⟨(w, some c), (mem_rowArcs_true.1 (hsub u w c h)).2, rfl, rfl⟩) hAi
    (fun a ha => (hA a ha).2) hsrc (fun u hu a ha => (hA _ (hAi u hu a ha)).1) total ?_ v d
  rw [Bc.pendN_replicate, List.sum_eq_foldl]
  exact htotal

end C06D
end Graphrs
