/-
  Level-synchronous breadth-first search as a pure function (`C10M.lvBfs`), what one level of it computes, and the
  two search loops of the model (`bfsLevels`, `bfsLevelsOrdered`) as instances of it.  Reachability is not mentioned
  here; Props/C10.lean proves the search correct.  Namespace `C10M`: helper lemmas of the model-level C10 theorems.
-/
import GraphrsModel.Lemmas.ListSet
import GraphrsModel.Lemmas.Outcome
import GraphrsModel.Model.Query
namespace Graphrs
namespace C10M

def lvStep (emit : Nat → List Nat) (grow : List Nat → Nat → List Nat) (st : List Nat × List Nat × List Nat)
    (v : Nat) : List Nat × List Nat × List Nat :=
  if st.1.contains v then st else (sinsert st.1 v, st.2.1 ++ emit v, grow st.2.2 v)

/-- `emit v` is what a node seen for the first time adds to the output, `grow` adds its neighbours to the next level,
    `pre` arranges a level before it is visited -/
def lvBfs (emit : Nat → List Nat) (grow : List Nat → Nat → List Nat) (pre : List Nat → List Nat) :
    Nat → List Nat → List Nat → List Nat → List Nat
  | 0, _, _, out => out
  | fuel + 1, level, seen, out =>
    if level.isEmpty then out
    else
      let r := (pre level).foldl (lvStep emit grow) (seen, out, [])
      lvBfs emit grow pre fuel r.2.2 r.1 r.2.1

theorem lvLevel_spec (emit : Nat → List Nat) (grow : List Nat → Nat → List Nat) (nb : Nat → List Nat)
    (level : List Nat) (hgrow : ∀ v ∈ level, ∀ next y, y ∈ grow next v ↔ y ∈ next ∨ y ∈ nb v) :
    ∀ seen out next, ∃ ext next',
      level.foldl (lvStep emit grow) (seen, out, next) = (seen ++ ext, out ++ ext.flatMap emit, next') ∧
      (seen.Nodup → (seen ++ ext).Nodup) ∧ (∀ v ∈ ext, v ∈ level) ∧ (∀ v ∈ level, v ∈ seen ++ ext) ∧
      ∀ y, y ∈ next' ↔ y ∈ next ∨ ∃ v ∈ ext, y ∈ nb v := by
  induction level with
  | nil =>
    intro seen out next
    exact ⟨[], next, by simp, by simp, by simp, by simp, by simp⟩
  | cons v vs ih =>
    intro seen out next
    have hvs : ∀ w ∈ vs, ∀ next y, y ∈ grow next w ↔ y ∈ next ∨ y ∈ nb w :=
      fun w hw => hgrow w (List.mem_cons_of_mem _ hw)
    rw [List.foldl_cons]
    by_cases hc : v ∈ seen
    · have hst : lvStep emit grow (seen, out, next) v = (seen, out, next) :=
        if_pos (List.contains_iff_mem.mpr hc)
      obtain ⟨ext, next', hf, hnd, hsub, hcov, hnext⟩ := ih hvs seen out next
      refine ⟨ext, next', by rw [hst, hf], hnd, fun w hw => List.mem_cons_of_mem _ (hsub w hw), ?_, hnext⟩
      intro w hw
      rcases List.mem_cons.mp hw with rfl | hw
      · exact List.mem_append_left _ hc
      · exact hcov w hw
    · have hsi : sinsert seen v = seen ++ [v] := if_neg hc
      have hst : lvStep emit grow (seen, out, next) v = (seen ++ [v], out ++ emit v, grow next v) := by
        rw [← hsi]
        exact if_neg (fun h => hc (List.contains_iff_mem.mp h))
      obtain ⟨ext, next', hf, hnd, hsub, hcov, hnext⟩ := ih hvs (seen ++ [v]) (out ++ emit v) (grow next v)
      have happ : seen ++ [v] ++ ext = seen ++ v :: ext := List.append_cons seen v ext |>.symm
      refine ⟨v :: ext, next', ?_, ?_, ?_, ?_, ?_⟩
      · rw [hst, hf, happ, List.flatMap_cons, List.append_assoc]
      · intro h
        rw [← happ]
        exact hnd (hsi ▸ nodup_sinsert seen v h)
      · intro w hw
        rcases List.mem_cons.mp hw with rfl | hw
        · exact List.mem_cons_self
        · exact List.mem_cons_of_mem _ (hsub w hw)
      · intro w hw
        rw [← happ]
        rcases List.mem_cons.mp hw with rfl | hw
        · exact List.mem_append_left _ (List.mem_append_right _ List.mem_cons_self)
        · exact hcov w hw
      · intro y
        rw [hnext y, hgrow v List.mem_cons_self, or_assoc]
        simp only [List.mem_cons, or_and_right, exists_or, exists_eq_left]


theorem length_names_lt (s : Store) : s.getAllNodeNames.length < s.numNodes + 2 := by
  rw [Store.getAllNodeNames, List.length_map]
  exact Nat.lt_succ_of_lt (Nat.lt_succ_self _)

def nblOf (s : Store) (v : Nat) : List Nat :=
  match s.getSuccessorsOrNeighbors v with
  | .ok l => l.map (·.name)
  | _ => []

def growBy (nbl : Nat → List Nat) (next : List Nat) (v : Nat) : List Nat := sunion next (dedup (nbl v))

theorem mem_growBy (nbl : Nat → List Nat) (next : List Nat) (v y : Nat) :
    y ∈ growBy nbl next v ↔ y ∈ next ∨ y ∈ nbl v := by
  rw [growBy, sunion, mem_foldl_sinsert, mem_dedup]

/-- the lambda of the per-level fold of `bfsLevels` and `bfsLevelsOrdered` -/
def bfsStep (s : Store) :
    Outcome (List Nat × List Nat × List Nat) → Nat → Outcome (List Nat × List Nat × List Nat) :=
  fun (acc : Outcome (List Nat × List Nat × List Nat)) v => do
        let (seen, ret, next) ← acc
        if seen.contains v then .ok (seen, ret, next)
        else do
          let nb ← s.getSuccessorsOrNeighbors v
          .ok (sinsert seen v, ret ++ [v], sunion next (dedup (nb.map (·.name))))

/-- `L` is a search loop of the model: it runs the per-level fold on each level as arranged by `pre` -/
def IsBfsLoop (s : Store) (pre : List Nat → List Nat)
    (L : Nat → List Nat → List Nat → List Nat → Outcome (List Nat)) : Prop :=
  (∀ level seen ret, L 0 level seen ret = .ok ret) ∧
  ∀ fuel level seen ret, L (fuel + 1) level seen ret =
    if level.isEmpty then .ok ret
    else match (pre level).foldl (bfsStep s) (.ok (seen, ret, [])) with
      | .ok (seen, ret, next) => L fuel next seen ret
      | .err k => .err k
      | .panic site => .panic site

theorem isBfsLoop_bfsLevels (s : Store) : IsBfsLoop s id s.bfsLevels :=
  ⟨fun _ _ _ => rfl, fun fuel level seen ret => by rw [Store.bfsLevels]; rfl⟩

theorem isBfsLoop_bfsLevelsOrdered (s : Store) : IsBfsLoop s sortNat s.bfsLevelsOrdered :=
  ⟨fun _ _ _ => rfl, fun fuel level seen ret => by rw [Store.bfsLevelsOrdered]; rfl⟩

theorem bfsFold_ok (s : Store) (level : List Nat)
    (hl : ∀ v ∈ level, ∃ l, s.getSuccessorsOrNeighbors v = .ok l)
    (st : List Nat × List Nat × List Nat) :
    level.foldl (bfsStep s) (.ok st) = .ok (level.foldl (lvStep (fun v => [v]) (growBy (nblOf s))) st) := by
  refine Outcome.foldl_ok_pure _ _ level (fun st v hv => ?_) st
  obtain ⟨l, hv⟩ := hl v hv
  show (if st.1.contains v then Outcome.ok (st.1, st.2.1, st.2.2)
        else (s.getSuccessorsOrNeighbors v).bind fun nb =>
          .ok (sinsert st.1 v, st.2.1 ++ [v], sunion st.2.2 (dedup (nb.map (·.name))))) = _
  unfold lvStep growBy nblOf
  rw [hv]
  split <;> rfl

theorem bfsLoop_eq (s : Store) (pre : List Nat → List Nat) (hpre : ∀ l, ∀ y ∈ pre l, y ∈ l)
    (L : Nat → List Nat → List Nat → List Nat → Outcome (List Nat))
    (hL : IsBfsLoop s pre L)
    (hok : ∀ v ∈ s.getAllNodeNames, ∃ l, s.getSuccessorsOrNeighbors v = .ok l ∧
      ∀ z ∈ l.map (·.name), z ∈ s.getAllNodeNames) :
    ∀ (fuel : Nat) (level seen ret : List Nat), (∀ v ∈ level, v ∈ s.getAllNodeNames) →
      L fuel level seen ret = .ok (lvBfs (fun v => [v]) (growBy (nblOf s)) pre fuel level seen ret) := by
  have hnbl : ∀ v ∈ s.getAllNodeNames, ∀ z ∈ nblOf s v, z ∈ s.getAllNodeNames := by
    intro v hv z hz
    obtain ⟨l, hl, hcl⟩ := hok v hv
    rw [nblOf, hl] at hz
    exact hcl z hz
  intro fuel
  induction fuel with
  | zero => intro level seen ret _; rw [hL.1, lvBfs]
  | succ fuel ih =>
    intro level seen ret hlevel
    rw [hL.2, lvBfs]
    by_cases hemp : level.isEmpty = true
    · rw [if_pos hemp, if_pos hemp]
    · have hpl : ∀ v ∈ pre level, v ∈ s.getAllNodeNames := fun v hv => hlevel v (hpre level v hv)
      rw [if_neg hemp, if_neg hemp, bfsFold_ok s (pre level) fun v hv => (hok v (hpl v hv)).imp fun l h => h.1]
      obtain ⟨ext, next', hf, _, hsub, _, hnext⟩ :=
        lvLevel_spec (fun v => [v]) (growBy (nblOf s)) (nblOf s) (pre level)
          (fun v _ next y => mem_growBy (nblOf s) next v y) seen ret []
      simp only [hf]
      apply ih
      intro y hy
      obtain ⟨v, hv, hyv⟩ := ((hnext y).mp hy).resolve_left (List.not_mem_nil)
      exact hnbl v (hpl v (hsub v hv)) y hyv

end C10M
end Graphrs
