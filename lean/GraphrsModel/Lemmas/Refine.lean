/-
  Refinement of the abstract machine by `add_node` / `add_edge` (statements with `AbsEq` unfolded).
-/
import GraphrsModel.Lemmas.AddEdge
namespace Graphrs
namespace Store

/-- the abstract graph `a` is the graph held by `s`: same node list, and per key the same edge list -/
def Refines (s : Store) (a : Abs) : Prop :=
  a.nodes = s.nodesVec ∧ ∀ k : Nat × Nat, a.edges.filter (fun e => (e.u, e.v) == k) = (alookup s.edges k).getD []

theorem absEq_iff_refines {s : Store} (he : EdgesInv s) (a : Abs) :
    (s.abs.nodes = a.nodes ∧ ∀ k : Nat × Nat,
      s.abs.edges.filter (fun e => (e.u, e.v) == k) = a.edges.filter (fun e => (e.u, e.v) == k)) ↔ Refines s a := by
  unfold Refines
  simp only [Store.abs, allEdges_filter he]
  constructor
  · rintro ⟨h1, h2⟩; exact ⟨h1.symm, fun k => (h2 k).symm⟩
  · rintro ⟨h1, h2⟩; exact ⟨h1.symm, fun k => (h2 k).symm⟩

namespace Refines
variable {s : Store} {a : Abs}

theorem hasNode (h : Refines s a) (hn : NodesInv s) (x : Nat) : a.hasNode x = acontains s.nodesMap x := by
  rw [Bool.eq_iff_iff, hn.acontains_iff]
  simp [Abs.hasNode, h.1, names]

theorem mem_iff (h : Refines s a) (he : EdgesInv s) (e' : Edge) : e' ∈ a.edges ↔ e' ∈ s.allEdges := by
  have key : ∀ l : List Edge, e' ∈ l ↔ e' ∈ l.filter (fun e => (e.u, e.v) == (e'.u, e'.v)) := fun l =>
    ⟨fun hm => List.mem_filter.mpr ⟨hm, beq_self_eq_true _⟩, fun hm => (List.mem_filter.mp hm).1⟩
  rw [key a.edges, key s.allEdges, h.2, allEdges_filter he]

theorem dup_eq (h : Refines s a) (hn : NodesInv s) (he : EdgesInv s) {u v ui vi : Nat}
    (hu : alookup s.nodesMap u = some ui) (hv : alookup s.nodesMap v = some vi) :
    a.edges.any (fun e' => Abs.sameKey s.specs.directed e' u v) = (s.edgesByIdx ui vi).isSome := by
  rw [Bool.eq_iff_iff, edgesByIdx_eq, emap_eq_edges hn he hu hv, ← exists_sameKey_iff he, List.any_eq_true]
  constructor
  · rintro ⟨e', h1, h2⟩; exact ⟨e', (h.mem_iff he e').mp h1, h2⟩
  · rintro ⟨e', h1, h2⟩; exact ⟨e', (h.mem_iff he e').mpr h1, h2⟩

end Refines

theorem map_replace_eq_set {l : List Node} (hnd : (l.map (·.name)).Nodup) {i : Nat} (n : Node)
    (hi : (l.map (·.name))[i]? = some n.name) :
    l.map (fun m => if m.name == n.name then n else m) = l.set i n := by
  apply List.ext_getElem?
  intro j
  rw [List.getElem?_map, List.getElem?_set]
  have hlt : i < l.length := by simpa using getElem?_lt hi
  by_cases hij : i = j
  · subst hij
    simp only [List.getElem?_map, Option.map_eq_some_iff] at hi
    obtain ⟨m, hm, hmn⟩ := hi
    rw [hm]
    simp [hmn, hlt]
  · simp only [hij, if_false]
    cases hj : l[j]? with
    | none => rfl
    | some m =>
      simp only [Option.map_some]
      have : m.name ≠ n.name := by
        intro heq
        have hj' : (l.map (·.name))[j]? = some n.name := by simp [hj, heq]
        have hjl : j < l.length := getElem?_lt hj
        have := (List.getElem?_inj (by simpa using hlt) hnd).mp (hi.trans hj'.symm)
        exact hij this
      simp [this]

theorem addNode_refines' {s : Store} {a : Abs} (hn : NodesInv s) (h : Refines s a) (n : Node) :
    Refines (s.addNode n) (a.addNode n) := by
  unfold Abs.addNode
  rw [h.hasNode hn]
  cases hl : alookup s.nodesMap n.name with
  | some i =>
    have hc : acontains s.nodesMap n.name = true := by simp [acontains, hl]
    rw [addNode_existing hn n hl]
    simp only [hc, if_true]
    refine ⟨?_, h.2⟩
    show a.nodes.map _ = s.nodesVec.set i n
    rw [h.1]
    exact map_replace_eq_set hn.names_nodup n ((hn.map_iff _ _).mp hl)
  | none =>
    have hc : acontains s.nodesMap n.name = false := by simp [acontains, hl]
    rw [addNode_new hn n hl]
    simp only [hc, Bool.false_eq_true, if_false]
    exact ⟨by show a.nodes ++ [n] = s.nodesVec ++ [n]; rw [h.1], h.2⟩

theorem ensure_refines {s : Store} {a : Abs} (hn : NodesInv s) (h : Refines s a) (x : Nat) :
    Refines (s.ensure x) (if a.hasNode x then a else a.addNode ⟨x, none⟩) := by
  unfold ensure
  rw [h.hasNode hn]
  cases hc : acontains s.nodesMap x with
  | true => simpa using h
  | false => simpa using addNode_refines' hn h ⟨x, none⟩

end Store

/-- the main branch of `Abs.addEdge`, as a function of the graph `a2` after node creation -/
def Abs.main (sp : Specs) (a a2 : Abs) (e : Edge) : Abs × Option ErrKind :=
  let dup := a2.edges.any fun e' => Abs.sameKey sp.directed e' e.u e.v
  if sp.multi || !dup then
    ({ a2 with edges := a2.edges ++ [Abs.canon sp.directed e] }, none)
  else
    match sp.dedupe with
    | .error => (a, some .DuplicateEdge)
    | .keepFirst => (a2, none)
    | .keepLast =>
      ({ a2 with edges := a2.edges.map fun e' =>
          if Abs.sameKey sp.directed e' e.u e.v then Abs.canon sp.directed e else e' }, none)

theorem Abs.addEdge_eq (sp : Specs) (a : Abs) (e : Edge) :
    Abs.addEdge sp a e =
      if !sp.selfLoops && e.u == e.v then
        match sp.slFalse with
        | .error => (a, some .SelfLoopsFound)
        | .drop => (a, none)
      else if sp.missing == .error && (!a.hasNode e.u || !a.hasNode e.v) then
        (a, some .NodeNotFound)
      else
        Abs.main sp a
          (if (if a.hasNode e.u then a else a.addNode ⟨e.u, none⟩).hasNode e.v
           then (if a.hasNode e.u then a else a.addNode ⟨e.u, none⟩)
           else (if a.hasNode e.u then a else a.addNode ⟨e.u, none⟩).addNode ⟨e.v, none⟩) e := rfl

namespace Store

theorem refines_append {s2 t : Store} {a2 : Abs} (r2 : Refines s2 a2) (c : Edge) (K : Nat × Nat)
    (hc : (c.u, c.v) = K) (hnv : t.nodesVec = s2.nodesVec)
    (hed : t.edges = ainsert s2.edges K ((alookup s2.edges K).getD [] ++ [c])) :
    Refines t { a2 with edges := a2.edges ++ [c] } := by
  refine ⟨hnv ▸ r2.1, fun k => ?_⟩
  show (a2.edges ++ [c]).filter _ = _
  rw [hed, AL.lookup_insert, List.filter_append, r2.2 k]
  by_cases h : K = k
  · subst h
    rw [if_pos rfl, List.filter_cons_of_pos (by rw [hc]; exact beq_self_eq_true _)]
    rfl
  · rw [if_neg h, List.filter_cons_of_neg (by rw [hc]; exact fun e => h (beq_iff_eq.mp e))]
    exact List.append_nil _

theorem refines_replace {s2 t : Store} {a2 : Abs} (r2 : Refines s2 a2) (he2 : EdgesInv s2) (c : Edge) (u v : Nat)
    (hc : (c.u, c.v) = nameKey s2.specs.directed u v) (hnv : t.nodesVec = s2.nodesVec)
    (hm : s2.specs.multi = false) (hold : (alookup s2.edges (nameKey s2.specs.directed u v)).isSome = true)
    (hed : t.edges = ainsert s2.edges (nameKey s2.specs.directed u v) [c]) :
    Refines t { a2 with edges := a2.edges.map fun e' =>
      if (Abs.sameKey s2.specs.directed e' u v) then c else e' } := by
  refine ⟨hnv ▸ r2.1, fun k => ?_⟩
  have hkey : ∀ e' ∈ a2.edges, Abs.sameKey s2.specs.directed e' u v = true ↔
      (e'.u, e'.v) = nameKey s2.specs.directed u v :=
    fun e' he' => sameKey_iff_key he2 ((r2.mem_iff he2 e').mp he') u v
  -- the replacement keeps the key of every edge, so it commutes with the selection of a key
  show List.filter _ (a2.edges.map _) = _
  rw [List.filter_map, List.filter_congr (q := fun e => (e.u, e.v) == k) fun e' he' => by
    show (((if _ then c else e').u, (if _ then c else e').v) == k) = _
    split
    · rename_i h; rw [hc, ← (hkey e' he').mp h]
    · rfl]
  rw [hed, AL.lookup_insert]
  by_cases h : nameKey s2.specs.directed u v = k
  · subst h
    obtain ⟨l, hl⟩ := Option.isSome_iff_exists.mp hold
    obtain ⟨x, rfl⟩ := List.length_eq_one_iff.mp
      (((he2.edges_ok _ l hl).2.2.2.2.2.1).resolve_left (hm ▸ Bool.false_ne_true))
    have hx : x ∈ a2.edges.filter fun e => (e.u, e.v) == nameKey s2.specs.directed u v := by
      rw [r2.2, hl]; exact List.mem_cons_self
    rw [if_pos rfl, r2.2, hl]
    show [if _ then c else x] = [c]
    rw [if_pos ((hkey x (List.mem_filter.mp hx).1).mpr (beq_iff_eq.mp (List.mem_filter.mp hx).2))]
  · rw [if_neg h, ← r2.2 k]
    refine (List.map_congr_left fun e' he' => ?_).trans (List.map_id _)
    obtain ⟨hmem, hk⟩ := List.mem_filter.mp he'
    exact if_neg fun hs => h (((hkey e' hmem).mp hs).symm.trans (beq_iff_eq.mp hk))

theorem main_refines {s s2 : Store} {a a2 : Abs} {e : Edge} {ui vi : Nat}
    (h : Refines s a) (E : Ensured s e s2 ui vi) (r2 : Refines s2 a2) (res : Store × Option ErrKind)
    (hres : MainOutcome s e s2 ui vi res) :
    res.2 = (Abs.main s.specs a a2 e).2 ∧ Refines res.1 (Abs.main s.specs a a2 e).1 := by
  unfold MainOutcome at hres
  have hdup := r2.dup_eq E.nodes E.edges E.hu E.hv
  have hold : (alookup s2.edges (nameKey s.specs.directed e.u e.v)).isNone = !(s2.edgesByIdx ui vi).isSome := by
    rw [edgesByIdx_eq, emap_eq_edges E.nodes E.edges E.hu E.hv, E.specs, Option.not_isSome]
  have hck := canon_key s.specs.directed e
  rw [E.specs] at hdup
  unfold Abs.main
  unfold newList at hres
  rw [hdup]
  rw [hold] at hres
  by_cases happ : (s.specs.multi || !(s2.edgesByIdx ui vi).isSome) = true
  · have hno : ¬ (s.specs.dedupe == .error && !s.specs.multi && (s2.edgesByIdx ui vi).isSome) = true := by
      revert happ
      cases s.specs.multi <;> cases (s2.edgesByIdx ui vi).isSome <;> simp
    rw [if_neg hno, if_pos happ] at hres
    rw [if_pos happ]
    exact ⟨hres.1, refines_append r2 _ _ hck hres.2.2.2.1 hres.2.2.2.2⟩
  · rw [if_neg happ] at hres ⊢
    have hm : s.specs.multi = false := by
      cases h' : s.specs.multi
      · rfl
      · exact absurd (by rw [h']; rfl) happ
    have hb : (s2.edgesByIdx ui vi).isSome = true := by
      cases h' : (s2.edgesByIdx ui vi).isSome
      · exact absurd (by rw [h', hm]; rfl) happ
      · rfl
    rw [hm, hb] at hres
    cases hd : s.specs.dedupe with
    | error =>
      rw [hd] at hres
      cases (show res = (s2, some .DuplicateEdge) from hres)
      cases E.old hb
      exact ⟨rfl, h⟩
    | keepFirst =>
      rw [hd] at hres
      exact ⟨hres.1, hres.2.2.2.1 ▸ r2.1, fun k => hres.2.2.2.2 ▸ r2.2 k⟩
    | keepLast =>
      rw [hd] at hres
      have hres : _ ∧ _ ∧ _ ∧ _ ∧ res.1.edges = ainsert s2.edges (nameKey s.specs.directed e.u e.v)
          [Abs.canon s.specs.directed e] := hres
      refine ⟨hres.1, ?_⟩
      have hsome : (alookup s2.edges (nameKey s.specs.directed e.u e.v)).isSome = true := by
        rw [← Option.not_isNone, hold, hb]; rfl
      have := refines_replace (t := res.1) r2 E.edges (Abs.canon s.specs.directed e) e.u e.v
        (E.specs ▸ hck) hres.2.2.2.1 (E.specs ▸ hm) (E.specs ▸ hsome) (E.specs ▸ hres.2.2.2.2)
      rwa [E.specs] at this

theorem addEdge_refines' {s : Store} {a : Abs} (hw : s.wf = true) (h : Refines s a) (e : Edge) :
    (s.addEdge e).2 = (Abs.addEdge s.specs a e).2 ∧ Refines (s.addEdge e).1 (Abs.addEdge s.specs a e).1 := by
  have hn := ((wf_iff s).mp hw).1
  have hcond : (s.specs.missing == .error && (!a.hasNode e.u || !a.hasNode e.v)) =
      (s.specs.missing == .error && (!acontains s.nodesMap e.u || !acontains s.nodesMap e.v)) := by
    rw [h.hasNode hn, h.hasNode hn]
  rw [Abs.addEdge_eq, hcond]
  refine addEdge_elim (P := fun r => r.2 = _ ∧ Refines r.1 _) s e (fun hsl => ?_) (fun hsl hmiss => ?_)
    fun hsl hmiss => ?_
  · rw [if_pos hsl]
    cases s.specs.slFalse <;> exact ⟨rfl, h⟩
  · rw [if_neg hsl, if_pos hmiss]
    exact ⟨rfl, h⟩
  · rw [if_neg hsl, if_neg hmiss]
    obtain ⟨s2, ui, vi, hs2, E, hmain⟩ := addEdge_main hw e hsl
    have r2 := ensure_refines (ensure_nodesInv hn e.u) (ensure_refines hn h e.u) e.v
    exact main_refines h E (hs2 ▸ r2) _ hmain

end Store
end Graphrs
