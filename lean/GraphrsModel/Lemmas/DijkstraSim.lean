/-
  Simulation facts about the model of `dijkstra` that hold for any weights (the last one needs the adjacency entries to
  be positions in range):
  * `with_paths = false` runs the same computation with an empty path table;
  * entries of finalised nodes (`dist`, `paths`) are frozen;
  * the run with a target is a prefix of the run without.
-/
import GraphrsModel.Lemmas.DijkstraLoop
namespace Graphrs

/-- the state with an empty path table: what the run with `with_paths = false` carries -/
def DState.ctl (st : DState) : DState := { st with paths := [] }

theorem relaxFull_ctl (weighted : Bool) (cut : Option Int) (fo : Bool) (v : Nat) (d : Int) (st : DState) (adj : Adj) :
    relaxFull weighted cut fo false v d st.ctl adj = (relaxFull weighted cut fo true v d st adj).map DState.ctl := by
  obtain ⟨u, w⟩ := adj
  rcases relaxFull_outcome weighted cut fo v d st.dist st.seen u w with
    ⟨_, h⟩ | ⟨c, _, ⟨_, h⟩ | ⟨_, h⟩ | ⟨_, _, _, h⟩ | ⟨_, _, _, _, h⟩⟩ <;>
    rw [h false st.ctl rfl rfl, h true st rfl rfl] <;> rfl

theorem foldExcept_ctl (weighted : Bool) (cut : Option Int) (fo : Bool) (v : Nat) (d : Int) (row : List Adj) :
    ∀ st : DState, foldExcept (relaxFull weighted cut fo false v d) st.ctl row =
      (foldExcept (relaxFull weighted cut fo true v d) st row).map DState.ctl := by
  induction row with
  | nil => intro st; rfl
  | cons a row ih =>
    intro st
    rw [foldExcept, foldExcept, relaxFull_ctl]
    cases relaxFull weighted cut fo true v d st a with
    | error e => rfl
    | ok st' => exact ih st'

theorem dijkstraLoop_ctl (adjOf : Nat → List Adj) (weighted : Bool) (target : Option Nat) (cut : Option Int) (fo : Bool) :
    ∀ (fuel : Nat) (st : DState), dijkstraLoop adjOf weighted target cut fo false fuel st.ctl =
      (dijkstraLoop adjOf weighted target cut fo true fuel st).map DState.ctl := by
  intro fuel
  induction fuel with
  | zero => intro st; rfl
  | succ fuel ih =>
    intro st
    cases hp : popFringe st.fringe with
    | none =>
      rw [dijkstraLoop_empty hp, dijkstraLoop_empty (st := st.ctl) hp]
      rfl
    | some res =>
      obtain ⟨⟨d, cnt, v⟩, rest⟩ := res
      cases hd : lk st.dist v with
      | some dv =>
        rw [dijkstraLoop_stale hp hd, dijkstraLoop_stale (st := st.ctl) hp hd]
        exact ih { st with fringe := rest }
      | none =>
        by_cases ht : target = some v
        · subst ht
          rw [dijkstraLoop_target hp hd, dijkstraLoop_target (st := st.ctl) hp hd]
          rfl
        · rw [dijkstraLoop_fresh hp hd ht, dijkstraLoop_fresh (st := st.ctl) hp hd ht]
          refine (congrArg (Except.bind · _)
            (foldExcept_ctl weighted cut fo v d (adjOf v) { st with fringe := rest, dist := st.dist.set v (some d) })).trans ?_
          cases foldExcept (relaxFull weighted cut fo true v d)
              { st with fringe := rest, dist := st.dist.set v (some d) } (adjOf v) with
          | error e => rfl
          | ok st' => exact ih st'

def Frozen (a b : DState) : Prop :=
  ∀ x d, lk a.dist x = some d → lk b.dist x = some d ∧ b.paths[x]? = a.paths[x]?

theorem Frozen.refl (a : DState) : Frozen a a := fun _ _ h => ⟨h, rfl⟩

theorem Frozen.trans {a b c : DState} (h1 : Frozen a b) (h2 : Frozen b c) : Frozen a c := fun x d h =>
  have ⟨h3, h4⟩ := h1 x d h
  have ⟨h5, h6⟩ := h2 x d h3
  ⟨h5, h6.trans h4⟩

theorem Frozen.of_eq {a b : DState} (h1 : b.dist = a.dist) (h2 : ∀ x, lk a.dist x ≠ none → b.paths[x]? = a.paths[x]?) :
    Frozen a b := fun x _ h =>
  ⟨h1 ▸ h, h2 x fun e => nomatch e.symm.trans h⟩

theorem Frozen.setDist (st : DState) (rest : List FNode) (v : Nat) (d : Int) (hv : lk st.dist v = none) :
    Frozen st { st with fringe := rest, dist := st.dist.set v (some d) } := fun _ _ h =>
  ⟨(lk_set_ne _ _ _ _ fun e => nomatch (e ▸ hv).symm.trans h).trans h, rfl⟩

theorem relaxFull_frozen {weighted : Bool} {cut : Option Int} {fo wp : Bool} {v : Nat} {d : Int} {st st' : DState} {adj : Adj}
    (h : relaxFull weighted cut fo wp v d st adj = .ok st') :
    st'.dist = st.dist ∧ (∀ x, lk st.dist x ≠ none → st'.paths[x]? = st.paths[x]?) ∧
      ∀ e ∈ st'.fringe, e ∈ st.fringe ∨ e.2.2 = adj.1 := by
  obtain ⟨u, w⟩ := adj
  have hpaths : ∀ q : List (List Nat), lk st.dist u = none → ∀ x, lk st.dist x ≠ none →
      (if wp then st.paths.set u q else st.paths)[x]? = st.paths[x]? := by
    intro q hu x hx
    cases wp with
    | false => rfl
    | true => exact List.getElem?_set_ne fun (e : u = x) => hx (e ▸ hu)
  have hpush : ∀ (y : Int) (k : Nat), ∀ e ∈ (y, k, u) :: st.fringe, e ∈ st.fringe ∨ e.2.2 = u :=
    fun y k e he => (List.mem_cons.1 he).symm.imp_right fun (e' : e = (y, k, u)) => e' ▸ rfl
  rcases relaxFull_inv h with ⟨_, e⟩ | ⟨c, _, ⟨_, e⟩ | ⟨_, hu, _, e⟩ | ⟨_, hu, _, _, e⟩⟩
  · exact e ▸ ⟨rfl, fun _ _ => rfl, fun _ he => Or.inl he⟩
  · exact e ▸ ⟨rfl, fun _ _ => rfl, fun _ he => Or.inl he⟩
  · exact e ▸ ⟨rfl, hpaths _ hu, hpush _ _⟩
  · exact e ▸ ⟨rfl, hpaths _ hu, hpush _ _⟩

theorem foldExcept_frozen {weighted : Bool} {cut : Option Int} {fo wp : Bool} {v : Nat} {d : Int} (row : List Adj)
    {st st' : DState} (h : foldExcept (relaxFull weighted cut fo wp v d) st row = .ok st') :
    st'.dist = st.dist ∧ (∀ x, lk st.dist x ≠ none → st'.paths[x]? = st.paths[x]?) ∧
      ∀ e ∈ st'.fringe, e ∈ st.fringe ∨ ∃ a ∈ row, e.2.2 = a.1 := by
  refine foldExcept_ok_inv
    (fun s => s.dist = st.dist ∧ (∀ x, lk st.dist x ≠ none → s.paths[x]? = st.paths[x]?) ∧
      ∀ e ∈ s.fringe, e ∈ st.fringe ∨ ∃ a ∈ row, e.2.2 = a.1)
    row ?_ st st' ⟨rfl, fun _ _ => rfl, fun _ he => Or.inl he⟩ h
  intro s a ha s' ⟨e1, e2, e3⟩ hs
  obtain ⟨e4, e5, e6⟩ := relaxFull_frozen hs
  exact ⟨e4.trans e1, fun x hx => (e5 x (e1 ▸ hx)).trans (e2 x hx),
    fun e he => (e6 e he).elim (e3 e) fun h7 => Or.inr ⟨a, ha, h7⟩⟩

theorem dijkstraLoop_frozen (adjOf : Nat → List Adj) (weighted : Bool) (target : Option Nat) (cut : Option Int) (fo wp : Bool)
    (fuel : Nat) (st st' : DState) (h : dijkstraLoop adjOf weighted target cut fo wp fuel st = .ok st') : Frozen st st' :=
  dijkstraLoop_ok_inv (Frozen st) (fun _ _ F => F) (fun s rest v d hv F => F.trans (Frozen.setDist s rest v d hv))
    (fun _ _ _ _ _ _ F hr => have ⟨e1, e2, _⟩ := relaxFull_frozen hr; F.trans (Frozen.of_eq e1 e2))
    fuel st st' (Frozen.refl st) h

theorem dijkstraLoop_target_prefix (adjOf : Nat → List Adj) (weighted : Bool) (tgt : Nat) (cut : Option Int) (fo wp : Bool)
    (n : Nat) (hadj : ∀ v, ∀ a ∈ adjOf v, a.1 < n) :
    ∀ (fuel : Nat) (st st1 st2 : DState), st.dist.length = n → (∀ e ∈ st.fringe, e.2.2 < n) →
      dijkstraLoop adjOf weighted (some tgt) cut fo wp fuel st = .ok st1 →
      dijkstraLoop adjOf weighted none cut fo wp fuel st = .ok st2 →
      Frozen st1 st2 ∧ (st1 = st2 ∨ ∃ d, lk st1.dist tgt = some d) := by
  intro fuel
  induction fuel with
  | zero =>
    intro st st1 st2 _ _ h1 h2
    rw [dijkstraLoop] at h1 h2
    cases h1
    cases h2
    exact ⟨Frozen.refl _, Or.inl rfl⟩
  | succ fuel ih =>
    intro st st1 st2 hlen hfr h1 h2
    cases hp : popFringe st.fringe with
    | none =>
      rw [dijkstraLoop_empty hp] at h1 h2
      cases h1
      cases h2
      exact ⟨Frozen.refl _, Or.inl rfl⟩
    | some res =>
      obtain ⟨⟨d, cnt, v⟩, rest⟩ := res
      obtain ⟨hmem, hrest, _⟩ := popFringe_some hp
      have hrest' : ∀ e ∈ rest, e.2.2 < n := fun e he => hfr e (List.mem_of_mem_erase (hrest ▸ he))
      cases hd : lk st.dist v with
      | some dv =>
        rw [dijkstraLoop_stale hp hd] at h1 h2
        exact ih { st with fringe := rest } _ _ hlen hrest' h1 h2
      | none =>
        rw [dijkstraLoop_fresh (target := none) hp hd nofun] at h2
        obtain ⟨st3, hf, h3⟩ := bind_eq_ok h2
        obtain ⟨e1, e2, e3⟩ := foldExcept_frozen _ hf
        by_cases ht : tgt = v
        · -- the run with a target stops here; the other run goes on from a state that extends it
          subst ht
          rw [dijkstraLoop_target hp hd] at h1
          cases h1
          exact ⟨(Frozen.of_eq e1 e2).trans (dijkstraLoop_frozen _ _ _ _ _ _ _ _ _ h3),
            Or.inr ⟨d, lk_set_self _ _ _ (hlen ▸ hfr _ hmem)⟩⟩
        · rw [dijkstraLoop_fresh hp hd (fun h => ht (Option.some.inj h)), hf] at h1
          refine ih _ _ _ (by rw [e1, List.length_set]; exact hlen) (fun e he => ?_) h1 h3
          rcases e3 e he with h3 | ⟨a, ha, h3⟩
          · exact hrest' e h3
          · exact h3 ▸ hadj v a ha

end Graphrs
