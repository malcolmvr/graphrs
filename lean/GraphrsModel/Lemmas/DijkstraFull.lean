/-
  `dijkstraLoop` (the loop of `dijkstra`) on non-negative costs: it never raises `ContradictoryPaths`, keeps the
  invariant and terminates within the fuel bound - and carries along any further predicate that is kept by the three
  things a relaxation can do (`RowStep`): `JB` at row boundaries, `JR` on the pending arcs and the state inside a row.
-/
import GraphrsModel.Lemmas.DijkstraBasic
namespace Graphrs

variable {A : Arcs} {src n : Nat} {weighted : Bool} {cut : Option Int} {firstOnly withPaths : Bool}
  {v : Nat} {d : Int}

namespace Skipped
variable {pend : Arcs} {st : DState} {u : Nat} {c : Int}

theorem arcOk (R : RowInv A src n cut v d ((v, u, c) :: pend) st.dist st.seen st.fringe)
    (h : Skipped cut firstOnly d st.dist st.seen u c) : ArcOk cut st.seen d u c := by
  rcases h with h | ⟨du, hd, hle⟩ | ⟨_, su, hs, hle, _⟩
  · exact Or.inl h
  · exact Or.inr ⟨du, R.distSeen u du hd, hle⟩
  · exact Or.inr ⟨su, hs, hle⟩

/-- with strictly positive costs, no cutoff and `first_only = false` an arc is skipped only if it is not tight -/
theorem lt_of_pos (hpos : ∀ a ∈ A, 0 < a.2.2)
    (R : RowInv A src n none v d ((v, u, c) :: pend) st.dist st.seen st.fringe)
    (h : Skipped none false d st.dist st.seen u c) : ∃ su, lk st.seen u = some su ∧ su < d + c := by
  rcases h with h | ⟨du, hd, _⟩ | ⟨_, su, hs, _, hf | hlt⟩
  · cases h
  · have h1 := R.hle u du hd
    have h2 : 0 < c := hpos _ (R.pendA _ (List.mem_cons_self ..))
    exact ⟨du, R.distSeen u du hd, by omega⟩
  · cases hf
  · exact ⟨su, hs, hlt⟩

end Skipped

/-- `J pend st`, a predicate on the arcs of the row of `v` still pending and on the state, is kept by each of the three
    things the relaxation of the head arc `(v, u, c)` can do -/
structure RowStep (A : Arcs) (src n : Nat) (cut : Option Int) (firstOnly withPaths : Bool) (v : Nat) (d : Int)
    (J : Arcs → DState → Prop) : Prop where
  skip : ∀ {st : DState} {u : Nat} {c : Int} {pend : Arcs},
    RowInv A src n cut v d ((v, u, c) :: pend) st.dist st.seen st.fringe → J ((v, u, c) :: pend) st →
    Skipped cut firstOnly d st.dist st.seen u c → J pend st
  lt : ∀ {st : DState} {u : Nat} {c : Int} {pend : Arcs},
    RowInv A src n cut v d ((v, u, c) :: pend) st.dist st.seen st.fringe → J ((v, u, c) :: pend) st →
    overCutoff cut (d + c) = false → lk st.dist u = none → (∀ su, lk st.seen u = some su → d + c < su) →
    J pend (pushLt withPaths v u (d + c) st)
  eq : ∀ {st : DState} {u : Nat} {c : Int} {pend : Arcs},
    RowInv A src n cut v d ((v, u, c) :: pend) st.dist st.seen st.fringe → J ((v, u, c) :: pend) st →
    overCutoff cut (d + c) = false → lk st.dist u = none → lk st.seen u = some (d + c) → firstOnly = false →
    J pend (pushEq withPaths v u (d + c) st)

namespace RowStep
variable {J : Arcs → DState → Prop}

theorem relax (hA : ArcsWf A n) (S : RowStep A src n cut firstOnly withPaths v d J) {st : DState} {a : Adj}
    {row : List Adj} (R : RowInv A src n cut v d (rowArcs weighted v (a :: row)) st.dist st.seen st.fringe)
    (hJ : J (rowArcs weighted v (a :: row)) st) :
    ∃ st', relaxFull weighted cut firstOnly withPaths v d st a = .ok st' ∧
      RowInv A src n cut v d (rowArcs weighted v row) st'.dist st'.seen st'.fringe ∧ J (rowArcs weighted v row) st' ∧
      st'.dist = st.dist ∧ st'.fringe.length ≤ st.fringe.length + 1 := by
  obtain ⟨u, w⟩ := a
  rcases relaxFull_outcome weighted cut firstOnly v d st.dist st.seen u w with ⟨hc, e⟩ | ⟨c, hc, hcase⟩
  · rw [rowArcs_cons_none hc] at R hJ
    exact ⟨st, e _ st rfl rfl, R, hJ, rfl, Nat.le_succ _⟩
  rw [rowArcs_cons_some hc] at R hJ
  rcases hcase with ⟨hs, e⟩ | ⟨⟨du, hd, hlt⟩, _⟩ | ⟨ho, hd, hlt, e⟩ | ⟨ho, hd, hs, hf, e⟩
  · exact ⟨st, e _ st rfl rfl, R.skip (hs.arcOk R), S.skip R hJ hs, rfl, Nat.le_succ _⟩
  · exact absurd (R.final_ok hA du hd).1 (Int.not_le.2 hlt)
  · exact ⟨_, e _ st rfl rfl, R.pushLt hA ho hlt _, S.lt R hJ ho hd hlt, rfl, Nat.le_refl _⟩
  · exact ⟨_, e _ st rfl rfl, R.pushEq hA ho hs _, S.eq R hJ ho hd hs hf, rfl, Nat.le_refl _⟩

theorem fold (hA : ArcsWf A n) (S : RowStep A src n cut firstOnly withPaths v d J) (row : List Adj) : ∀ (st : DState),
    RowInv A src n cut v d (rowArcs weighted v row) st.dist st.seen st.fringe → J (rowArcs weighted v row) st →
    ∃ st', foldExcept (relaxFull weighted cut firstOnly withPaths v d) st row = .ok st' ∧
      RowInv A src n cut v d [] st'.dist st'.seen st'.fringe ∧ J [] st' ∧
      st'.dist = st.dist ∧ st'.fringe.length ≤ st.fringe.length + row.length := by
  induction row with
  | nil => exact fun st R hJ => ⟨st, rfl, R, hJ, rfl, Nat.le_refl _⟩
  | cons a row ih =>
    intro st R hJ
    obtain ⟨s1, e1, R1, J1, h1, h2⟩ := S.relax hA R hJ
    obtain ⟨s2, e2, R2, J2, h3, h4⟩ := ih s1 R1 J1
    refine ⟨s2, ?_, R2, J2, h3.trans h1, Nat.le_trans h4 ?_⟩
    · rw [foldExcept, e1]
      exact e2
    · rw [List.length_cons, ← Nat.add_assoc, Nat.add_right_comm]
      exact Nat.add_le_add_right h2 _

end RowStep

/-- When the loop stops at the target, the conclusion speaks of the state whose pop finalised the target (with what
    `henter` is given): `JB` need not survive the finalisation itself, and no row has been relaxed. -/
theorem dijkstraLoop_run {target : Option Nat} (rows : List (List Adj)) (hA : ArcsWf A n)
    (hrows : RowsOk A weighted rows)
    (JB : DState → Prop) (JR : Nat → Int → Arcs → DState → Prop)
    (hstale : ∀ (st : DState) (b : FNode), JB st → JB { st with fringe := st.fringe.erase b })
    (henter : ∀ (st : DState) (d : Int) (cnt v : Nat), Inv A src n cut [] st.dist st.seen st.fringe → JB st →
      (d, cnt, v) ∈ st.fringe → (∀ e ∈ st.fringe, d ≤ e.1) → lk st.dist v = none →
      JR v d (rowArcs weighted v (rows[v]?.getD []))
        { st with fringe := st.fringe.erase (d, cnt, v), dist := st.dist.set v (some d) })
    (hstep : ∀ (v : Nat) (d : Int), RowStep A src n cut firstOnly withPaths v d (JR v d))
    (hexit : ∀ (v : Nat) (d : Int) (st : DState), RowInv A src n cut v d [] st.dist st.seen st.fringe →
      JR v d [] st → JB st) :
    ∀ (fuel : Nat) (st : DState), Inv A src n cut [] st.dist st.seen st.fringe → JB st →
      st.fringe.length + pendFrom rows 0 st.dist < fuel →
      ∃ st' pend, dijkstraLoop (fun v => rows[v]?.getD []) weighted target cut firstOnly withPaths fuel st = .ok st' ∧
        Inv A src n cut pend st'.dist st'.seen st'.fringe ∧ (target = none → pend = [] ∧ st'.fringe = []) ∧
        (JB st' ∨ ∃ st0 d cnt v, target = some v ∧ Inv A src n cut [] st0.dist st0.seen st0.fringe ∧ JB st0 ∧
          (d, cnt, v) ∈ st0.fringe ∧ (∀ e ∈ st0.fringe, d ≤ e.1) ∧ lk st0.dist v = none ∧
          st' = { st0 with fringe := st0.fringe.erase (d, cnt, v), dist := st0.dist.set v (some d) }) := by
  intro fuel
  induction fuel with
  | zero => exact fun st _ _ h => absurd h (Nat.not_lt_zero _)
  | succ fuel ih =>
    intro st I P hm
    cases hp : popFringe st.fringe with
    | none => exact ⟨st, [], dijkstraLoop_empty hp, I, fun _ => ⟨rfl, popFringe_none hp⟩, Or.inl P⟩
    | some res =>
      obtain ⟨⟨d, cnt, v⟩, rest⟩ := res
      obtain ⟨hstale', hfresh⟩ := I.pop hrows hp
      obtain ⟨hmem, hrest, hmin⟩ := popFringe_some hp
      cases hd : lk st.dist v with
      | some dv =>
        rw [dijkstraLoop_stale hp hd]
        exact ih _ (hstale' dv hd).1 (hrest ▸ hstale st _ P)
          (Nat.lt_of_lt_of_le (hstale' dv hd).2 (Nat.le_of_lt_succ hm))
      | none =>
        obtain ⟨R, hpend⟩ := hfresh hd
        by_cases ht : target = some v
        · subst ht
          exact ⟨_, _, dijkstraLoop_target hp hd, R.toInv, fun h => (nomatch h),
            Or.inr ⟨st, d, cnt, v, rfl, I, P, hmem, hmin, hd, hrest ▸ rfl⟩⟩
        · have J := henter st d cnt v I P hmem hmin hd
          rw [← hrest] at J
          obtain ⟨st2, e2, R2, J2, h3, h4⟩ := (hstep v d).fold hA (rows[v]?.getD [])
            { st with fringe := rest, dist := st.dist.set v (some d) } R J
          rw [dijkstraLoop_fresh hp hd ht, e2]
          exact ih _ R2.done (hexit v d st2 R2 J2) (h3 ▸ Nat.lt_of_lt_of_le (hpend _ h4) (Nat.le_of_lt_succ hm))

end Graphrs
