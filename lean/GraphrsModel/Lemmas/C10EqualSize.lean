/-
  Helpers for the model-level theorem about `bfs_equal_size_partitions` (Props/C10EqualSize.lean).

  On top of the index-range invariant `NP.EqInv` of Lemmas/EqualSize.lean a second invariant is carried through
  the two loops: the placed indexes are pairwise different, an index is placed iff its `visited` flag is set,
  and no part is longer than the cap.  The fuel of both loops is proved sufficient: every round of the outer
  loop places at least one index (so `n + 1` rounds are enough), and the inner loop never stops for lack of fuel
  (its measure is the queue length plus the out-degrees of the unvisited indexes).  Namespace `EqSz`.
-/
import GraphrsModel.Lemmas.EqualSize
import Mathlib.Data.List.Nodup
import Mathlib.Data.List.Perm.Basic
import Mathlib.Data.List.Range
namespace Graphrs
namespace EqSz
open Store NP

theorem flatten_set_append_perm {α} (parts : List (List α)) (j : Nat) (p : List α) (c : α)
    (h : parts[j]? = some p) : (parts.set j (p ++ [c])).flatten.Perm (c :: parts.flatten) := by
  induction parts generalizing j with
  | nil => simp at h
  | cons q qs ih =>
    cases j with
    | zero =>
      simp only [List.getElem?_cons_zero, Option.some.injEq] at h
      subst h
      simp only [List.set_cons_zero, List.flatten_cons, List.append_assoc, List.singleton_append]
      exact List.perm_middle
    | succ j =>
      simp only [List.getElem?_cons_succ] at h
      simp only [List.set_cons_succ, List.flatten_cons]
      exact ((ih j h).append_left q).trans List.perm_middle

structure EqInv2 (M : Nat) (parts : List (List Nat)) (visited : List Bool) : Prop where
  nodup : parts.flatten.Nodup
  mem_iff : ∀ i, i ∈ parts.flatten ↔ visited[i]? = some true
  sizes : ∀ p ∈ parts, p.length ≤ M

theorem eqInv2_init (n k M : Nat) : EqInv2 M (List.replicate k []) (List.replicate n false) := by
  have hfl : (List.replicate k ([] : List Nat)).flatten = [] := by
    rw [List.flatten_eq_nil_iff]; intro l hl; exact List.eq_of_mem_replicate hl
  refine ⟨by rw [hfl]; exact List.nodup_nil, ?_, ?_⟩
  · intro i
    rw [hfl]
    constructor
    · intro h; cases h
    · intro h
      have := List.mem_of_getElem? h
      cases List.eq_of_mem_replicate this
  · intro p hp; rw [List.eq_of_mem_replicate hp]; exact Nat.zero_le _

theorem eqInv2_step {M : Nat} {parts : List (List Nat)} {visited : List Bool} {part cur : Nat} {p : List Nat}
    (h : EqInv2 M parts visited) (hp : parts[part]? = some p) (hlt : p.length < M)
    (hv : visited[cur]? = some false) :
    EqInv2 M (parts.set part (p ++ [cur])) (visited.set cur true) := by
  have hperm := flatten_set_append_perm parts part p cur hp
  have hcur : cur ∉ parts.flatten := by
    intro hm
    have := (h.mem_iff cur).mp hm
    rw [hv] at this; cases this
  have hcl : cur < visited.length := getElem?_lt hv
  refine ⟨?_, ?_, ?_⟩
  · rw [hperm.nodup_iff]
    exact List.nodup_cons.mpr ⟨hcur, h.nodup⟩
  · intro i
    rw [hperm.mem_iff, List.mem_cons]
    by_cases hi : i = cur
    · subst hi
      simp [hcl]
    · rw [List.getElem?_set_ne (Ne.symm hi), ← h.mem_iff i]
      simp [hi]
  · intro q hq
    rcases List.mem_or_eq_of_mem_set hq with hq | rfl
    · exact h.sizes q hq
    · simp only [List.length_append, List.length_singleton]; omega

theorem eqInner_post (s : Store) (M fuel : Nat) (st st' : EqState) (h : eqInner s M fuel st = some st')
    (hi : EqInv2 M st.parts st.visited) (hlt : (st.parts[st.part]?.getD []).length < M) :
    EqInv2 M st'.parts st'.visited ∧ st.count ≤ st'.count ∧
      (st.queue.length < fuel → (∃ q ∈ st.queue, st.visited[q]? = some false) → st.count < st'.count) := by
  fun_induction eqInner s M fuel st
  case case1 =>
    cases h
    exact ⟨hi, Nat.le_refl _, fun hf => absurd hf (Nat.not_lt_zero _)⟩
  case case2 fuel st hq =>
    cases h
    refine ⟨hi, Nat.le_refl _, fun _ ⟨q, hqm, _⟩ => ?_⟩
    rw [hq] at hqm; cases hqm
  case case4 fuel st cur rest hq st1 hv ih =>
    obtain ⟨a, b, c⟩ := ih h hi hlt
    refine ⟨a, b, fun hf ⟨q, hqm, hqv⟩ => c ?_ ?_⟩
    · rw [hq, List.length_cons] at hf; exact Nat.lt_of_succ_lt_succ hf
    · rw [hq] at hqm
      rcases List.mem_cons.mp hqm with rfl | hqm
      · rw [hv] at hqv; cases hqv
      · exact ⟨q, hqm, hqv⟩
  case case6 fuel st cur rest hq st1 hv p hp p' st2 hfull =>
    rw [← Option.some.inj h]
    rw [hp] at hlt
    exact ⟨eqInv2_step hi hp hlt hv, Nat.le_succ _, fun _ _ => Nat.lt_succ_self _⟩
  case case8 fuel st cur rest hq st1 hv p hp p' st2 hfull row hr ih =>
    have hlt' : p.length < M := by rw [hp] at hlt; exact hlt
    obtain ⟨a, b, _⟩ := ih h (eqInv2_step hi hp hlt' hv) (by
      show ((st.parts.set st.part (p ++ [cur]))[st.part]?.getD []).length < M
      rw [List.getElem?_set_self (getElem?_lt hp), Option.getD_some, List.length_append, List.length_singleton]
      rw [List.length_append, List.length_singleton, beq_iff_eq] at hfull
      exact Nat.lt_of_le_of_ne hlt' hfull)
    exact ⟨a, Nat.le_of_succ_le b, fun _ _ => b⟩
  -- the branches where an index is out of range answer `none`
  all_goals cases h

def unvisW : List (List Adj) → List Bool → Nat
  | r :: rs, b :: bs => (if b then 0 else r.length) + unvisW rs bs
  | _, _ => 0

theorem unvisW_le (rows : List (List Adj)) (vis : List Bool) : unvisW rows vis ≤ sumNat (rows.map List.length) := by
  rw [sumNat_eq_sum]
  induction rows generalizing vis with
  | nil => simp [unvisW]
  | cons r rs ih =>
    cases vis with
    | nil => simp [unvisW]
    | cons b bs =>
      simp only [unvisW, List.map_cons, List.sum_cons]
      have := ih bs
      split <;> omega

theorem unvisW_set (rows : List (List Adj)) (vis : List Bool) (i : Nat) (row : List Adj)
    (hr : rows[i]? = some row) (hv : vis[i]? = some false) :
    unvisW rows (vis.set i true) + row.length = unvisW rows vis := by
  induction rows generalizing vis i with
  | nil => cases hr
  | cons r rs ih =>
    cases vis with
    | nil => cases hv
    | cons b bs =>
      cases i with
      | zero =>
        cases hr; cases hv
        show 0 + unvisW rs bs + row.length = row.length + unvisW rs bs
        rw [Nat.zero_add, Nat.add_comm]
      | succ i =>
        show (if b then 0 else r.length) + unvisW rs (bs.set i true) + row.length = _ + unvisW rs bs
        rw [Nat.add_assoc, ih bs i hr hv]

/-- what "the `while !queue.is_empty()` loop has really ended" means: the queue is empty or the `break` was taken -/
def InnerDone (M : Nat) (st : EqState) : Prop :=
  st.queue = [] ∨ st.parts[st.part]?.map List.length = some M

theorem eqInner_done (s : Store) (M fuel : Nat) (st st' : EqState) (h : eqInner s M fuel st = some st')
    (hf : st.queue.length + unvisW s.succVec st.visited < fuel) : InnerDone M st' := by
  fun_induction eqInner s M fuel st
  case case1 => exact absurd hf (Nat.not_lt_zero _)
  case case2 fuel st hq =>
    cases h
    exact Or.inl hq
  case case4 fuel st cur rest hq st1 hv ih =>
    rw [hq, List.length_cons] at hf
    exact ih h (Nat.lt_of_succ_lt_succ (Nat.succ_add _ _ ▸ hf))
  case case6 fuel st cur rest hq st1 hv p hp p' st2 hfull =>
    rw [← Option.some.inj h]
    right
    show (st.parts.set st.part (p ++ [cur]))[st.part]?.map List.length = some M
    rw [List.getElem?_set_self (getElem?_lt hp), Option.map_some, beq_iff_eq.mp hfull]
  case case8 fuel st cur rest hq st1 hv p hp p' st2 hfull row hr ih =>
    apply ih h
    show (rest ++ row.map (·.1)).length + unvisW s.succVec (st.visited.set cur true) < fuel
    have := unvisW_set s.succVec st.visited cur row hr hv
    rw [hq, List.length_cons] at hf
    rw [List.length_append, List.length_map]
    omega
  -- the branches where an index is out of range answer `none`
  all_goals cases h

theorem eqInner_fuel_sufficient (s : Store) (M : Nat) (st st' : EqState)
    (h : eqInner s M (st.queue.length + s.adjTotal + 2) st = some st') : InnerDone M st' := by
  apply eqInner_done s M _ st st' h
  have := unvisW_le s.succVec st.visited
  simp only [adjTotal]
  omega

theorem eqRound (s : Store) (n k M : Nat) (hsl : s.succVec.length = n)
    (hrow : ∀ (i : Nat) (row : List Adj), s.succVec[i]? = some row → ∀ a ∈ row, a.1 < n)
    (st : EqState) (node : Nat)
    (hfd : (List.range n).find? (fun i => !(st.visited[i]?.getD true)) = some node)
    (h : EqInv n k M st.parts st.visited st.count st.part) (h2 : EqInv2 M st.parts st.visited)
    (hlt : (st.parts[st.part]?.getD []).length < M) (hq : ∀ q ∈ st.queue, q < n) :
    ∃ st', eqInner s M ((st.queue ++ [node]).length + s.adjTotal + 2) { st with queue := st.queue ++ [node] } = some st' ∧
      EqInv n k M st'.parts st'.visited st'.count st'.part ∧ EqInv2 M st'.parts st'.visited ∧
      (st'.parts[st'.part]?.getD []).length ≤ M ∧ (∀ q ∈ st'.queue, q < n) ∧ st.count < st'.count := by
  have hnode : node < n := List.mem_range.mp (List.mem_of_find?_eq_some hfd)
  have hnv : st.visited[node]? = some false := by
    have hp := List.find?_some hfd
    rw [List.getElem?_eq_getElem (h.vlen ▸ hnode)] at hp ⊢
    simpa using hp
  obtain ⟨st', hst', h', hle, hq'⟩ := eqInner_inv s n k M hsl hrow ((st.queue ++ [node]).length + s.adjTotal + 2)
    st.parts st.visited st.count (st.queue ++ [node]) st.part h hlt
    (List.forall_mem_append.2 ⟨hq, List.forall_mem_singleton.2 hnode⟩)
  obtain ⟨h2', _, hprog⟩ := eqInner_post s M _ _ _ hst' h2 hlt
  exact ⟨st', hst', h', h2', hle, hq',
    hprog (Nat.lt_of_le_of_lt (Nat.le_add_right _ _) (Nat.lt_add_of_pos_right (Nat.succ_pos 1)))
      ⟨node, List.mem_append_right _ (List.mem_singleton_self _), hnv⟩⟩

theorem eqOuter_full (s : Store) (n k M : Nat) (hM : 0 < M) (hnk : n < k * M) (hsl : s.succVec.length = n)
    (hrow : ∀ (i : Nat) (row : List Adj), s.succVec[i]? = some row → ∀ a ∈ row, a.1 < n)
    (fuel : Nat) (st : EqState)
    (h : EqInv n k M st.parts st.visited st.count st.part) (h2 : EqInv2 M st.parts st.visited)
    (hlt : (st.parts[st.part]?.getD []).length < M) (hq : ∀ q ∈ st.queue, q < n) (hf : n < st.count + fuel) :
    ∃ st', eqOuter s n M fuel st = some st' ∧
      EqInv n k M st'.parts st'.visited st'.count st'.part ∧ EqInv2 M st'.parts st'.visited ∧ n ≤ st'.count := by
  fun_induction eqOuter s n M fuel st
  case case1 st => exact ⟨st, rfl, h, h2, Nat.le_of_lt hf⟩
  case case2 fuel st hc => exact ⟨st, rfl, h, h2, hc⟩
  case case3 fuel st hc hfd =>
    -- no unvisited index although `count < n`
    have : st.visited.count true = st.visited.length := count_true_eq_length fun i hi => by
      have := List.find?_eq_none.1 hfd i (List.mem_range.2 (h.vlen ▸ hi))
      simpa using this
    rw [← h.vis, h.vlen] at this
    exact absurd (Nat.le_of_eq this.symm) hc
  case case4 fuel st hc node hfd st1 hnone =>
    obtain ⟨st', hst', _⟩ := eqRound s n k M hsl hrow st node hfd h h2 hlt hq
    exact nomatch hnone.symm.trans hst'
  case case5 fuel st hc node hfd st1 st' hst' full st2 ih =>
    obtain ⟨st'', e, h', h2', hle, hq', hcount⟩ := eqRound s n k M hsl hrow st node hfd h h2 hlt hq
    obtain rfl : st'' = st' := Option.some.inj (e.symm.trans hst')
    obtain ⟨p, hp⟩ : ∃ p, st''.parts[st''.part]? = some p :=
      ⟨_, List.getElem?_eq_getElem (h'.plen ▸ h'.part_lt)⟩
    rw [hp, Option.getD_some] at hle
    by_cases hfull : p.length = M
    · have e2 : st2 = { st'' with queue := [], part := st''.part + 1 } :=
        if_pos (by
          show (Option.map List.length st''.parts[st''.part]? == some M) = true
          rw [hp, Option.map_some, hfull]; exact beq_self_eq_true _)
      obtain ⟨g1, g2⟩ := h'.next hM hnk (by rw [hp]; exact hfull)
      rw [e2] at ih ⊢
      exact ih g1 h2' g2 (fun q hq => nomatch hq) (show n < st''.count + fuel by omega)
    · have e2 : st2 = st'' :=
        if_neg (by
          show ¬ (Option.map List.length st''.parts[st''.part]? == some M) = true
          rw [hp, Option.map_some]; exact fun hb => hfull (Option.some.inj (beq_iff_eq.1 hb)))
      rw [e2] at ih ⊢
      exact ih h' h2' (by rw [hp]; exact Nat.lt_of_le_of_ne hle hfull) hq' (by omega)

theorem final_perm {n k M : Nat} {parts : List (List Nat)} {visited : List Bool} {count part : Nat}
    (h : EqInv n k M parts visited count part) (h2 : EqInv2 M parts visited) (hc : n ≤ count) :
    parts.flatten.Perm (List.range n) := by
  rw [List.perm_ext_iff_of_nodup h2.nodup List.nodup_range]
  intro i
  rw [List.mem_range]
  constructor
  · intro hi
    obtain ⟨p, hp, hip⟩ := List.mem_flatten.mp hi
    exact h.bound p hp i hip
  · intro hi
    rw [h2.mem_iff]
    have hcl : visited.count true = visited.length := by
      have h1 : visited.count true ≤ visited.length := List.count_le_length
      have h3 := h.vis
      have h4 := h.vlen
      omega
    rw [List.count_eq_length] at hcl
    have hlt : i < visited.length := by rw [h.vlen]; exact hi
    rw [List.getElem?_eq_getElem hlt]
    rw [← hcl visited[i] (List.getElem_mem hlt)]

theorem names_fold (s : Store) (hn : NodesInv s) (part : List Nat) (hp : ∀ i ∈ part, i < s.nodesVec.length)
    (l0 : List Nat) :
    part.foldl (fun a i => Outcome.bind a (fun l =>
        Outcome.bind (Outcome.ofOption "bfs_equal_size_partitions: get_node_by_index().unwrap()" (s.getNodeByIndex i))
          (fun nd => Outcome.ok (l ++ [nd.name])))) (.ok l0) = .ok (l0 ++ part.map s.nameAt) :=
  Outcome.foldl_ok_map _ s.nameAt part (fun l i hi => by
    have hi' := hp i hi
    simp [Outcome.bind, getNodeByIndex, hn.rev_eq, hi', Outcome.ofOption, Store.nameAt, names]) l0

theorem parts_fold (s : Store) (hn : NodesInv s) (parts : List (List Nat))
    (hp : ∀ p ∈ parts, ∀ i ∈ p, i < s.nodesVec.length) (out0 : List (List Nat)) :
    parts.foldl (fun acc part => Outcome.bind acc (fun out =>
      Outcome.bind (part.foldl (fun a i => Outcome.bind a (fun l =>
        Outcome.bind (Outcome.ofOption "bfs_equal_size_partitions: get_node_by_index().unwrap()" (s.getNodeByIndex i))
          (fun nd => Outcome.ok (l ++ [nd.name])))) (.ok []))
        (fun names => Outcome.ok (out ++ [names])))) (.ok out0)
      = .ok (out0 ++ parts.map (fun p => p.map s.nameAt)) :=
  Outcome.foldl_ok_map _ (fun p : List Nat => p.map s.nameAt) parts
    (fun out p hpm => by rw [Outcome.bind_ok, names_fold s hn p (hp p hpm) []]; rfl) out0

end EqSz
end Graphrs

