/-
  Shared by the shortest-path, centrality and component files (C04-C06, C08, C10, C11): fold invariants, folds that
  keep the better of two elements (`foldl_pick_*`), the relaxation rounds of the checker of Spec/PathCheck.lean
  (`relaxStep`, `Witnessed`, `SrcOk`), `Walk.cons'`, and the cheapest parallel arc `minArc` with `walkCost`.
-/
import GraphrsModel.Spec.PathCheck
import GraphrsModel.Lemmas.AList
namespace Graphrs

theorem foldl_inv {α β} (P : α → Prop) (f : α → β → α) (l : List β)
    (hf : ∀ a, ∀ b ∈ l, P a → P (f a b)) (a : α) (ha : P a) : P (l.foldl f a) := by
  induction l generalizing a with
  | nil => exact ha
  | cons b l ih =>
    exact ih (fun a c hc => hf a c (List.mem_cons_of_mem _ hc)) _ (hf a b (List.mem_cons_self ..) ha)

theorem foldl_const_inv {α β} (P : α → Prop) (f : α → α) (hf : ∀ a, P a → P (f a))
    (l : List β) (a : α) (ha : P a) : P (l.foldl (fun d _ => f d) a) :=
  foldl_inv P _ l (fun a _ _ => hf a) a ha

section pick
variable {α : Type} (P : α → α → Prop) [∀ a b, Decidable (P a b)]

theorem foldl_pick_mem (xs : List α) (x : α) :
    xs.foldl (fun b y => if P y b then y else b) x ∈ x :: xs := by
  induction xs generalizing x with
  | nil => exact List.mem_cons_self ..
  | cons y ys ih =>
    rw [List.foldl_cons]
    rcases List.mem_cons.1 (ih (if P y x then y else x)) with h | h
    · rw [h]
      split
      · exact List.mem_cons_of_mem _ (List.mem_cons_self ..)
      · exact List.mem_cons_self ..
    · exact List.mem_cons_of_mem _ (List.mem_cons_of_mem _ h)

theorem foldl_pick_le (key : α → Int) (h1 : ∀ y b, P y b → key y ≤ key b)
    (h2 : ∀ y b, ¬ P y b → key b ≤ key y) (xs : List α) (x : α) :
    ∀ e ∈ x :: xs, key (xs.foldl (fun b y => if P y b then y else b) x) ≤ key e := by
  induction xs generalizing x with
  | nil =>
    intro e he
    rw [List.mem_singleton.1 he]
    exact Int.le_refl _
  | cons y ys ih =>
    intro e he
    rw [List.foldl_cons]
    have hp : key (if P y x then y else x) ≤ key x ∧ key (if P y x then y else x) ≤ key y := by
      split
      · exact ⟨h1 _ _ ‹_›, Int.le_refl _⟩
      · exact ⟨Int.le_refl _, h2 _ _ ‹_›⟩
    have h0 := ih (if P y x then y else x) _ (List.mem_cons_self ..)
    rcases List.mem_cons.1 he with he | he
    · rw [he]; exact Int.le_trans h0 hp.1
    · rcases List.mem_cons.1 he with he | he
      · rw [he]; exact Int.le_trans h0 hp.2
      · exact ih _ e (List.mem_cons_of_mem _ he)

end pick

theorem foldl_min_mem (cs : List Int) (c : Int) :
    cs.foldl (fun m z => if z < m then z else m) c ∈ c :: cs :=
  foldl_pick_mem (fun z m => z < m) cs c

theorem foldl_min_le (cs : List Int) (c : Int) :
    ∀ z ∈ c :: cs, cs.foldl (fun m z => if z < m then z else m) c ≤ z :=
  foldl_pick_le (fun z m => z < m) id (fun _ _ h => Int.le_of_lt h) (fun _ _ h => Int.not_lt.1 h) cs c

def relaxStep (d : List (Nat × Int)) (arc : Nat × Nat × Int) : List (Nat × Int) :=
  match alookup d arc.1 with
  | none => d
  | some du =>
    let cand := du + arc.2.2
    match alookup d arc.2.1 with
    | none => ainsert d arc.2.1 cand
    | some dv => if cand < dv then ainsert d arc.2.1 cand else d

theorem relaxRound_eq (arcs : Arcs) (d : List (Nat × Int)) :
    Arcs.relaxRound arcs d = arcs.foldl relaxStep d := rfl

theorem relaxStep_cases (d : List (Nat × Int)) (u v : Nat) (w : Int) :
    relaxStep d (u, v, w) = d ∨
    ∃ du, alookup d u = some du ∧ (∀ dv, alookup d v = some dv → du + w < dv) ∧
      relaxStep d (u, v, w) = ainsert d v (du + w) := by
  unfold relaxStep
  cases hu : alookup d u with
  | none => exact Or.inl rfl
  | some du =>
    cases hv : alookup d v with
    | none => exact Or.inr ⟨du, rfl, fun _ h => (nomatch h), rfl⟩
    | some dv =>
      by_cases hlt : du + w < dv
      · exact Or.inr ⟨du, rfl, fun _ h => Option.some.inj h ▸ hlt, if_pos hlt⟩
      · exact Or.inl (if_neg hlt)

def Witnessed (arcs : Arcs) (s : Nat) (d : List (Nat × Int)) : Prop :=
  ∀ v x, alookup d v = some x → Walk arcs s v x

def SrcOk (s : Nat) (d : List (Nat × Int)) : Prop :=
  ∃ x, alookup d s = some x ∧ x ≤ 0

theorem relaxStep_witnessed (arcs : Arcs) (s : Nat) (d : List (Nat × Int))
    (arc : Nat × Nat × Int) (ha : arc ∈ arcs) (hd : Witnessed arcs s d) :
    Witnessed arcs s (relaxStep d arc) := by
  obtain ⟨u, v, w⟩ := arc
  rcases relaxStep_cases d u v w with e | ⟨du, hu, _, e⟩
  · rw [e]; exact hd
  · intro v' x hx
    rw [e, AL.lookup_insert] at hx
    by_cases hv : v = v'
    · rw [if_pos hv, Option.some.injEq] at hx
      rw [← hv, ← hx]
      exact Walk.snoc (hd u du hu) ha
    · rw [if_neg hv] at hx
      exact hd v' x hx

theorem relaxStep_srcOk (s : Nat) (d : List (Nat × Int))
    (arc : Nat × Nat × Int) (hd : SrcOk s d) : SrcOk s (relaxStep d arc) := by
  obtain ⟨u, v, w⟩ := arc
  obtain ⟨x0, hx0, hle⟩ := hd
  rcases relaxStep_cases d u v w with e | ⟨du, _, hlt, e⟩
  · rw [e]; exact ⟨x0, hx0, hle⟩
  · rw [e]
    by_cases hv : v = s
    · have := hlt x0 (hv ▸ hx0)
      exact ⟨du + w, by rw [AL.lookup_insert, if_pos hv], by omega⟩
    · exact ⟨x0, by rw [AL.lookup_insert, if_neg hv]; exact hx0, hle⟩

theorem distFrom_witnessed (arcs : Arcs) (rounds s : Nat) :
    Witnessed arcs s (Arcs.distFrom arcs rounds s) := by
  refine foldl_const_inv (Witnessed arcs s) _
    (fun d => foldl_inv _ relaxStep arcs (fun d a ha => relaxStep_witnessed arcs s d a ha) d) _ _ ?_
  intro v x hx
  by_cases e : s = v
  · rw [alookup, if_pos e, Option.some.injEq] at hx
    rw [← e, ← hx]
    exact Walk.nil _
  · rw [alookup, if_neg e] at hx
    cases hx

theorem distFrom_srcOk (arcs : Arcs) (rounds s : Nat) :
    SrcOk s (Arcs.distFrom arcs rounds s) :=
  foldl_const_inv (SrcOk s) _
    (fun d => foldl_inv _ relaxStep arcs (fun d a _ => relaxStep_srcOk s d a) d) _ _
    ⟨0, by rw [alookup, if_pos rfl], Int.le_refl 0⟩

theorem isClosed_arc (arcs : Arcs) (d : List (Nat × Int)) (hc : isClosed arcs d = true)
    (u v : Nat) (w : Int) (ha : (u, v, w) ∈ arcs) (du : Int) (hu : alookup d u = some du) :
    ∃ dv, alookup d v = some dv ∧ dv ≤ du + w := by
  have := List.all_eq_true.1 hc _ ha
  simp only [hu] at this
  cases hv : alookup d v with
  | none => rw [hv] at this; cases this
  | some dv =>
    rw [hv] at this
    exact ⟨dv, rfl, of_decide_eq_true this⟩

theorem Walk.cons' {arcs : Arcs} {x y b : Nat} {w c : Int} (ha : (x, y, w) ∈ arcs)
    (hw : Walk arcs y b c) : Walk arcs x b (c + w) := by
  induction hw with
  | nil => exact Walk.snoc (Walk.nil x) ha
  | snoc _ ha' ih =>
    rw [Int.add_right_comm]
    exact Walk.snoc ih ha'

/-- cost of the cheapest arc `x → y` -/
def minArc (A : Arcs) (x y : Nat) : Option Int :=
  match (A.filter fun a => a.1 == x && a.2.1 == y).map (·.2.2) with
  | [] => none
  | c :: cs' => some (cs'.foldl (fun m z => if z < m then z else m) c)

theorem walkCost_cons_cons (A : Arcs) (x y : Nat) (rest : List Nat) :
    Arcs.walkCost A (x :: y :: rest) =
      match minArc A x y with
      | none => none
      | some b => (Arcs.walkCost A (y :: rest)).map (· + b) := by
  unfold minArc
  rw [Arcs.walkCost]
  split <;> rename_i h <;> simp only [h]

theorem mem_of_minArc {A : Arcs} {x y : Nat} {m : Int} (h : minArc A x y = some m) : (x, y, m) ∈ A := by
  unfold minArc at h
  split at h
  · cases h
  · next c cs' hcs =>
    have hm := foldl_min_mem cs' c
    rw [Option.some.inj h, ← hcs, List.mem_map] at hm
    obtain ⟨⟨a1, a2, a3⟩, ha, he⟩ := hm
    obtain ⟨ha1, ha2⟩ := List.mem_filter.1 ha
    simp only [Bool.and_eq_true, beq_iff_eq] at ha2 he
    rw [← ha2.1, ← ha2.2, ← he]
    exact ha1

theorem minArc_spec {A : Arcs} {x y : Nat} {w : Int} (h : (x, y, w) ∈ A) :
    ∃ m, minArc A x y = some m ∧ (x, y, m) ∈ A ∧ m ≤ w := by
  have hw : w ∈ (A.filter fun a => a.1 == x && a.2.1 == y).map (·.2.2) :=
    List.mem_map.2 ⟨(x, y, w), List.mem_filter.2 ⟨h, by simp only [beq_self_eq_true, Bool.and_self]⟩, rfl⟩
  cases hcs : (A.filter fun a => a.1 == x && a.2.1 == y).map (·.2.2) with
  | nil => rw [hcs] at hw; cases hw
  | cons c cs' =>
    have hm : minArc A x y = some (cs'.foldl (fun m z => if z < m then z else m) c) := by
      simp only [minArc, hcs]
    exact ⟨_, hm, mem_of_minArc hm, foldl_min_le cs' c w (hcs ▸ hw)⟩

theorem minArc_some {A : Arcs} {x y : Nat} {m : Int} (h : minArc A x y = some m) :
    (x, y, m) ∈ A ∧ ∀ w, (x, y, w) ∈ A → m ≤ w :=
  ⟨mem_of_minArc h, fun _ hw => (minArc_spec hw).elim fun _ hm => Option.some.inj (hm.1.symm.trans h) ▸ hm.2.2⟩

end Graphrs
