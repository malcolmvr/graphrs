/-
  Prop-level reading of the Bool clauses `nodesOk` and `edgesOk` of `Store.wf`.
-/
import GraphrsModel.Lemmas.C03Rows
import GraphrsModel.Lemmas.EdgesOk
namespace Graphrs
namespace C03
open Store

theorem alookup_of_mem {κ ν : Type} [DecidableEq κ] (m : List (κ × ν)) (k : κ) (v : ν)
    (hn : (m.map (·.1)).Nodup) (h : (k, v) ∈ m) : alookup m k = some v := AL.mem_lookup hn h

theorem nodesOk_read (s : Store) (h : s.nodesOk = true) :
    s.names.Nodup ∧ (∀ x i, alookup s.nodesMap x = some i ↔ s.names[i]? = some x) ∧
      s.succVec.length = s.names.length ∧ s.predVec.length = s.names.length :=
  have i := (nodesOk_iff s).1 h
  ⟨i.names_nodup, i.map_iff, i.succ_len.trans (List.length_map _).symm, i.pred_len.trans (List.length_map _).symm⟩

theorem nodesOk_nodup (s : Store) (h : s.nodesOk = true) : s.names.Nodup := (nodesOk_read s h).1

theorem nodesOk_nm (s : Store) (h : s.nodesOk = true) (x i : Nat) :
    alookup s.nodesMap x = some i ↔ s.names[i]? = some x := (nodesOk_read s h).2.1 x i

theorem nodesOk_len (s : Store) (h : s.nodesOk = true) :
    s.succVec.length = s.names.length ∧ s.predVec.length = s.names.length := (nodesOk_read s h).2.2

theorem names_length (s : Store) : s.names.length = s.nodesVec.length := List.length_map ..

theorem names_inj {names : List Nat} (hn : names.Nodup) {i j x : Nat}
    (hi : names[i]? = some x) (hj : names[j]? = some x) : i = j :=
  (List.getElem?_inj (Store.getElem?_lt hi) hn).1 (hi.trans hj.symm)

theorem mem_allEdges (s : Store) (e : Edge) :
    e ∈ s.allEdges ↔ ∃ kv ∈ s.edges, e ∈ kv.2 := by
  unfold Store.allEdges
  exact List.mem_flatMap

theorem hasEdge_iff (s : Store) (he : s.edgesOk = true) (x y : Nat) :
    s.hasEdge x y = (alookup s.edges (nameKey s.specs.directed x y)).isSome :=
  Bool.eq_iff_iff.2 ((Store.hasEdge_iff s x y).trans (exists_sameKey_iff ((edgesOk_iff s).1 he) x y))

end C03
end Graphrs
