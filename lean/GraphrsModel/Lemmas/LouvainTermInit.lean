/-
  The initial bookkeeping of a level (`get_degree_information`): its degree maps are the weighted degrees of the
  specification, its `stot*` vectors start as the degrees, and the degrees of a graph without negative weights are
  non-negative.
-/
import GraphrsModel.Lemmas.LouvainTermStep
import GraphrsModel.Props.C12Weighted
namespace Graphrs
open LouvainFull
namespace LT

/-! ### non-negative weights -/

/-- a weight that is NaN or non-negative -/
def WNN (w : W) : Prop := ∀ x, w = some x → 0 ≤ x

theorem WNN_add {a b : W} (ha : WNN a) (hb : WNN b) : WNN (W.add a b) := by
  intro x hx
  cases a with
  | none => simp [W.add] at hx
  | some p =>
    cases b with
    | none => simp [W.add] at hx
    | some q =>
      simp only [W.add, Option.some.injEq] at hx
      have := ha p rfl
      have := hb q rfl
      omega

theorem ratW_nonneg {w : W} (h : WNN w) : 0 ≤ ratW w := by
  cases w with
  | none => simp [ratW]
  | some x => exact Int.cast_nonneg (h x rfl)

theorem WNN_sumW (l : List Edge) (h : ∀ e ∈ l, WNN e.w) : WNN (Abs.sumW l) := by
  induction l with
  | nil => intro x hx; rw [C12W.sumW_nil] at hx; cases hx; exact le_refl _
  | cons e l ih =>
    rw [C12W.sumW_cons]
    exact WNN_add (h e (by simp)) (ih (fun e' he' => h e' (by simp [he'])))

theorem WNN_weightedDegree (dir : Bool) (a : Abs) (h : ∀ e ∈ a.edges, WNN e.w) (x : Nat) :
    WNN (a.weightedDegree dir x) := by
  unfold Abs.weightedDegree
  split
  · exact WNN_add (WNN_sumW _ (fun e he => h e (List.mem_of_mem_filter he)))
      (WNN_sumW _ (fun e he => h e (List.mem_of_mem_filter he)))
  · exact WNN_add (WNN_sumW _ (fun e he => h e (List.mem_of_mem_filter he)))
      (WNN_sumW _ (fun e he => h e (List.mem_of_mem_filter he)))

/-! ### the degree maps -/

theorem dgOf_map_nonneg (names : List Nat) (f : Nat → W) (hf : ∀ x, WNN (f x)) (x : Nat) :
    0 ≤ dgOf ((names.map fun y => (y, f y)).map fun kv => (kv.1, ratW kv.2)) x := by
  unfold dgOf
  rw [AL.lookup_map_snd, C09M.alookup_map_self]
  split
  · simp only [Option.map_some, Option.getD_some]
    exact ratW_nonneg (hf x)
  · simp

theorem dgOf_nil (x : Nat) : dgOf [] x = 0 := rfl

theorem getR_map_range (k c : Nat) (f : Nat → Rat) (hc : c < k) : getR ((List.range k).map f) c = f c := by
  unfold getR
  simp [hc]

/-- `get_degree_information`: no panic, the shape facts `DegOK`, the `stot*` vectors start as the degrees, and all
    degrees are non-negative when no stored weight is negative -/
theorem degreeInformation_spec (g : Store) (h : g.wf = true) (k : Nat) (hnames : ∀ x, x < k → x ∈ g.names)
    (hw : ∀ e ∈ g.allEdges, WNN e.w) :
    ∃ di, degreeInformation g k = .ok di ∧ LF.DegOK g k di ∧
      (g.specs.directed = false → ∀ c, c < k → getR di.stot c = dgOf di.deg c) ∧
      (g.specs.directed = true → ∀ c, c < k → getR di.stotIn c = dgOf di.inDeg c ∧ getR di.stotOut c = dgOf di.outDeg c) ∧
      (∀ x, 0 ≤ dgOf di.deg x ∧ 0 ≤ dgOf di.inDeg x ∧ 0 ≤ dgOf di.outDeg x) := by
  have hw' : ∀ e ∈ g.abs.edges, WNN e.w := hw
  obtain ⟨di, hdi, hdeg⟩ := LF.degreeInformation_ok g h k hnames
  refine ⟨di, hdi, hdeg, ?_⟩
  cases hd : g.specs.directed
  · cases hdi.symm.trans (degreeInformation_undir g h k hnames hd)
    refine ⟨fun _ c hc => getR_map_range k c _ hc, nofun, fun x => ?_⟩
    exact ⟨dgOf_map_nonneg _ _ (fun y => WNN_weightedDegree _ g.abs hw' y) x, le_refl _, le_refl _⟩
  · cases hdi.symm.trans (degreeInformation_dir g h k hnames hd)
    refine ⟨nofun, fun _ c hc => ⟨getR_map_range k c _ hc, getR_map_range k c _ hc⟩, fun x => ?_⟩
    exact ⟨le_refl _,
      dgOf_map_nonneg _ _ (fun y => WNN_sumW _ (fun e he => hw' e (List.mem_of_mem_filter he))) x,
      dgOf_map_nonneg _ _ (fun y => WNN_sumW _ (fun e he => hw' e (List.mem_of_mem_filter he))) x⟩

end LT
end Graphrs
