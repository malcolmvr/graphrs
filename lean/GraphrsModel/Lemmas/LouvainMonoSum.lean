/-
  Edge sums.  `wsum es f = Σ_e w_e · f(e.u, e.v)` over an edge list, the per-community quantities of the modularity
  and the modularity `Qlist` of a list of communities written with it (pure algebra, no store); then, on a level graph
  without NaN weights: the degree maps of `get_degree_information` are the edge sums `degE / inE / outE`, and the
  potential `LT.Phi` of the termination proof is the modularity `Qasg` of an assignment on the level graph's edge list
  (through `C13_Phi_is_sum_of_terms` of Props/C13Termination.lean, the one property this file builds on).
-/
import GraphrsModel.Lemmas.LouvainTermAlg
import GraphrsModel.Lemmas.LouvainTermInit
import GraphrsModel.Props.C13Termination
namespace Graphrs
open LouvainFull
namespace LM

/-- `Σ_e w_e · f(e.u, e.v)` (a NaN weight counts 0; the users below exclude NaN) -/
def wsum (es : List Edge) (f : Nat → Nat → Rat) : Rat := (es.map fun e => ratW e.w * f e.u e.v).sum

theorem wsum_nil (f : Nat → Nat → Rat) : wsum [] f = 0 := rfl

theorem wsum_cons (e : Edge) (es : List Edge) (f : Nat → Nat → Rat) :
    wsum (e :: es) f = ratW e.w * f e.u e.v + wsum es f := by
  simp [wsum]

theorem wsum_append (l1 l2 : List Edge) (f : Nat → Nat → Rat) : wsum (l1 ++ l2) f = wsum l1 f + wsum l2 f := by
  simp [wsum]

theorem wsum_perm {l1 l2 : List Edge} (p : l1.Perm l2) (f : Nat → Nat → Rat) : wsum l1 f = wsum l2 f := by
  unfold wsum
  exact (p.map _).sum_eq

theorem wsum_congr {es : List Edge} {f g : Nat → Nat → Rat} (h : ∀ e ∈ es, f e.u e.v = g e.u e.v) :
    wsum es f = wsum es g := by
  unfold wsum
  congr 1
  apply List.map_congr_left
  intro e he
  rw [h e he]

theorem wsum_add (es : List Edge) (f g : Nat → Nat → Rat) :
    wsum es (fun u v => f u v + g u v) = wsum es f + wsum es g := by
  induction es with
  | nil => simp [wsum]
  | cons e es ih => rw [wsum_cons, wsum_cons, wsum_cons, ih]; ring

theorem wsum_zero (es : List Edge) : wsum es (fun _ _ => 0) = 0 := by
  induction es with
  | nil => rfl
  | cons e es ih => rw [wsum_cons, ih]; ring

theorem wsum_finset (es : List Edge) {ι : Type} (s : Finset ι) (f : ι → Nat → Nat → Rat) :
    wsum es (fun u v => ∑ i ∈ s, f i u v) = ∑ i ∈ s, wsum es (f i) := by
  induction es with
  | nil => simp [wsum]
  | cons e es ih =>
    simp only [wsum_cons]
    rw [ih, Finset.sum_add_distrib, Finset.mul_sum]

theorem wsum_ite_const (es : List Edge) (p : Prop) [Decidable p] (f : Nat → Nat → Rat) :
    wsum es (fun u v => if p then f u v else 0) = if p then wsum es f else 0 := by
  by_cases h : p
  · simp only [h, if_true]
  · simp only [h, if_false]; exact wsum_zero es

theorem wsum_map (l : List Edge) (g : Edge → Edge) (f : Nat → Nat → Rat) :
    wsum (l.map g) f = (l.map fun e => ratW (g e).w * f (g e).u (g e).v).sum := by
  unfold wsum
  rw [List.map_map]
  rfl

/-! ### indicator functions -/

/-- both endpoints in community `c` of assignment `a` -/
def indL (a : Nat → Nat) (c : Nat) : Nat → Nat → Rat := fun u v => if a u = c ∧ a v = c then 1 else 0
/-- source in community `c` -/
def indO (a : Nat → Nat) (c : Nat) : Nat → Nat → Rat := fun u _ => if a u = c then 1 else 0
/-- target in community `c` -/
def indI (a : Nat → Nat) (c : Nat) : Nat → Nat → Rat := fun _ v => if a v = c then 1 else 0
/-- endpoints in community `c`, counted with multiplicity -/
def indD (a : Nat → Nat) (c : Nat) : Nat → Nat → Rat := fun u v => indO a c u v + indI a c u v

theorem indL_symm (a : Nat → Nat) (c u v : Nat) : indL a c u v = indL a c v u := by
  unfold indL
  exact if_congr and_comm rfl rfl

theorem indD_symm (a : Nat → Nat) (c u v : Nat) : indD a c u v = indD a c v u := by
  unfold indD indO indI
  ring

theorem Lc_eq_wsum (es : List Edge) (a : Nat → Nat) (c : Nat) : LT.Lc es a c = wsum es (indL a c) := by
  unfold LT.Lc wsum indL
  congr 1
  apply List.map_congr_left
  intro e _
  split <;> ring

/-! ### degrees as edge sums -/

/-- weighted degree of `x` (a self-loop counts twice) -/
def degE (es : List Edge) (x : Nat) : Rat := wsum es (fun u v => (if u = x then 1 else 0) + (if v = x then 1 else 0))
def outE (es : List Edge) (x : Nat) : Rat := wsum es (fun u _ => if u = x then 1 else 0)
def inE (es : List Edge) (x : Nat) : Rat := wsum es (fun _ v => if v = x then 1 else 0)

theorem sum_range_ite_eq (k : Nat) (a : Nat → Nat) (c u : Nat) (hu : u < k) :
    (∑ x ∈ Finset.range k, if a x = c then (if u = x then (1 : Rat) else 0) else 0) = if a u = c then 1 else 0 := by
  have : ∀ x ∈ Finset.range k, (if a x = c then (if u = x then (1 : Rat) else 0) else 0)
      = if u = x then (if a u = c then (1 : Rat) else 0) else 0 := by
    intro x _
    by_cases h : u = x
    · subst h; simp
    · simp [h]
  rw [Finset.sum_congr rfl this, Finset.sum_ite_eq (Finset.range k) u, if_pos (Finset.mem_range.2 hu)]

/-- summing over the nodes `x` of community `c` the edges whose selected endpoint is `x` counts the edges whose
    selected endpoint lies in `c` -/
theorem csum_sel (sel : Nat → Nat → Nat) (es : List Edge) (k : Nat) (hes : ∀ e ∈ es, sel e.u e.v < k) (a : Nat → Nat)
    (c : Nat) :
    LT.csum k a (fun x => wsum es (fun u v => if sel u v = x then 1 else 0)) c
      = wsum es (fun u v => if a (sel u v) = c then 1 else 0) := by
  unfold LT.csum
  have h1 : ∀ x ∈ Finset.range k, (if a x = c then wsum es (fun u v => if sel u v = x then (1 : Rat) else 0) else 0)
      = wsum es (fun u v => if a x = c then (if sel u v = x then (1 : Rat) else 0) else 0) := by
    intro x _
    rw [wsum_ite_const]
  rw [Finset.sum_congr rfl h1, ← wsum_finset]
  apply wsum_congr
  intro e he
  exact sum_range_ite_eq k a c (sel e.u e.v) (hes e he)

theorem csum_outE (es : List Edge) (k : Nat) (hes : ∀ e ∈ es, e.u < k ∧ e.v < k) (a : Nat → Nat) (c : Nat) :
    LT.csum k a (outE es) c = wsum es (indO a c) :=
  csum_sel (fun u _ => u) es k (fun e he => (hes e he).1) a c

theorem csum_inE (es : List Edge) (k : Nat) (hes : ∀ e ∈ es, e.u < k ∧ e.v < k) (a : Nat → Nat) (c : Nat) :
    LT.csum k a (inE es) c = wsum es (indI a c) :=
  csum_sel (fun _ v => v) es k (fun e he => (hes e he).2) a c

theorem degE_eq (es : List Edge) (x : Nat) : degE es x = outE es x + inE es x := by
  unfold degE outE inE
  rw [← wsum_add]

theorem csum_add (k : Nat) (a : Nat → Nat) (p q : Nat → Rat) (c : Nat) :
    LT.csum k a (fun x => p x + q x) c = LT.csum k a p c + LT.csum k a q c := by
  unfold LT.csum
  rw [← Finset.sum_add_distrib]
  apply Finset.sum_congr rfl
  intro x _
  split <;> ring

theorem csum_degE (es : List Edge) (k : Nat) (hes : ∀ e ∈ es, e.u < k ∧ e.v < k) (a : Nat → Nat) (c : Nat) :
    LT.csum k a (degE es) c = wsum es (indD a c) := by
  have : degE es = fun x => outE es x + inE es x := funext (degE_eq es)
  rw [this, csum_add, csum_outE es k hes, csum_inE es k hes]
  unfold indD
  rw [wsum_add]

theorem csum_congr_fun {k : Nat} (a : Nat → Nat) {p q : Nat → Rat} (h : ∀ x, x < k → p x = q x) (c : Nat) :
    LT.csum k a p c = LT.csum k a q c := by
  unfold LT.csum
  apply Finset.sum_congr rfl
  intro x hx
  rw [h x (Finset.mem_range.1 hx)]

/-! ### the modularity term of one community, as a function of three edge sums -/

/-- `L/m − γ·O·I/m²` (directed) resp. `L/m − γ·((O+I)/2m)²` (undirected) -/
def term (dir : Bool) (m res L O I : Rat) : Rat :=
  if dir then Louvain.termDirected m res L O I else Louvain.termUndirected m res L (O + I)

theorem term_zero (dir : Bool) (m res : Rat) : term dir m res 0 0 0 = 0 := by
  unfold term Louvain.termDirected Louvain.termUndirected
  split <;> simp

/-- membership indicators of a list of nodes -/
def inL (p : List Nat) : Nat → Nat → Rat := fun u v => if u ∈ p ∧ v ∈ p then 1 else 0
def inO (p : List Nat) : Nat → Nat → Rat := fun u _ => if u ∈ p then 1 else 0
def inI (p : List Nat) : Nat → Nat → Rat := fun _ v => if v ∈ p then 1 else 0

/-- the modularity term of the community `p` (a list of nodes) on the edge list `es` -/
def T (dir : Bool) (es : List Edge) (m res : Rat) (p : List Nat) : Rat :=
  term dir m res (wsum es (inL p)) (wsum es (inO p)) (wsum es (inI p))

theorem T_nil (dir : Bool) (es : List Edge) (m res : Rat) : T dir es m res [] = 0 := by
  unfold T inL inO inI
  simp only [List.not_mem_nil, false_and, if_false]
  rw [wsum_zero]
  exact term_zero dir m res

/-- the modularity of a list of communities: the sum of their terms -/
def Qlist (dir : Bool) (es : List Edge) (m res : Rat) (P : List (List Nat)) : Rat :=
  (P.map (T dir es m res)).sum

theorem Qlist_filter (dir : Bool) (es : List Edge) (m res : Rat) (P : List (List Nat)) :
    Qlist dir es m res (P.filter (!·.isEmpty)) = Qlist dir es m res P := by
  unfold Qlist
  induction P with
  | nil => rfl
  | cons p P ih =>
    cases p with
    | nil => simp only [List.filter_cons, List.isEmpty_nil, Bool.not_true, Bool.false_eq_true, if_false, List.map_cons,
        List.sum_cons, T_nil, zero_add]; exact ih
    | cons x xs => simp only [List.filter_cons, List.isEmpty_cons, Bool.not_false, if_true, List.map_cons, List.sum_cons, ih]

theorem sum_map_range {α : Type} (l : List α) (d : α) (f : α → Rat) :
    (l.map f).sum = ∑ i ∈ Finset.range l.length, f (l[i]?.getD d) := by
  induction l with
  | nil => simp
  | cons x l ih =>
    rw [List.map_cons, List.sum_cons, List.length_cons, Finset.sum_range_succ', ih]
    simp only [List.getElem?_cons_succ, List.getElem?_cons_zero, Option.getD_some]
    ring

theorem Qlist_range (dir : Bool) (es : List Edge) (m res : Rat) (P : List (List Nat)) :
    Qlist dir es m res P = ∑ c ∈ Finset.range P.length, T dir es m res (P[c]?.getD []) :=
  sum_map_range P [] _

/-- the modularity of the assignment `a` of the nodes of `es` to community ids `< k` -/
def Qasg (dir : Bool) (es : List Edge) (k : Nat) (m res : Rat) (a : Nat → Nat) : Rat :=
  ∑ c ∈ Finset.range k, term dir m res (wsum es (indL a c)) (wsum es (indO a c)) (wsum es (indI a c))

/-! ### the degree maps of a level graph are edge sums -/

/-- no stored weight is NaN -/
def NoNaN (es : List Edge) : Prop := ∀ e ∈ es, e.w ≠ none

theorem ratW_add_some (a b : Int) : ratW (W.add (some a) (some b)) = ratW (some a) + ratW (some b) := by
  simp [W.add, ratW]

theorem sumW_some (l : List Edge) (h : NoNaN l) :
    ∃ z : Int, Abs.sumW l = some z ∧ (z : Rat) = (l.map fun e => ratW e.w).sum := by
  induction l with
  | nil => exact ⟨0, rfl, by simp⟩
  | cons e l ih =>
    obtain ⟨z, hz, hz'⟩ := ih (fun e' he' => h e' (List.mem_cons_of_mem _ he'))
    cases hw : e.w with
    | none => exact absurd hw (h e List.mem_cons_self)
    | some x =>
      refine ⟨x + z, ?_, ?_⟩
      · rw [C12W.sumW_cons, hz, hw]; rfl
      · rw [List.map_cons, List.sum_cons, ← hz', hw]
        simp only [ratW]
        push_cast
        ring

theorem ratW_sumW (l : List Edge) (h : NoNaN l) : ratW (Abs.sumW l) = (l.map fun e => ratW e.w).sum := by
  obtain ⟨z, hz, hz'⟩ := sumW_some l h
  rw [hz, ← hz']
  rfl

theorem ratW_add_sumW (l1 l2 : List Edge) (h1 : NoNaN l1) (h2 : NoNaN l2) :
    ratW (W.add (Abs.sumW l1) (Abs.sumW l2)) = (l1.map fun e => ratW e.w).sum + (l2.map fun e => ratW e.w).sum := by
  obtain ⟨z1, hz1, hz1'⟩ := sumW_some l1 h1
  obtain ⟨z2, hz2, hz2'⟩ := sumW_some l2 h2
  rw [hz1, hz2, ratW_add_some, ← hz1', ← hz2']
  rfl

theorem NoNaN.filter {l : List Edge} (h : NoNaN l) (p : Edge → Bool) : NoNaN (l.filter p) :=
  fun e he => h e (List.mem_of_mem_filter he)

/-- a filtered weight sum as a `wsum` -/
theorem filter_sum_wsum (es : List Edge) (p : Edge → Bool) (P : Nat → Nat → Prop) [∀ u v, Decidable (P u v)]
    (hp : ∀ e, p e = true ↔ P e.u e.v) :
    ((es.filter p).map fun e => ratW e.w).sum = wsum es (fun u v => if P u v then 1 else 0) := by
  rw [Bc.sum_filter_ite]
  unfold wsum
  congr 1
  apply List.map_congr_left
  intro e _
  show (if p e = true then ratW e.w else 0) = ratW e.w * (if P e.u e.v then 1 else 0)
  by_cases h : P e.u e.v
  · rw [if_pos ((hp e).2 h), if_pos h]; ring
  · rw [if_neg (fun hc => h ((hp e).1 hc)), if_neg h]; ring

theorem outSum_eq (es : List Edge) (x : Nat) :
    ((es.filter (·.u == x)).map fun e => ratW e.w).sum = outE es x := by
  unfold outE
  exact filter_sum_wsum es _ (fun u _ => u = x) (fun e => by simp)

theorem inSum_eq (es : List Edge) (x : Nat) :
    ((es.filter (·.v == x)).map fun e => ratW e.w).sum = inE es x := by
  unfold inE
  exact filter_sum_wsum es _ (fun _ v => v = x) (fun e => by simp)

/-- the undirected weighted degree of the abstract graph is `degE` -/
theorem ratW_weightedDegree_undir (a : Abs) (h : NoNaN a.edges) (x : Nat) :
    ratW (a.weightedDegree false x) = degE a.edges x := by
  simp only [Abs.weightedDegree, Bool.false_eq_true, if_false, Abs.touching]
  rw [ratW_add_sumW _ _ (h.filter _) (h.filter _), C09M.sum_filter_or_and, degE_eq, inSum_eq, outSum_eq]
  ring

theorem ratW_in (a : Abs) (h : NoNaN a.edges) (x : Nat) : ratW (Abs.sumW (a.inEdges x)) = inE a.edges x := by
  unfold Abs.inEdges
  rw [ratW_sumW _ (h.filter _), inSum_eq]

theorem ratW_out (a : Abs) (h : NoNaN a.edges) (x : Nat) : ratW (Abs.sumW (a.outEdges x)) = outE a.edges x := by
  unfold Abs.outEdges
  rw [ratW_sumW _ (h.filter _), outSum_eq]

theorem dgOf_degList (g : Store) (f : Nat → W) (x : Nat) (hx : x ∈ g.names) :
    LT.dgOf (LT.degList g f) x = ratW (f x) := by
  unfold LT.dgOf LT.degList
  rw [AL.lookup_map_snd, C09M.alookup_map_self, if_pos hx]
  rfl

/-- **the potential of a level is the modularity of the assignment on the level graph's edge list** -/
theorem Phi_eq_Qasg {lv : Level} {n k : Nat} (hg : LF.GoodLevel lv n k) (hwf : lv.g.wf = true)
    (hnan : NoNaN lv.g.allEdges) (m res : Rat) (a : Nat → Nat) (ha : ∀ x, x < k → a x < k)
    (di : DegInfo) (hdi : degreeInformation lv.g k = .ok di) :
    LT.Phi lv k m res di.deg di.inDeg di.outDeg a = Qasg lv.g.specs.directed lv.g.allEdges k m res a := by
  have hnames : ∀ x, x < k → x ∈ lv.g.names := fun x hx => (hg.names_iff x).2 hx
  have hes := LT.edges_lt hg hwf
  have hnan' : NoNaN lv.g.abs.edges := hnan
  obtain ⟨hU, hD⟩ := C13_Phi_is_sum_of_terms hg hwf m res di.deg di.inDeg di.outDeg a ha
  cases hd : lv.g.specs.directed
  · rw [hU hd]
    unfold Qasg
    apply Finset.sum_congr rfl
    intro c _
    have hdi' : di = LT.diUndir lv.g k := by
      have := LT.degreeInformation_undir lv.g hwf k hnames hd
      rw [hdi] at this
      cases this
      rfl
    have hdeg : ∀ x, x < k → LT.dgOf di.deg x = degE lv.g.allEdges x := by
      intro x hx
      rw [hdi']
      simp only [LT.diUndir]
      rw [dgOf_degList _ _ _ (hnames x hx), hd]
      exact ratW_weightedDegree_undir lv.g.abs hnan' x
    rw [csum_congr_fun a hdeg c, csum_degE _ k hes, Lc_eq_wsum]
    -- undirected: only the sum of out- and in-weight (`indD`) enters `termUndirected`
    unfold term indD
    rw [wsum_add]
    simp
  · rw [hD hd]
    unfold Qasg
    apply Finset.sum_congr rfl
    intro c _
    have hdi' : di = LT.diDir lv.g k := by
      have := LT.degreeInformation_dir lv.g hwf k hnames hd
      rw [hdi] at this
      cases this
      rfl
    have hin : ∀ x, x < k → LT.dgOf di.inDeg x = inE lv.g.allEdges x := by
      intro x hx
      rw [hdi']
      simp only [LT.diDir]
      rw [dgOf_degList _ _ _ (hnames x hx)]
      exact ratW_in lv.g.abs hnan' x
    have hout : ∀ x, x < k → LT.dgOf di.outDeg x = outE lv.g.allEdges x := by
      intro x hx
      rw [hdi']
      simp only [LT.diDir]
      rw [dgOf_degList _ _ _ (hnames x hx)]
      exact ratW_out lv.g.abs hnan' x
    rw [csum_congr_fun a hin c, csum_congr_fun a hout c, csum_inE _ k hes, csum_outE _ k hes, Lc_eq_wsum]
    unfold term
    simp

end LM
end Graphrs
