/-
  The real instance of the scalar record `CScalar` (GraphrsModel/CScalar.lean) and the arithmetic facts about it that
  Props/C11Weighted.lean needs: the real cube root is multiplicative, sums are `List.sum`, `fmaxG` is `max`.
  Namespace `C11W` (weighted clustering over ℝ); `R` abbreviates `realCScalar`.
-/
import GraphrsModel.Model.Cluster
import GraphrsModel.Spec.Cluster
import Mathlib.Analysis.SpecialFunctions.Pow.Real
import Mathlib.Data.Sign.Basic
import Mathlib.Tactic.Ring
namespace Graphrs
namespace C11W

/-- the (odd) real cube root: `sign x * |x| ^ (1/3)`, what `f64::cbrt` rounds -/
noncomputable def rcbrt (x : ℝ) : ℝ := (SignType.sign x : ℝ) * |x| ^ ((1 : ℝ) / 3)

theorem rcbrt_of_nonneg {x : ℝ} (hx : 0 ≤ x) : rcbrt x = x ^ ((1 : ℝ) / 3) := by
  rcases hx.eq_or_lt with h | h
  · rw [← h, rcbrt, abs_zero, Real.zero_rpow (one_div_ne_zero three_ne_zero), mul_zero]
  · rw [rcbrt, sign_pos h, abs_of_pos h, SignType.coe_one, one_mul]

theorem rcbrt_mul (x y : ℝ) : rcbrt (x * y) = rcbrt x * rcbrt y := by
  unfold rcbrt
  rw [sign_mul, abs_mul, Real.mul_rpow (abs_nonneg x) (abs_nonneg y), SignType.coe_mul]
  exact mul_mul_mul_comm _ _ _ _

theorem rcbrt_pow_three (x : ℝ) : rcbrt x ^ 3 = x := by
  have h3 : (|x| ^ ((1 : ℝ) / 3)) ^ 3 = |x| := by
    have := Real.rpow_inv_natCast_pow (abs_nonneg x) (n := 3) (Nat.succ_ne_zero 2)
    rwa [Nat.cast_ofNat, ← one_div] at this
  rw [rcbrt, mul_pow, h3]
  rcases lt_trichotomy x 0 with h | rfl | h
  · rw [sign_neg h, abs_of_neg h, SignType.coe_neg_one]; ring
  · rw [abs_zero, mul_zero]
  · rw [sign_pos h, abs_of_pos h, SignType.coe_one, one_pow, one_mul]

theorem rcbrt_nonneg {x : ℝ} (hx : 0 ≤ x) : 0 ≤ rcbrt x := by
  rw [rcbrt_of_nonneg hx]; exact Real.rpow_nonneg hx _

theorem rcbrt_le_one {x : ℝ} (hx : 0 ≤ x) (h1 : x ≤ 1) : rcbrt x ≤ 1 := by
  rw [rcbrt_of_nonneg hx]; exact Real.rpow_le_one hx h1 (by norm_num)

/-- Exact real arithmetic.  `nan` (the value of a missing weight) has no real counterpart; the theorems assume that every
    edge carries a weight, so it is never consulted; it is set to `0`. -/
noncomputable def realCScalar : CScalar ℝ where
  zero := 0
  one := 1
  two := 2
  nan := 0
  add := (· + ·)
  sub := (· - ·)
  mul := (· * ·)
  div := (· / ·)
  cbrt := rcbrt
  abs := fun a => |a|
  lt := fun a b => decide (a < b)
  isZero := fun a => decide (a = 0)
  isNaN := fun _ => false
  ofNat := fun n => (n : ℝ)
  ofInt := fun z => (z : ℝ)

noncomputable abbrev R := realCScalar

theorem csumG_real (l : List ℝ) : Store.csumG R l = l.sum := List.sum_eq_foldl.symm

theorem ssumG_real (l : List ℝ) : Abs.ssumG R l = l.sum := List.sum_eq_foldl.symm

theorem fmaxG_real (a b : ℝ) : Store.fmaxG R a b = max a b := by
  show (if decide (b < a) = true then a else if decide (a < b) = true then b else if false = true then b else a) = _
  simp only [decide_eq_true_eq, Bool.false_eq_true, if_false]
  by_cases h1 : b < a
  · rw [if_pos h1, max_eq_left h1.le]
  · rw [if_neg h1]
    by_cases h2 : a < b
    · rw [if_pos h2, max_eq_right h2.le]
    · rw [if_neg h2]
      have : a = b := le_antisymm (not_lt.1 h1) (not_lt.1 h2)
      rw [this, max_self]

theorem foldl_max_cast (ws : List Int) (w : Int) :
    (ws.map fun z : Int => (z : ℝ)).foldl (Store.fmaxG R) (w : ℝ) = ((ws.foldl max w : Int) : ℝ) := by
  induction ws generalizing w with
  | nil => rfl
  | cons a ws ih =>
    rw [List.map_cons, List.foldl_cons, List.foldl_cons, fmaxG_real, ← Int.cast_max, ih]

theorem le_foldl_max (ws : List Int) (w : Int) : w ≤ ws.foldl max w ∧ ∀ x ∈ ws, x ≤ ws.foldl max w := by
  induction ws generalizing w with
  | nil => exact ⟨le_rfl, fun x hx => absurd hx List.not_mem_nil⟩
  | cons a ws ih =>
    rw [List.foldl_cons]
    have := ih (max w a)
    refine ⟨le_trans (le_max_left w a) this.1, ?_⟩
    intro x hx
    rcases List.mem_cons.1 hx with rfl | hx
    · exact le_trans (le_max_right w x) this.1
    · exact this.2 x hx

end C11W
end Graphrs
