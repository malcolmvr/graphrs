/-
  Folds in the `Outcome` monad whose step is `do let a ← acc; h a x` (every per-item loop of the shortest-path API:
  `convert_shortest_path_info_vec_to_t_map`, `multi_source`, `all_pairs`), and such folds that insert one binding per item.
  Namespace `C08F`: the fold lemmas of C08.
-/
import GraphrsModel.Lemmas.AList
import GraphrsModel.Lemmas.Outcome
namespace Graphrs
namespace C08F

/-- the fold `foldl (fun acc x => do let a ← acc; h a x) (.ok b) l` succeeded with `r` -/
def foldRel {α β : Type} (h : β → α → Outcome β) : β → List α → β → Prop
  | b, [], r => r = b
  | b, x :: xs, r => ∃ b', h b x = .ok b' ∧ foldRel h b' xs r

theorem foldl_ok_iff {α β : Type} (h : β → α → Outcome β) (l : List α) : ∀ (b r : β),
    l.foldl (fun acc x => Outcome.bind acc (fun a => h a x)) (.ok b) = .ok r ↔ foldRel h b l r := by
  induction l with
  | nil =>
    intro b r
    simp only [List.foldl_nil, foldRel, Outcome.ok.injEq]
    exact eq_comm
  | cons x xs ih =>
    intro b r
    rw [Outcome.foldl_bind_cons]
    exact exists_congr fun b' => and_congr_right fun _ => ih b' r

theorem foldl_ok_init {α β : Type} (h : β → α → Outcome β) (l : List α) (init : Outcome β) (r : β)
    (hr : l.foldl (fun acc x => Outcome.bind acc (fun a => h a x)) init = .ok r) : ∃ b, init = .ok b :=
  Outcome.foldl_ok_source _ (fun _ _ _ hb => (Outcome.bind_eq_ok.1 hb).imp fun _ h => h.1) l init r hr

theorem foldRel_exists {α β : Type} (h : β → α → Outcome β) (l : List α)
    (hall : ∀ x ∈ l, ∀ b, ∃ b', h b x = .ok b') : ∀ b, ∃ r, foldRel h b l r := by
  induction l with
  | nil => intro b; exact ⟨b, rfl⟩
  | cons x xs ih =>
    intro b
    obtain ⟨b', hb'⟩ := hall x (List.mem_cons_self ..) b
    obtain ⟨r, hr⟩ := ih (fun y hy => hall y (List.mem_cons_of_mem _ hy)) b'
    exact ⟨r, b', hb', hr⟩

theorem foldRel_steps {α β : Type} (h : β → α → Outcome β) (l : List α) : ∀ b r, foldRel h b l r →
    ∀ x ∈ l, ∃ b1 b2, h b1 x = .ok b2 := by
  induction l with
  | nil => intro b r _ x hx; simp at hx
  | cons y ys ih =>
    intro b r hr x hx
    obtain ⟨b', hb', hr'⟩ := hr
    rw [List.mem_cons] at hx
    rcases hx with e | hx
    · subst e; exact ⟨b, b', hb'⟩
    · exact ih b' r hr' x hx

theorem foldRel_snoc {α γ : Type} (h : List γ → α → Outcome (List γ)) (P : α → Prop) (f : α → γ)
    (hstep : ∀ l x l', h l x = .ok l' ↔ P x ∧ l' = l ++ [f x]) (xs : List α) : ∀ b r,
    foldRel h b xs r ↔ (∀ x ∈ xs, P x) ∧ r = b ++ xs.map f := by
  induction xs with
  | nil => intro b r; simp [foldRel]
  | cons x xs ih =>
    intro b r
    simp only [foldRel, hstep, ih, List.forall_mem_cons, List.map_cons]
    constructor
    · rintro ⟨_, ⟨h1, rfl⟩, h2, rfl⟩
      exact ⟨⟨h1, h2⟩, by rw [List.append_assoc]; rfl⟩
    · rintro ⟨⟨h1, h2⟩, rfl⟩
      exact ⟨_, ⟨h1, rfl⟩, h2, by rw [List.append_assoc]; rfl⟩

theorem foldRel_insert {α ν : Type} (h : List (Nat × ν) → α → Outcome (List (Nat × ν))) (key : α → Nat)
    (P : α → ν → Prop)
    (hstep : ∀ b x b', h b x = .ok b' → ∃ v, P x v ∧ b' = ainsert b (key x) v) (l : List α) :
    ∀ b r, foldRel h b l r →
      (∀ k, (alookup r k).isSome = (l.any (fun x => key x == k) || (alookup b k).isSome)) ∧
      (∀ k v, alookup r k = some v → (∃ x ∈ l, key x = k ∧ P x v) ∨ alookup b k = some v) ∧
      ((b.map (·.1)).Nodup → (r.map (·.1)).Nodup) := by
  induction l with
  | nil =>
    intro b r hr
    simp only [foldRel] at hr
    subst hr
    refine ⟨fun k => by simp, fun k v hv => Or.inr hv, fun hn => hn⟩
  | cons x xs ih =>
    intro b r hr
    obtain ⟨b', hb', hr'⟩ := hr
    obtain ⟨v0, hP, e⟩ := hstep b x b' hb'
    subst e
    obtain ⟨i1, i2, i3⟩ := ih _ r hr'
    refine ⟨?_, ?_, ?_⟩
    · intro k
      rw [i1 k, AL.lookup_insert, List.any_cons]
      by_cases hk : key x = k
      · simp [hk]
      · have : (key x == k) = false := by simpa using hk
        simp [hk, this]
    · intro k v hv
      rcases i2 k v hv with ⟨y, hy, e1, e2⟩ | hb
      · exact Or.inl ⟨y, List.mem_cons_of_mem _ hy, e1, e2⟩
      · rw [AL.lookup_insert] at hb
        by_cases hk : key x = k
        · rw [if_pos hk] at hb
          cases hb
          exact Or.inl ⟨x, List.mem_cons_self .., hk, hP⟩
        · rw [if_neg hk] at hb
          exact Or.inr hb
    · intro hn
      exact i3 (AL.nodup_insert hn _ _)

end C08F
end Graphrs
